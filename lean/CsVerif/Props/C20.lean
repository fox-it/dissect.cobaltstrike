import CsVerif.Lemmas.C20
/-! C20: `xor`, NetBIOS and `pack`/`unpack` round trips with their failure conditions; the stager URI classifiers. -/
namespace C20

theorem xor_length (d k : Bytes) : (xor d k).length = d.length := length_xor d k

theorem xor_involutive (d k : Bytes) : xor (xor d k) k = d := xor_xor d k

theorem xor_identity (d k : Bytes) (h : ∀ b ∈ k, b = 0) : xor d k = d := by
  unfold xor
  have : k.all (· == 0) = true := by simpa using h
  simp [this]

/-- The big-integer formulation used by `utils.xor` computes exactly the byte-wise model. -/
theorem xorBig_eq_xor (d k : Bytes) : xorBig d k = xor d k := by
  unfold xorBig xor
  split
  · rfl
  · rename_i hz
    have hk : k ≠ [] := by rintro rfl; simp at hz
    have hlen := tile_length k d.length hk
    rw [toLE_xor_fromLE d _ hlen.symm]
    apply List.ext_getElem
    · simp [xorCore, hlen]
    · intro i h1 h2
      simp only [List.getElem_zipWith, xorCore, List.getElem_mapIdx]
      rw [tile_getElem k d.length i hk]

theorem netbios_decode_encode (data : Bytes) (off : Int) (e : Bytes)
    (h : netbiosEncode data off = .ok e) : netbiosDecode e off = .ok data := by
  induction data generalizing e with
  | nil =>
    simp [netbiosEncode, nbEncodeInts, bytesOfInts] at h
    subst h; rfl
  | cons c cs ih =>
    simp only [netbiosEncode, nbEncodeInts, List.flatMap_cons, List.cons_append, List.nil_append] at h
    obtain ⟨h0, h1, e1, he1, rfl⟩ := bytesOfInts_cons_ok h
    obtain ⟨h2, h3, e2, he2, rfl⟩ := bytesOfInts_cons_ok he1
    have ih' := ih e2 (by simpa [netbiosEncode, nbEncodeInts] using he2)
    unfold netbiosDecode at ih' ⊢
    simp only [nbDecodeInts]
    cases hd : nbDecodeInts e2 off with
    | error x => simp [hd] at ih'
    | ok vs =>
      simp only [hd] at ih'
      simp only [Except.map, bytesOfInts]
      rw [toNat_ofNat_toNat h0 h1, toNat_ofNat_toNat h2 h3]
      have hv : (((c.toNat / 16 : Nat) : Int) + off - off) * 16 + (((c.toNat % 16 : Nat) : Int) + off - off) = (c.toNat : Int) := by omega
      rw [hv, ih']
      have hc := c.toNat_lt
      simp
      omega

/-- NetBIOS encoding succeeds for every data whenever `0 ≤ offset ≤ 240`. -/
theorem netbios_encode_total (data : Bytes) (off : Int) (h0 : 0 ≤ off) (h1 : off ≤ 240) :
    ∃ e, netbiosEncode data off = .ok e := by
  induction data with
  | nil => exact ⟨[], rfl⟩
  | cons c cs ih =>
    obtain ⟨e, he⟩ := ih
    have hc := c.toNat_lt
    simp only [netbiosEncode, nbEncodeInts, List.flatMap_cons, List.cons_append, List.nil_append, bytesOfInts] at he ⊢
    rw [if_pos (by omega), if_pos (by omega), he]
    exact ⟨_, rfl⟩

/-- Full round trip at the two offsets the library uses and any other admissible one. -/
theorem netbios_roundtrip (data : Bytes) (off : Int) (h0 : 0 ≤ off) (h1 : off ≤ 240) :
    (netbiosEncode data off).bind (netbiosDecode · off) = .ok data := by
  obtain ⟨e, he⟩ := netbios_encode_total data off h0 h1
  rw [he]; exact netbios_decode_encode data off e he

theorem fromBytes_toBytes (o : Order) (sg : Bool) (size : Nat) (n : Int) (b : Bytes)
    (hq : ¬ (size = 0 ∧ n = -1)) (h : toBytes o sg size n = .ok b) : fromBytes o sg b = n := by
  unfold toBytes at h
  cases sg with
  | false =>
    simp only [Bool.false_eq_true, ↓reduceIte] at h
    split at h
    · rename_i hr
      injection h with h; subst h
      simp only [fromBytes, Bool.false_eq_true, false_and, ↓reduceIte]
      rw [fromBytesU_toBytesU _ _ _ (by omega)]
      omega
    · cases h
  | true =>
    simp only [↓reduceIte] at h
    rw [if_neg hq] at h
    split at h
    · rename_i hr
      injection h with h; subst h
      simp only [fromBytes, toBytesU_length, true_and]
      rcases Nat.eq_zero_or_pos size with rfl | hs
      · have : n = 0 := by simp at hr; omega
        subst this
        simp [fromBytesU_toBytesU]
      · obtain ⟨u, hu, hlt, hdec⟩ := twos_encode_decode (pow256_even size hs) hr
        rw [hu, fromBytesU_toBytesU _ _ _ hlt]
        simpa only [hs, true_and] using hdec
    · cases h

theorem toBytes_fromBytes (o : Order) (sg : Bool) (d : Bytes) :
    toBytes o sg d.length (fromBytes o sg d) = .ok d := by
  have hlt := fromBytesU_lt o d
  have hrt := toBytesU_fromBytesU o d
  unfold toBytes fromBytes
  cases sg with
  | false =>
    simp only [Bool.false_eq_true, false_and, ↓reduceIte]
    rw [if_pos (by omega)]
    simp [hrt]
  | true =>
    simp only [true_and, ↓reduceIte]
    rcases Nat.eq_zero_or_pos d.length with hs | hs
    · have : d = [] := List.length_eq_zero_iff.mp hs
      subst this
      cases o <;> rfl
    · obtain ⟨n, hn, hr, henc⟩ := twos_decode_encode (pow256_even d.length hs) hlt
      simp only [hs, true_and, hn]
      rw [if_neg (by omega), if_pos hr, henc, hrt]

/-- `unpack(pack(n, size), size) = n` whenever `pack` does not overflow (every width, order, signedness). -/
theorem unpack_pack (n : Int) (size : Option Nat) (o : Order) (sg : Bool) (b : Bytes)
    (hq : ¬ (size = some 0 ∧ n = -1)) (h : pack n size o sg = .ok b) : unpack b none o sg = n ∧ unpack b (some b.length) o sg = n := by
  unfold pack at h
  have hq' : ¬ ((match size with | some s => s | none => (bitLength n + 7) / 8) = 0 ∧ n = -1) := by
    cases size with
    | some s => simpa using hq
    | none => rintro ⟨h0, rfl⟩; revert h0; decide
  have := fromBytes_toBytes o sg _ n b hq' h
  simp [unpack, pySliceTo, this]

/-- `pack(unpack(d), len(d)) = d` for every byte string. -/
theorem pack_unpack (d : Bytes) (o : Order) (sg : Bool) :
    pack (unpack d none o sg) (some d.length) o sg = .ok d := by
  simp [pack, unpack, pySliceTo, toBytes_fromBytes]

/-- `pack` raises OverflowError exactly outside the representable range. -/
theorem pack_overflow_iff (n : Int) (size : Nat) (o : Order) (sg : Bool) (hq : ¬ (size = 0 ∧ n = -1)) :
    pack n (some size) o sg = .error .overflowError ↔
      ¬ (if sg then -((256 ^ size / 2 : Nat) : Int) ≤ n ∧ n < ((256 ^ size : Nat) : Int) - ((256 ^ size / 2 : Nat) : Int)
         else 0 ≤ n ∧ n < ((256 ^ size : Nat) : Int)) := by
  unfold pack toBytes
  cases sg <;> simp [hq] <;> split <;> simp_all

/-- The one excluded point is a CPython quirk, stated explicitly: `(-1).to_bytes(0, signed=True) == b''`. -/
theorem pack_width0_quirk (o : Order) : pack (-1) (some 0) o true = .ok [] ∧ unpack [] none o true = 0 := by
  cases o <;> decide

theorem isStagerX86_iff (t : Txt) :
    isStagerX86 t = true ↔ 4 ≤ t.length ∧ (t.filter (· ≠ 47)).sum % 256 = 92 := by
  unfold isStagerX86 checksum8
  split <;> simp <;> omega

theorem isStagerX64_iff (t : Txt) :
    isStagerX64 t = true ↔
      (t.filter (· ≠ 47)).sum % 256 = 93 ∧
      ∃ a b c d, isAlnum a ∧ isAlnum b ∧ isAlnum c ∧ isAlnum d ∧
        (t = [47, a, b, c, d] ∨ t = [47, a, b, c, d, 10]) := by
  unfold isStagerX64 checksum8
  constructor
  · intro h
    simp only [Bool.and_eq_true, beq_iff_eq] at h
    obtain ⟨hc, hs⟩ := h
    unfold matchX64Shape at hs
    split at hs
    · simp only [Bool.and_eq_true, beq_iff_eq] at hs
      rename_i s a b c d
      obtain ⟨⟨⟨⟨rfl, ha⟩, hb⟩, hcc⟩, hd⟩ := hs
      simp at hc
      exact ⟨by simpa using hc, a, b, c, d, ha, hb, hcc, hd, Or.inl rfl⟩
    · simp only [Bool.and_eq_true, beq_iff_eq] at hs
      rename_i s a b c d nl
      obtain ⟨⟨⟨⟨⟨rfl, ha⟩, hb⟩, hcc⟩, hd⟩, rfl⟩ := hs
      simp at hc
      exact ⟨by simpa using hc, a, b, c, d, ha, hb, hcc, hd, Or.inr rfl⟩
    · cases hs
  · rintro ⟨hc, a, b, c, d, ha, hb, hcc, hd, rfl | rfl⟩
    · simp [matchX64Shape, ha, hb, hcc, hd]; simpa using hc
    · simp [matchX64Shape, ha, hb, hcc, hd]; simpa using hc

theorem randomStagerUri_sound (x64 : Bool) (len : Int) (cs : List Nat) (uri : Txt)
    (h : randomStagerUri x64 len cs = .ok (some uri)) :
    (if x64 then isStagerX64 uri else isStagerX86 uri) = true ∧ (uri.length : Int) = len + 1
      ∧ uri.head? = some 47 ∧ ∀ c ∈ uri.tail, c ∈ cs := by
  unfold randomStagerUri at h
  split at h
  · cases h
  · split at h
    · cases h
    · injection h with h
      obtain ⟨a, b, c, d⟩ := randomStagerUri_go_sound _ _ _ _ _ h
      exact ⟨a, by omega, c, d⟩

theorem staged_gate {α} (uri : Txt) (extract : Option α)
    (h86 : isStagerX86 uri = false) (h64 : isStagerX64 uri = false) :
    findStagedBeacon (some uri) extract = none := by
  simp [findStagedBeacon, h86, h64]

/-- For every requested length ≥ 3 an x86 stager URI over alphanumerics exists, so the generation loop can terminate. -/
theorem stager_x86_exists (n : Nat) (hn : 3 ≤ n) :
    ∃ uri : Txt, uri.length = n + 1 ∧ uri.head? = some 47 ∧ (∀ c ∈ uri.tail, isAlnum c = true) ∧ isStagerX86 uri = true := by
  -- `/`, `n - 4` fillers `'0'`, then four alphanumerics bringing the checksum to 92 (residue: 92 minus the fillers' share);
  -- length 3 has no room for four and gets the witness `/zzh`
  by_cases h3 : n = 3
  · subst h3
    exact ⟨[47, 122, 122, 104], by decide, by decide, by decide, by decide⟩
  · obtain ⟨a, b, c, d, ha, hb, hc, hd, hs⟩ :=
      four_alnum ((92 + 256 - (48 * (n - 4)) % 256) % 256) (Nat.mod_lt _ (by decide))
    have hal : ∀ x ∈ List.replicate (n - 4) 48 ++ [a, b, c, d], isAlnum x = true := by
      intro x hx
      rcases List.mem_append.mp hx with hx | hx
      · rw [List.eq_of_mem_replicate hx]; rfl
      · simp only [List.mem_cons, List.not_mem_nil, or_false] at hx
        rcases hx with rfl | rfl | rfl | rfl <;> assumption
    refine ⟨47 :: (List.replicate (n - 4) 48 ++ [a, b, c, d]), ?_, rfl, hal, ?_⟩
    · simp only [List.length_cons, List.length_append, List.length_replicate, List.length_nil]; omega
    · rw [isStagerX86_iff, List.filter_cons_of_neg (by simp), filter_alnum hal]
      refine ⟨by simp, ?_⟩
      simp only [List.sum_append, List.sum_replicate_nat, List.sum_cons, List.sum_nil, Nat.mul_comm (n - 4)]
      generalize 48 * (n - 4) = m at hs ⊢
      omega

/-- An x64 stager URI (four alphanumerics) exists. -/
theorem stager_x64_exists : ∃ uri : Txt, uri.length = 5 ∧ isStagerX64 uri = true :=
  ⟨[47, 122, 122, 57, 48], by decide, by decide⟩

/-! Non-vacuity: concrete inputs meeting the hypotheses. -/
example : xor [1, 2, 3, 4, 5] [0xff, 0] = [0xfe, 2, 0xfc, 4, 0xfa] := by decide
example : netbiosEncode [0xab, 0x01] 0x41 = .ok [0x4b, 0x4c, 0x41, 0x42] := by decide
example : pack (-2) (some 2) .big true = .ok [0xff, 0xfe] := by decide
example : pack 256 (some 1) .little false = .error .overflowError := by decide
example : isStagerX86 [47, 122, 122, 104] = true := by decide
example : randomStagerUri false 3 [48, 48, 48, 122, 122, 104] = .ok (some [47, 122, 122, 104]) := by decide
example : isStagerX86 [47, 97, 98, 99, 100] = false ∧ isStagerX64 [47, 97, 98, 99, 100] = false := by decide

end C20

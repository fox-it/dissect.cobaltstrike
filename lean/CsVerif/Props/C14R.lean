import CsVerif.Model.C14R
/-! A configuration with a setting whose pretty function raises is a value like any other: every use gives the same
result, an error included, whatever came before, because a view is cached only once `settings_map` has returned. -/
namespace C14R

/-- Invariant of every history: a rendered view is never cached (so nothing half-filled can be handed out later). -/
theorem raising_never_caches_rendered (pre : List Use) :
    ∀ v ∈ (run State.init pre).cached, v.pretty = false := by
  -- a property access caches only a view whose `pretty` flag is off
  have hview : ∀ (s : State) (v : View), (∀ w ∈ s.cached, w.pretty = false) →
      ∀ w ∈ (viewAccess s v).1.cached, w.pretty = false := by
    intro s v hs
    unfold viewAccess
    split
    · exact hs
    · split
      · exact hs
      · rename_i hp
        intro w hw
        rcases List.mem_cons.mp hw with rfl | hw
        · exact Bool.eq_false_iff.mpr hp
        · exact hs w hw
  suffices h : ∀ (s : State), (∀ v ∈ s.cached, v.pretty = false) → ∀ v ∈ (run s pre).cached, v.pretty = false from
    h State.init (fun v hv => nomatch hv)
  induction pre with
  | nil => intro s hs; exact hs
  | cons u us ih =>
    intro s hs
    apply ih
    cases u with
    | view v => exact hview s v hs
    | smap p => exact hs
    | c2http => exact hview s .settings hs
    | client => exact hview s .settings hs
    | profile => exact hview s .settingsByIndex hs

/-- Every use gives the same result after any history as on a fresh configuration – an error included. -/
theorem raising_history_independent (pre : List Use) (u : Use) :
    (step (run State.init pre) u).2 = (step State.init u).2 := by
  have hinv := raising_never_caches_rendered pre
  have key : ∀ v : View, (viewAccess (run State.init pre) v).2 = (viewAccess State.init v).2 := by
    intro v
    simp only [viewAccess, State.init, List.not_mem_nil, if_false]
    by_cases hm : v ∈ (run ⟨[]⟩ pre).cached
    · have := hinv v hm
      simp [hm, this]
    · simp only [hm, if_false]
      split <;> rfl
  cases u with
  | view v => exact key v
  | smap p => rfl
  | c2http => exact key .settings
  | client => exact key .settings
  | profile => exact key .settingsByIndex

/-- Closed form of the result: exactly the uses that render raise; the raw views and unrendered maps are mappings. -/
theorem raising_result (pre : List Use) (u : Use) :
    (step (run State.init pre) u).2 =
      (match u with
       | .view v => if v.pretty then .raises else .mapping
       | .smap p => if p then .raises else .mapping
       | .c2http | .client | .profile => .raises) := by
  rw [raising_history_independent]
  cases u with
  | view v => cases v <;> simp [step, viewAccess, State.init, View.pretty]
  | smap p => rfl
  | c2http => simp [step, viewAccess, State.init, View.pretty]
  | client => simp [step, viewAccess, State.init, View.pretty]
  | profile => simp [step, viewAccess, State.init, View.pretty]

/-- The variant that fills the slot before rendering (`viewAccessEager`, patch C14-m18) is history dependent: the second use of
`settings` returns a mapping where a fresh configuration raises. -/
theorem eager_cache_variant_history_dependent :
    (viewAccessEager (viewAccessEager State.init .settings).1 .settings).2 ≠ (viewAccessEager State.init .settings).2 := by
  decide

/-- non-vacuity: a history that mixes raw and rendered uses, with its results -/
example : outs State.init [.view .rawSettings, .c2http, .view .rawSettings, .profile, .smap false, .view .settings] =
    [.mapping, .raises, .mapping, .raises, .mapping, .raises] := by decide

end C14R

import CsVerif.Lemmas.C01
import CsVerif.Model.C08
/-! C01 — Beacon configuration extraction is exact and complete: property theorems.

Model: `Model/C01.lean` (`fromFile` = `BeaconConfig.from_file/from_bytes/from_path`, `iterConfigBlocks`,
`findConfigBytes`, scan loop over a `FileLike`).  Specification: `candidates (views data det) keys` = all
`(view, key, offset)` with `CONFIG_HEADER ⊕ key` occurring at `offset` of `view`, in (view, key priority, file order).
Parameters (see the model): `det` = answer of the XorEncoded detector (C09), `left` = order of the residual keys of the
all-keys retry, `guard` = Guardrails fallback (C17), `B` = `io.DEFAULT_BUFFER_SIZE`.
Section "end to end" discharges the three parameters: `fromFileReal` (what the driver runs) computes them, and
`extract_raw_end_to_end`, `extract_xorencoded_end_to_end`, `extract_none_end_to_end`, `extract_guardrails_end_to_end` have
hypotheses about the bytes of the payload only (C09 `detect_rejects_real` / `detect_correct_real_clean`, C17
`scan_reports_iff` / `recover_from_file_partial`); `fromFile_C08_factors` ties C08's composition to the same function. -/
namespace C01
open Gen.Extract

/-! ### generated constants are the ones the property text names -/

/-- default keys `0x69, 0x2e, 0x00` in this order, 4096-byte blocks, header `00 01 00 01 00 02 00` -/
theorem constants :
    defaultXorKeys = [[0x69], [0x2e], [0x00]] ∧ patchSize = 4096 ∧ configHeader = [0, 1, 0, 1, 0, 2, 0] := by
  decide

/-- the only fact about the detector's answer the theorems use: a view at nonce offset `c` has its 8 header bytes
inside the file (true for every successful detection: the MZ check needs 64 decoded bytes) -/
def DetOk (data : Bytes) (det : Option Nat) : Prop := ∀ c, det = some c → c + 8 ≤ data.length

/-! ### what a candidate is -/

/-- `i` is listed for `key` in `plain` iff the 7 bytes at `i` are `CONFIG_HEADER ⊕ key` (key tiled, all-zero or empty
key = identity) -/
theorem occK_iff (plain key : Bytes) (i : Nat) :
    i ∈ occK plain key ↔
      i + configHeader.length ≤ plain.length ∧ (plain.drop i).take configHeader.length = C20.xor configHeader key := by
  unfold occK
  rw [C15.occ_iff, C20.xor_length]

/-- the candidates are exactly: view ∈ {decoded view (when detected), file}, key ∈ tried keys, header ⊕ key at offset -/
theorem candidate_iff (data : Bytes) (det : Option Nat) (keys : List Bytes) (c : Cand) :
    c ∈ candidates (views data det) keys ↔
      ((c.xorencoded = true ∧ ∃ n, det = some n ∧ c.plain = decodedView data n) ∨
       (c.xorencoded = false ∧ c.plain = data)) ∧
      c.key ∈ keys ∧ c.offset ∈ occK c.plain c.key := by
  rw [candidates_views, List.mem_append]
  cases det with
  | none =>
    simp only [List.not_mem_nil, false_or, mem_candsIn, reduceCtorEq, false_and, exists_const, and_false]
    constructor
    · rintro ⟨h1, h2, h3, h4⟩
      exact ⟨⟨h1, h2⟩, h3, h2 ▸ h4⟩
    · rintro ⟨⟨h1, h2⟩, h3, h4⟩
      exact ⟨h1, h2, h3, h2 ▸ h4⟩
  | some n =>
    simp only [mem_candsIn, Option.some.injEq, exists_eq_left']
    constructor
    · rintro (⟨h1, h2, h3, h4⟩ | ⟨h1, h2, h3, h4⟩)
      · exact ⟨Or.inl ⟨h1, h2⟩, h3, h2 ▸ h4⟩
      · exact ⟨Or.inr ⟨h1, h2⟩, h3, h2 ▸ h4⟩
    · rintro ⟨⟨h1, h2⟩ | ⟨h1, h2⟩, h3, h4⟩
      · exact Or.inl ⟨h1, h2, h3, h2 ▸ h4⟩
      · exact Or.inr ⟨h1, h2, h3, h2 ▸ h4⟩

/-- the head of the candidate list is the least candidate: decoded view before the file itself, then the key that comes
first in the key list, then the smallest offset -/
theorem first_is_least (data : Bytes) (det : Option Nat) (keys : List Bytes) (c : Cand)
    (h : (candidates (views data det) keys).head? = some c) :
    c ∈ candidates (views data det) keys ∧
    ∀ c' ∈ candidates (views data det) keys,
      (c'.xorencoded = true → c.xorencoded = true) ∧
      (c'.xorencoded = c.xorencoded →
        keys.idxOf c.key ≤ keys.idxOf c'.key ∧ (c'.key = c.key → c.offset ≤ c'.offset)) := by
  refine ⟨List.mem_of_mem_head? (by rw [h]; rfl), ?_⟩
  rw [candidates_views] at h ⊢
  have raw_case : ∀ (hh : (candsIn false data keys).head? = some c), ∀ c' ∈ candsIn false data keys,
      (c'.xorencoded = true → c.xorencoded = true) ∧
      (c'.xorencoded = c.xorencoded →
        keys.idxOf c.key ≤ keys.idxOf c'.key ∧ (c'.key = c.key → c.offset ≤ c'.offset)) := by
    intro hh c' hc'
    obtain ⟨hm, hl⟩ := candsIn_head_least false data keys c hh
    have hc'f := (mem_candsIn.mp hc').1
    exact ⟨fun ht => (by rw [hc'f] at ht; cases ht), fun _ => hl c' hc'⟩
  cases det with
  | none =>
    simp only [List.nil_append] at h ⊢
    exact raw_case h
  | some n =>
    simp only at h ⊢
    cases hA : candsIn true (decodedView data n) keys with
    | nil =>
      rw [hA, List.nil_append] at h
      rw [List.nil_append]
      exact raw_case h
    | cons a as =>
      rw [hA] at h
      simp only [List.cons_append, List.head?_cons, Option.some.injEq] at h
      subst h
      have hhd : (candsIn true (decodedView data n) keys).head? = some a := by rw [hA]; rfl
      obtain ⟨hm, hl⟩ := candsIn_head_least true _ keys a hhd
      have hat := (mem_candsIn.mp hm).1
      intro c' hc'
      refine ⟨fun _ => hat, ?_⟩
      intro heq
      rcases List.mem_append.mp hc' with h1 | h1
      · rw [← hA] at h1; exact hl c' h1
      · have := (mem_candsIn.mp h1).1
        rw [heq, hat] at this; cases this

/-! ### the central equation -/

/-- `from_file` computes exactly the declarative specification, for every content, key list, mode, detector answer,
residual key order, Guardrails outcome, file kind and buffer size. -/
theorem extract_eq_spec (B : Nat) (hB : 1 ≤ B) (f : PyFile) (ks : List Bytes) (allKeys : Bool) (det : Option Nat)
    (hdet : DetOk f.data det) (left : List Bytes) (guard : Option Result) :
    fromFile B f ks allKeys det left guard = extractSpec f.data ks allKeys det left guard := by
  obtain ⟨p1, p0⟩ := pass_first B hB f (effKeys ks) det hdet
  obtain ⟨q1, q0⟩ := pass_first B hB f (effKeys left) det hdet
  simp only [fromFile, iterConfigBlocks, extractSpec]
  cases h1 : (candidates (views f.data det) (effKeys ks)).head? with
  | some c =>
    obtain ⟨ys, e, hp⟩ := p1 c h1
    rw [hp]
    cases e <;> simp
  | none =>
    rw [p0 h1]
    cases allKeys with
    | false => simp
    | true =>
      cases h2 : (candidates (views f.data det) (effKeys left)).head? with
      | some c =>
        obtain ⟨ys, e, hq⟩ := q1 c h2
        rw [hq]
        simp
      | none =>
        rw [q0 h2]
        simp

/-- **Central theorem.**  When some candidate exists under the tried keys, the result is the *least* candidate in
(view, key priority, offset) order: its block is `xor(view[i : i+4096], k)` (shorter at the end of the view), `xorkey`
is the key it was found under, `xorencoded` says whether it was found in the decoded view — wherever the block lies,
whatever surrounds it, for every buffer size. -/
theorem extract_first (B : Nat) (hB : 1 ≤ B) (f : PyFile) (ks : List Bytes) (allKeys : Bool) (det : Option Nat)
    (hdet : DetOk f.data det) (left : List Bytes) (guard : Option Result) (c : Cand)
    (hc : (candidates (views f.data det) (effKeys ks)).head? = some c) :
    fromFile B f ks allKeys det left guard
      = .ok ⟨C20.xor ((c.plain.drop c.offset).take patchSize) c.key, c.key, c.xorencoded⟩ ∧
    c ∈ candidates (views f.data det) (effKeys ks) ∧
    ∀ c' ∈ candidates (views f.data det) (effKeys ks),
      (c'.xorencoded = true → c.xorencoded = true) ∧
      (c'.xorencoded = c.xorencoded →
        (effKeys ks).idxOf c.key ≤ (effKeys ks).idxOf c'.key ∧ (c'.key = c.key → c.offset ≤ c'.offset)) := by
  refine ⟨?_, first_is_least _ _ _ c hc⟩
  rw [extract_eq_spec B hB f ks allKeys det hdet]
  simp only [extractSpec, hc]
  rfl

/-- the same for the all-keys retry: nothing under the given keys, `all_xor_keys=True`, and the least candidate with
respect to the residual key order `left` is returned -/
theorem extract_first_retry (B : Nat) (hB : 1 ≤ B) (f : PyFile) (ks : List Bytes) (det : Option Nat)
    (hdet : DetOk f.data det) (left : List Bytes) (guard : Option Result) (c : Cand)
    (hnone : candidates (views f.data det) (effKeys ks) = [])
    (hc : (candidates (views f.data det) (effKeys left)).head? = some c) :
    fromFile B f ks true det left guard
      = .ok ⟨C20.xor ((c.plain.drop c.offset).take patchSize) c.key, c.key, c.xorencoded⟩ ∧
    c ∈ candidates (views f.data det) (effKeys left) ∧
    ∀ c' ∈ candidates (views f.data det) (effKeys left),
      (c'.xorencoded = true → c.xorencoded = true) ∧
      (c'.xorencoded = c.xorencoded →
        (effKeys left).idxOf c.key ≤ (effKeys left).idxOf c'.key ∧ (c'.key = c.key → c.offset ≤ c'.offset)) := by
  refine ⟨?_, first_is_least _ _ _ c hc⟩
  rw [extract_eq_spec B hB f ks true det hdet]
  simp only [extractSpec, hnone, hc, List.head?_nil, if_true]
  rfl

/-- the same for the generator itself: the first block `iter_beacon_config_blocks` yields (if any) is the least candidate
(the later yields are compared by correspondence only: `find_beacon_config_bytes` moves the file under the running
`iter_find_needle`, so a fully consumed generator can skip or repeat later candidates) -/
theorem blocks_first_yield (B : Nat) (hB : 1 ≤ B) (f : PyFile) (ks : List Bytes) (allKeys : Bool) (det : Option Nat)
    (hdet : DetOk f.data det) (left : List Bytes) :
    (iterConfigBlocks B f ks allKeys det left).1.head? = (extractSpec f.data ks allKeys det left none).toOption := by
  have h := extract_eq_spec B hB f ks allKeys det hdet left none
  unfold fromFile at h
  rw [← h]
  generalize iterConfigBlocks B f ks allKeys det left = r
  obtain ⟨ys, e⟩ := r
  cases ys with
  | cons y ys => rfl
  | nil => cases e <;> rfl

/-! ### completeness and the negative case -/

/-- a candidate under a tried key exists ⇒ extraction succeeds, with a candidate's block (never the fallback, never an
exception) -/
theorem extract_complete (B : Nat) (hB : 1 ≤ B) (f : PyFile) (ks : List Bytes) (allKeys : Bool) (det : Option Nat)
    (hdet : DetOk f.data det) (left : List Bytes) (guard : Option Result) (c0 : Cand)
    (h : c0 ∈ candidates (views f.data det) (effKeys ks) ∨
         (allKeys = true ∧ c0 ∈ candidates (views f.data det) (effKeys left))) :
    ∃ c, fromFile B f ks allKeys det left guard = .ok c.result ∧
      (c ∈ candidates (views f.data det) (effKeys ks) ∨
       (allKeys = true ∧ c ∈ candidates (views f.data det) (effKeys left))) := by
  rw [extract_eq_spec B hB f ks allKeys det hdet]
  unfold extractSpec
  cases h1 : (candidates (views f.data det) (effKeys ks)).head? with
  | some c => exact ⟨c, rfl, Or.inl (List.mem_of_mem_head? (by rw [h1]; rfl))⟩
  | none =>
    have hnil := List.head?_eq_none_iff.mp h1
    rcases h with h | ⟨hak, h⟩
    · rw [hnil] at h; cases h
    · subst hak
      cases h2 : (candidates (views f.data det) (effKeys left)).head? with
      | some c => exact ⟨c, by simp, Or.inr ⟨rfl, List.mem_of_mem_head? (by rw [h2]; rfl)⟩⟩
      | none => rw [List.head?_eq_none_iff.mp h2] at h; cases h

/-- no candidate under the tried keys ⇒ the Guardrails outcome, and without one the documented `ValueError` -/
theorem extract_none (B : Nat) (hB : 1 ≤ B) (f : PyFile) (ks : List Bytes) (allKeys : Bool) (det : Option Nat)
    (hdet : DetOk f.data det) (left : List Bytes) (guard : Option Result)
    (h1 : candidates (views f.data det) (effKeys ks) = [])
    (h2 : allKeys = true → candidates (views f.data det) (effKeys left) = []) :
    fromFile B f ks allKeys det left guard =
      match guard with
      | some g => .ok g
      | none => .error .valueError := by
  rw [extract_eq_spec B hB f ks allKeys det hdet, extractSpec_search,
    (searchSpec_eq_none_iff f.data ks allKeys det left).mpr ⟨h1, h2⟩]
  rfl

/-- … and no other exception can come out of the extraction (no negative seek, no divergence): an error is always
`ValueError`, and only when there is neither a candidate nor a Guardrails recovery.  (This is where the defect repaired
by fc7bca0 lived: a key-`0x00` header at offset 0 made the scan report offset −1 and `from_bytes` died in `seek(-1)`.) -/
theorem extract_only_valueError (B : Nat) (hB : 1 ≤ B) (f : PyFile) (ks : List Bytes) (allKeys : Bool)
    (det : Option Nat) (hdet : DetOk f.data det) (left : List Bytes) (guard : Option Result) (e : PyExc)
    (h : fromFile B f ks allKeys det left guard = .error e) :
    e = .valueError ∧ guard = none ∧ candidates (views f.data det) (effKeys ks) = [] ∧
      (allKeys = true → candidates (views f.data det) (effKeys left) = []) := by
  rw [extract_eq_spec B hB f ks allKeys det hdet, extractSpec_search] at h
  cases hs : searchSpec f.data ks allKeys det left with
  | some c => rw [hs] at h; cases h
  | none =>
    rw [hs] at h
    cases guard with
    | some g => cases h
    | none =>
      injection h with h
      exact ⟨h.symm, rfl, (searchSpec_eq_none_iff f.data ks allKeys det left).mp hs⟩

/-- Why the theorem above rests on C15's `needle_exact` (offsets are true, hence non-negative, occurrences): the model of
`find_beacon_config_bytes` does raise as soon as the scanner hands it a negative offset — `ValueError` on a BytesIO,
`OSError` on an OS file — which is what the scanner before fix fc7bca0 did for a key-`0x00` header at the start of the
file (it reported −1). -/
theorem negative_offset_would_raise (f : PyFile) (key : Bytes) (qs : List Int) :
    (consume rawFile key (-1) (0 :: qs) f).yields = [] ∧
    (consume rawFile key (-1) (0 :: qs) f).fin = .error f.negSeekExc := by
  simp [consume, rawFile, PyFile.seekSet, Except.map]

/-! ### the settings of the returned block -/

/-- `settings_tuple` is the C02 decoding of the returned block -/
theorem settings_eq (r : Result) : settingsTuple r = C02.iterSettings r.block := rfl

/-- If the bytes at the winning candidate are a serialized well-formed settings list, a `00 00` terminator and any
padding, XORed with the key, the settings returned are exactly that list (C02 `parse_serialize`, C20 `xor_involutive`). -/
theorem extract_settings (c : Cand) (ss : List C02.Setting) (hw : C02.WellFormedList ss) (tail : Bytes)
    (hblk : (c.plain.drop c.offset).take patchSize = C20.xor (C02.serialize ss ++ [0, 0] ++ tail) c.key) :
    c.result.block = C02.serialize ss ++ [0, 0] ++ tail ∧ settingsTuple c.result = ss := by
  have hb : c.result.block = C02.serialize ss ++ [0, 0] ++ tail := by
    show C20.xor ((c.plain.drop c.offset).take patchSize) c.key = _
    rw [hblk, C20.xor_involutive]
  refine ⟨hb, ?_⟩
  rw [settings_eq, hb]
  exact (C02.parse_serialize ss hw tail).1

/-- End to end for a raw payload: a 4096-byte configuration block (settings, terminator, padding) XORed with `key`
and embedded at any offset between arbitrary bytes is returned exactly — block, key, `xorencoded = False`, settings —
provided its position is the least candidate (no earlier header under a key of higher or equal priority). -/
theorem extract_planted (B : Nat) (hB : 1 ≤ B) (f : PyFile) (ks : List Bytes) (allKeys : Bool) (left : List Bytes)
    (guard : Option Result) (key pre post tail : Bytes) (ss : List C02.Setting) (hw : C02.WellFormedList ss)
    (hlen : (C02.serialize ss ++ [0, 0] ++ tail).length = patchSize)
    (hdata : f.data = pre ++ C20.xor (C02.serialize ss ++ [0, 0] ++ tail) key ++ post)
    (hfirst : (candidates (views f.data none) (effKeys ks)).head? = some ⟨false, f.data, key, pre.length⟩) :
    fromFile B f ks allKeys none left guard = .ok ⟨C02.serialize ss ++ [0, 0] ++ tail, key, false⟩ ∧
    settingsTuple ⟨C02.serialize ss ++ [0, 0] ++ tail, key, false⟩ = ss := by
  have hslice : (f.data.drop pre.length).take patchSize = C20.xor (C02.serialize ss ++ [0, 0] ++ tail) key := by
    rw [hdata, List.append_assoc, List.drop_left, List.take_left']
    rw [C20.xor_length, hlen]
  obtain ⟨h1, _, _⟩ := extract_first B hB f ks allKeys none (by intro c hc; cases hc) left guard _ hfirst
  simp only at h1
  rw [hslice, C20.xor_involutive] at h1
  exact ⟨h1, (C02.parse_serialize ss hw tail).1⟩

/-! ### all-keys mode -/

/-- For **every** order `left` of the residual keys: when nothing is found under the given keys, the key chosen by the
retry is the `left`-first among the keys that have a candidate in the winning view (and within it the first offset). -/
theorem allkeys_any_order (B : Nat) (hB : 1 ≤ B) (f : PyFile) (ks : List Bytes) (det : Option Nat)
    (hdet : DetOk f.data det) (left : List Bytes) (guard : Option Result)
    (hnone : candidates (views f.data det) (effKeys ks) = []) :
    (∀ c, (candidates (views f.data det) (effKeys left)).head? = some c →
      fromFile B f ks true det left guard = .ok c.result ∧
      ∀ c' ∈ candidates (views f.data det) (effKeys left),
        (c'.xorencoded = true → c.xorencoded = true) ∧
        (c'.xorencoded = c.xorencoded →
          (effKeys left).idxOf c.key ≤ (effKeys left).idxOf c'.key ∧ (c'.key = c.key → c.offset ≤ c'.offset))) ∧
    (candidates (views f.data det) (effKeys left) = [] →
      fromFile B f ks true det left guard = match guard with | some g => .ok g | none => .error .valueError) := by
  constructor
  · intro c hc
    obtain ⟨h1, _, h3⟩ := extract_first_retry B hB f ks det hdet left guard c hnone hc
    exact ⟨h1, h3⟩
  · intro h
    exact extract_none B hB f ks true det hdet left guard hnone (fun _ => h)

/-- In particular, when only ONE residual key `k0` has a candidate, the answer does not depend on the order at all:
two key lists with the same members give the same result. -/
theorem allkeys_single_key (B : Nat) (hB : 1 ≤ B) (f : PyFile) (ks : List Bytes) (allKeys : Bool) (det : Option Nat)
    (hdet : DetOk f.data det) (left₁ left₂ : List Bytes) (guard : Option Result) (k0 : Bytes)
    (hsame : ∀ k, k ∈ left₁ ↔ k ∈ left₂)
    (honly : ∀ k ∈ left₁, k ≠ k0 → ∀ v ∈ views f.data det, occK v.2 k = []) :
    fromFile B f ks allKeys det left₁ guard = fromFile B f ks allKeys det left₂ guard := by
  rw [extract_eq_spec B hB f ks allKeys det hdet, extract_eq_spec B hB f ks allKeys det hdet]
  have hnil : left₁ = [] ↔ left₂ = [] := by
    simp only [List.eq_nil_iff_forall_not_mem, hsame]
  have key : (candidates (views f.data det) (effKeys left₁)).head?
      = (candidates (views f.data det) (effKeys left₂)).head? := by
    by_cases h1 : left₁ = []
    · rw [h1, hnil.mp h1]
    · simp only [effKeys, h1, mt hnil.mpr h1, if_false]
      unfold candidates
      apply head?_flatMap_congr
      intro v hv
      rw [candsIn_head_single v.1 v.2 k0 left₁ (fun k hk hne => honly k hk hne v hv),
          candsIn_head_single v.1 v.2 k0 left₂ (fun k hk hne => honly k ((hsame k).mpr hk) hne v hv)]
      simp only [hsame k0]
  unfold extractSpec
  rw [key]

/-- the order the code computes (4-gram counter, `most_common`, stable sort) is a permutation of
`make_byte_list(exclude=xor_keys)`: every single-byte key that is not among the given keys, each exactly once -/
theorem leftKeys_perm (B : Nat) (f : PyFile) (det : Option Nat) (failPos : Nat) (ks left : List Bytes)
    (h : leftKeys B f det failPos ks = .ok left) :
    left.Perm (makeByteList (effKeys ks)) ∧
    ∀ k, k ∈ left ↔ (∃ b : UInt8, k = [b]) ∧ k ∉ effKeys ks := by
  have hp : left.Perm (makeByteList (effKeys ks)) := by
    unfold leftKeys at h
    cases hc : leftCounts B f det failPos with
    | error e => rw [hc] at h; cases h
    | ok cnt =>
      rw [hc] at h
      injection h with h
      rw [← h]
      exact stableSort_perm _ _
  exact ⟨hp, fun k => (hp.mem_iff).trans (mem_makeByteList _ k)⟩

/-! ### the detector used for the correspondence runs -/

/-- `detectRun` — the executable detector the driver uses to supply `det` (and the position a failing detection leaves
behind) — returns a view exactly when C09's `fromFileFull` does, and the same view; so C09's `detect_*` theorems
(`detect_first_passing`, `detect_correct_full_partial`, …) speak about the `det` of the correspondence runs. -/
theorem detector_is_C09 (B : Nat) (f : PyFile) (offs : List Nat) (f1 : PyFile) (hits : List Int) (f2 : PyFile)
    (h1 : C09.iterNonceOffsets f none 1024 = .ok (offs, f1))
    (h2 : C15.iterFindNeedle B f1 [0xff, 0xff, 0xff] (some 0) 1024 = .ok (hits, f2)) :
    (∀ x g, detectRun B f = .ok (some x, g) → C09.fromFileFull f 1024 (hits.map Int.toNat) = .ok x) ∧
    (∀ g, detectRun B f = .ok (none, g) → C09.fromFileFull f 1024 (hits.map Int.toNat) = .error .valueError) := by
  obtain ⟨hits', f2', hm, hd, hk⟩ := C09.markerScan_ok B f1 1024
  have hm' : C15.iterFindNeedle B f1 [0xff, 0xff, 0xff] (some 0) 1024 = .ok (hits', f2') := hm
  rw [h2] at hm'
  injection hm' with hm'
  injection hm' with e1 e2
  subst e1 e2
  -- the scan moves the file only: the candidate loop answers the same from `f1` and from `f2`
  have hfull : ∀ cs, C09.tryCandidatesFull f1 cs = C09.tryCandidatesFull f2 cs := fun cs =>
    (C09.tryCandidatesFull_try f1 f1 rfl rfl cs).trans (C09.tryCandidatesFull_try f1 f2 hd hk cs).symm
  simp only [detectRun, C09.fromFileFull, h1, h2, hfull]
  have ht := fun cs => answers_of_total (tryCands_full cs f2)
  exact ⟨fun x g hh => ((ht _).1 x g hh).1, fun g hh => ((ht _).2 g hh).1⟩

/-- the hypothesis `DetOk` holds for whatever that detector returns (an image that passes the MZ check has 64 decoded
bytes, so the nonce and the size dword lie inside the file) … -/
theorem detOk_of_detectRun (B : Nat) (f : PyFile) (x : C09.XorFile) (g : PyFile)
    (h : detectRun B f = .ok (some x, g)) : DetOk f.data (some x.nonceOff) := by
  intro c hc
  injection hc with hc
  subst hc
  exact Nat.le_of_lt (detectRun_bound B f x g h)

/-- … so with `det` computed as the driver does, the central equation needs no hypothesis about the detector -/
theorem extract_eq_spec_detected (B : Nat) (hB : 1 ≤ B) (f : PyFile) (ks : List Bytes) (allKeys : Bool)
    (left : List Bytes) (guard : Option Result) (r : Option C09.XorFile × PyFile) (h : detectRun B f = .ok r) :
    fromFile B f ks allKeys (r.1.map (·.nonceOff)) left guard
      = extractSpec f.data ks allKeys (r.1.map (·.nonceOff)) left guard := by
  apply extract_eq_spec B hB
  obtain ⟨o, g⟩ := r
  cases o with
  | none => intro c hc; cases hc
  | some x => exact detOk_of_detectRun B f x g h

/-! ### buffer size -/

/-- the answer does not depend on `io.DEFAULT_BUFFER_SIZE` (blocks straddling read boundaries included) -/
theorem buffer_size_independent (B B' : Nat) (hB : 1 ≤ B) (hB' : 1 ≤ B') (f : PyFile) (ks : List Bytes)
    (allKeys : Bool) (det : Option Nat) (hdet : DetOk f.data det) (left : List Bytes) (guard : Option Result) :
    fromFile B f ks allKeys det left guard = fromFile B' f ks allKeys det left guard := by
  rw [extract_eq_spec B hB f ks allKeys det hdet, extract_eq_spec B' hB' f ks allKeys det hdet]

/-- … nor on whether the payload comes from `from_bytes` / `from_file(BytesIO)` or `from_path` (OS file), nor on the
position of the file object when `from_file` is called -/
theorem entry_point_independent (B : Nat) (hB : 1 ≤ B) (f g : PyFile) (hd : f.data = g.data) (ks : List Bytes)
    (allKeys : Bool) (det : Option Nat) (hdet : DetOk f.data det) (left : List Bytes) (guard : Option Result) :
    fromFile B f ks allKeys det left guard = fromFile B g ks allKeys det left guard := by
  rw [extract_eq_spec B hB f ks allKeys det hdet, extract_eq_spec B hB g ks allKeys det (hd ▸ hdet), hd]

/-! ### end to end: detector, residual key order and Guardrails fallback discharged

The theorems above take the detector's answer `det`, the residual key order `left` and the Guardrails outcome `guard` as
parameters.  `fromFileReal` (Model/C01.lean, run by the driver on the `ext` stream) computes all three: `detectRun` (= C09's
`fromFileReal`, `detectRun_real`), `leftKeys`, `C17.fromFileFallback`.  The theorems of this section are about that function
and their hypotheses speak about the bytes of the payload only:
  * "not detected as XorEncoded" is `∀ c ∈ C09.realCandidates B f 1024, C09.mzVerdict f c = false` (by C09
    `detect_rejects_real` exactly: the detector raises ValueError), or — `…_bytes` variants — `NotXorEncoded f`: every offset
    behind an `ff ff ff` in the first 2 KiB or satisfying the size relation (C09 `real_candidates_characterised`) decodes to
    something that fails the MZ check; `notXorEncoded_of_no_candidate` gives a condition without `mzVerdict`;
  * "is a XorEncoded stage" is the hypothesis set of C09 `detect_correct_real_clean`;
  * "Guardrails finds nothing" is `GuardClean B v` (C17 `scan_reports_iff` / `NoMatch`), trivially true below 6138 bytes.
What remains a parameter: nothing of the model.  The buffer size `B ≥ 1` is universally quantified (the detector's
answer may depend on it for `B < 1027`, C09 `detect_buffer_independent`, so it appears in the `realCandidates` form of the
hypotheses; the `…_bytes` forms hold for every `B`). -/

/-- `fromFileReal` is the parameterised `fromFile` of the theorems above with the detector's answer (characterised through
`C09.fromFileReal`, and satisfying `DetOk`), the residual key order `leftKeys` computes, and `C17.fromFileFallback` on the
decoded view (when detected) or the file as Guardrails outcome — so every theorem about `fromFile` is a theorem about what
the driver runs. -/
theorem fromFileReal_instantiates (B : Nat) (hB : 1 ≤ B) (f : PyFile) (ks : List Bytes) (allKeys : Bool) :
    ∃ (det : Option Nat) (failPos : Nat) (left : List Bytes),
      (match det with
       | some c => ∃ x, C09.fromFileReal B f 1024 = .ok x ∧ x.nonceOff = c
       | none => C09.fromFileReal B f 1024 = .error .valueError) ∧
      DetOk f.data det ∧
      leftKeys B f det failPos ks = .ok left ∧
      fromFileReal B f ks allKeys =
        match fromFile B f ks allKeys det left none with
        | .ok r => .ok r.extracted
        | .error _ => guardFallback B (fhFor f det) := by
  obtain ⟨det, failPos, left, h1, h2, h3, h4⟩ := fromFileReal_spec B hB f ks allKeys
  refine ⟨det, failPos, left, h1, h2, h3, ?_⟩
  rw [h4, extract_eq_spec B hB f ks allKeys det h2, extractSpec_search]
  cases searchSpec f.data ks allKeys det left <;> rfl

/-- the same as an equation with the declarative specification -/
theorem fromFileReal_eq_spec (B : Nat) (hB : 1 ≤ B) (f : PyFile) (ks : List Bytes) (allKeys : Bool) :
    ∃ (det : Option Nat) (failPos : Nat) (left : List Bytes),
      (match det with
       | some c => ∃ x, C09.fromFileReal B f 1024 = .ok x ∧ x.nonceOff = c
       | none => C09.fromFileReal B f 1024 = .error .valueError) ∧
      DetOk f.data det ∧
      leftKeys B f det failPos ks = .ok left ∧
      fromFileReal B f ks allKeys =
        match searchSpec f.data ks allKeys det left with
        | some c => .ok c.result.extracted
        | none => guardFallback B (fhFor f det) :=
  fromFileReal_spec B hB f ks allKeys

/-- **Raw payload, end to end.**  A payload (any bytes, any file kind, any initial position, any buffer size) that is not
detected as XorEncoded and contains `CONFIG_HEADER ⊕ k` at offset `i` for a tried key `k`, `(k, i)` being least in
(key priority, offset) order: `from_file` returns `xor(data[i : i+4096], k)` as configuration block, `xorkey = k`,
`xorencoded = False`, no Guardrails record; and if those bytes are a serialized well-formed settings list (terminator,
padding) XORed with `k`, `settings_tuple` is that list.  `all_xor_keys` is irrelevant (the retry is not reached). -/
theorem extract_raw_end_to_end (B : Nat) (hB : 1 ≤ B) (f : PyFile) (ks : List Bytes) (allKeys : Bool)
    (hrej : ∀ c ∈ C09.realCandidates B f 1024, C09.mzVerdict f c = false)
    (k : Bytes) (i : Nat) (hk : k ∈ effKeys ks) (hi : i ∈ occK f.data k)
    (hleast : ∀ k' ∈ effKeys ks, ∀ i' ∈ occK f.data k',
      (effKeys ks).idxOf k ≤ (effKeys ks).idxOf k' ∧ (k' = k → i ≤ i')) :
    fromFileReal B f ks allKeys = .ok ⟨C20.xor ((f.data.drop i).take patchSize) k, k, false, none⟩ ∧
    ∀ (ss : List C02.Setting) (tail : Bytes), C02.WellFormedList ss →
      (f.data.drop i).take patchSize = C20.xor (C02.serialize ss ++ [0, 0] ++ tail) k →
      (⟨C20.xor ((f.data.drop i).take patchSize) k, k, false, none⟩ : Extracted).settings = ss := by
  constructor
  · obtain ⟨failPos, left, _, heq⟩ := fromFileReal_spec_rejected B hB f ks allKeys hrej
    have hhead : (candidates (views f.data none) (effKeys ks)).head? = some ⟨false, f.data, k, i⟩ := by
      rw [candidates_views]
      exact candsIn_head_of_least false f.data (effKeys ks) k i hk hi hleast
    rw [heq]
    simp only [searchSpec, hhead]
    rfl
  · intro ss tail hw hblk
    show C02.iterSettings (C20.xor ((f.data.drop i).take patchSize) k) = ss
    rw [hblk, C20.xor_involutive]
    exact (C02.parse_serialize ss hw tail).1

/-- the same with the hypothesis on the detector read off the bytes, for every buffer size -/
theorem extract_raw_end_to_end_bytes (B : Nat) (hB : 1 ≤ B) (f : PyFile) (ks : List Bytes) (allKeys : Bool)
    (hne : NotXorEncoded f)
    (k : Bytes) (i : Nat) (hk : k ∈ effKeys ks) (hi : i ∈ occK f.data k)
    (hleast : ∀ k' ∈ effKeys ks, ∀ i' ∈ occK f.data k',
      (effKeys ks).idxOf k ≤ (effKeys ks).idxOf k' ∧ (k' = k → i ≤ i')) :
    fromFileReal B f ks allKeys = .ok ⟨C20.xor ((f.data.drop i).take patchSize) k, k, false, none⟩ :=
  (extract_raw_end_to_end B hB f ks allKeys (notXorEncoded_rejects B hB f hne) k i hk hi hleast).1

/-- **XorEncoded stage, end to end.**  A payload `stub ++ nonce ++ size ++ enc` whose decoded content
`rollDecode nonce enc` starts with a PE image, under the byte-level cleanliness hypotheses of C09
`detect_correct_real_clean` (stub ends with the marker or the size dword is right; no other `ff ff ff` in the first 2 KiB,
no other size-consistent offset), and whose decoded content contains `CONFIG_HEADER ⊕ k` at offset `i`, `(k, i)` least in
the DECODED view: `from_file` returns `xor(decoded[i : i+4096], k)`, `xorkey = k`, `xorencoded = True`.  There is no
hypothesis about the raw bytes: candidates there (a decoy block in the stub, under a key of higher priority) are not
looked at. -/
theorem extract_xorencoded_end_to_end (B : Nat) (hB : 1 ≤ B) (stub nonce size enc : Bytes)
    (hn : nonce.length = 4) (hs : size.length = 4)
    (f : PyFile) (hd : f.data = stub ++ nonce ++ size ++ enc) (ks : List Bytes) (allKeys : Bool)
    (hcand : (∃ s0, stub = s0 ++ C09.eofMarker ∧ stub.length ≤ 1024) ∨
         (C09.u32 (C20.xor nonce size) + (stub.length : Int) + 8 = (f.data.length : Int) ∧ stub.length < 1024))
    (e : Nat) (hpe : C09.PeHeaderAt0 (C09.rollDecode nonce enc) 1024 e)
    (hmark : ∀ h ∈ C15.occ f.data C09.eofMarker, h ≤ 2 * 1024 → h + 3 = stub.length)
    (hsize : ∀ c, c < 1024 → C09.SizeRel f.data (f.data.length : Int) c → c = stub.length)
    (k : Bytes) (i : Nat) (hk : k ∈ effKeys ks) (hi : i ∈ occK (C09.rollDecode nonce enc) k)
    (hleast : ∀ k' ∈ effKeys ks, ∀ i' ∈ occK (C09.rollDecode nonce enc) k',
      (effKeys ks).idxOf k ≤ (effKeys ks).idxOf k' ∧ (k' = k → i ≤ i')) :
    fromFileReal B f ks allKeys
      = .ok ⟨C20.xor (((C09.rollDecode nonce enc).drop i).take patchSize) k, k, true, none⟩ ∧
    ∀ (ss : List C02.Setting) (tail : Bytes), C02.WellFormedList ss →
      ((C09.rollDecode nonce enc).drop i).take patchSize = C20.xor (C02.serialize ss ++ [0, 0] ++ tail) k →
      (⟨C20.xor (((C09.rollDecode nonce enc).drop i).take patchSize) k, k, true, none⟩ : Extracted).settings = ss := by
  constructor
  · obtain ⟨det, failPos, left, hdet, _, _, heq⟩ := fromFileReal_spec B hB f ks allKeys
    obtain ⟨x, hx, hL, _, _⟩ := C09.detect_correct_real_clean B hB stub nonce size enc hn hs f hd 1024 (by omega)
      hcand e hpe hmark hsize
    have hsome : det = some stub.length := by
      cases det with
      | none => rw [hx] at hdet; cases hdet
      | some c =>
        obtain ⟨x', hx', hc⟩ := hdet
        rw [hx] at hx'
        injection hx' with hx'
        subst hx'
        rw [← hc, hL.off]
    subst hsome
    have hview : decodedView f.data stub.length = C09.rollDecode nonce enc := by
      rw [hd]; exact decodedView_layout stub nonce size enc hn hs
    have hhead : (candidates (views f.data (some stub.length)) (effKeys ks)).head?
        = some ⟨true, C09.rollDecode nonce enc, k, i⟩ := by
      rw [candidates_views]
      simp only [hview]
      have := candsIn_head_of_least true (C09.rollDecode nonce enc) (effKeys ks) k i hk hi hleast
      cases hc : candsIn true (C09.rollDecode nonce enc) (effKeys ks) with
      | nil => rw [hc] at this; cases this
      | cons a as => rw [hc] at this; exact this
    rw [heq]
    simp only [searchSpec, hhead]
    rfl
  · intro ss tail hw hblk
    show C02.iterSettings (C20.xor (((C09.rollDecode nonce enc).drop i).take patchSize) k) = ss
    rw [hblk, C20.xor_involutive]
    exact (C02.parse_serialize ss hw tail).1

theorem effKeys_left_mem (B : Nat) (f : PyFile) (det : Option Nat) (failPos : Nat) (ks left : List Bytes)
    (h : leftKeys B f det failPos ks = .ok left) (k : Bytes) (hk : k ∈ effKeys left) :
    k ∈ makeByteList [] ++ defaultXorKeys := by
  unfold effKeys at hk
  split at hk
  · exact List.mem_append_right _ hk
  · exact List.mem_append_left _ (leftKeys_mem B f det failPos ks left h k hk)

theorem searchSpec_none (data : Bytes) (ks : List Bytes) (allKeys : Bool) (det : Option Nat) (left : List Bytes)
    (h1 : candidates (views data det) (effKeys ks) = [])
    (h2 : allKeys = true → candidates (views data det) (effKeys left) = []) :
    searchSpec data ks allKeys det left = none :=
  (searchSpec_eq_none_iff data ks allKeys det left).mpr ⟨h1, h2⟩

/-- **Nothing to extract, end to end.**  No `CONFIG_HEADER ⊕ k` under a tried key in the file itself nor in the decoded
view of any detector candidate that passes the MZ check (whichever the detector settles on); in all-keys mode the same for
all 256 single-byte keys (and the defaults, which the retry falls back to when the residual list is empty); and the
Guardrails scan of the view the fallback looks at cannot complete a record: `from_file` raises the documented `ValueError`. -/
theorem extract_none_end_to_end (B : Nat) (hB : 1 ≤ B) (f : PyFile) (ks : List Bytes) (allKeys : Bool)
    (hraw : ∀ k ∈ effKeys ks, occK f.data k = [])
    (hdec : ∀ c ∈ C09.realCandidates B f 1024, C09.mzVerdict f c = true →
      ∀ k ∈ effKeys ks, occK (decodedView f.data c) k = [])
    (hall : allKeys = true → ∀ k ∈ makeByteList [] ++ defaultXorKeys,
      occK f.data k = [] ∧
      ∀ c ∈ C09.realCandidates B f 1024, C09.mzVerdict f c = true → occK (decodedView f.data c) k = [])
    (hgraw : (∀ c ∈ C09.realCandidates B f 1024, C09.mzVerdict f c = false) → GuardClean B f.data)
    (hgdec : ∀ c ∈ C09.realCandidates B f 1024, C09.mzVerdict f c = true → GuardClean B (decodedView f.data c)) :
    fromFileReal B f ks allKeys = .error .valueError := by
  obtain ⟨det, failPos, left, hdet, _, hleft, heq⟩ := fromFileReal_spec B hB f ks allKeys
  have hlk := effKeys_left_mem B f det failPos ks left hleft
  cases det with
  | none =>
    have hrej := ((C09.detect_rejects_real B f 1024).2).mp hdet
    rw [heq, searchSpec_none]
    · exact guardFallback_clean B f (hgraw hrej)
    · rw [candidates_views]
      exact candsIn_nil_of_noHeader false f.data _ hraw
    · intro ha
      rw [candidates_views]
      exact candsIn_nil_of_noHeader false f.data _ (fun k hk => (hall ha k (hlk k hk)).1)
  | some c =>
    obtain ⟨x, hx, hc⟩ := hdet
    obtain ⟨pre, post, x0, hsplit, _, hok, _⟩ := C09.detect_sound_real B f 1024 x hx
    rw [hc] at hsplit hok
    have hmem : c ∈ C09.realCandidates B f 1024 := by rw [hsplit]; simp
    rw [heq, searchSpec_none]
    · exact guardFallback_clean B (viewFile f c) (hgdec c hmem hok)
    · rw [candidates_views]
      simp only
      rw [candsIn_nil_of_noHeader true _ _ (hdec c hmem hok), candsIn_nil_of_noHeader false f.data _ hraw]
      rfl
    · intro ha
      rw [candidates_views]
      simp only
      rw [candsIn_nil_of_noHeader true _ _ (fun k hk => (hall ha k (hlk k hk)).2 c hmem hok),
          candsIn_nil_of_noHeader false f.data _ (fun k hk => (hall ha k (hlk k hk)).1)]
      rfl

open Gen.Guardrails C17 in
/-- **Guardrails-protected payload, end to end** (C17 `recover_from_file_partial`, under its own hypotheses): the payload
`pre ++ masked configuration ++ masked guard configuration ++ post` is not detected as XorEncoded and has no plain
candidate under the tried keys: `from_file` returns the recovered configuration `cfg`, `xorkey = 0x2e`,
`xorencoded = False` and the Guardrails record (environmental key `K`, offsets, guard settings). -/
theorem extract_guardrails_end_to_end (B : Nat) (hB : 1 ≤ B) (f : PyFile) (ks : List Bytes) (allKeys : Bool)
    (pre post cfg K gc : Bytes)
    (hcfg : cfg.length = BEACON_CONFIG_PATCH_SIZE) (hgc : gc.length = GUARD_PATCH_SIZE)
    (h2 : 2 ≤ K.length) (h256 : K.length ≤ 256)
    (hstart : gc.take 6 ∈ GUARD_CONFIG_STARTS)
    (hstored : (settingsPure gc [] 0).2 = payloadChecksum cfg + 1)
    (hdom : StrictlyMostCommon K (gramsOf B K.length (C20.xor cfg K)))
    (hno : NoEarlierChecksumHit B (C20.xor cfg K) (payloadChecksum cfg + 1) K.length)
    (hd : f.data = pre ++ C20.xor (C20.xor cfg K) beaconXorKey
            ++ maskGuard gc defaultGuardXorKey (C20.xor (C20.xor cfg K) beaconXorKey) ++ post)
    (hfirst : NoEarlierRecord B f.data (pre.length + (BEACON_CONFIG_PATCH_SIZE - 6)))
    (hrej : ∀ c ∈ C09.realCandidates B f 1024, C09.mzVerdict f c = false)
    (hraw : ∀ k ∈ effKeys ks, occK f.data k = [])
    (hall : allKeys = true → ∀ k ∈ makeByteList [] ++ defaultXorKeys, occK f.data k = []) :
    fromFileReal B f ks allKeys = .ok
      { block := cfg, xorkey := beaconXorKey, xorencoded := false,
        guardrails := some { areaMeta pre (C20.xor (C20.xor cfg K) beaconXorKey) gc defaultGuardXorKey with
          beaconXorKey := beaconXorKey, payloadXorKey := some K, unmaskedBeaconConfig := some cfg } } := by
  obtain ⟨failPos, left, hleft, heq⟩ := fromFileReal_spec_rejected B hB f ks allKeys hrej
  have hlk := effKeys_left_mem B f none failPos ks left hleft
  rw [heq, searchSpec_none]
  · simp only [fhFor, guardFallback]
    rw [fromFileFallback_data f (PyFile.ofBytes f.data) rfl]
    rw [hd] at hfirst ⊢
    rw [recover_from_file_partial B pre post cfg K gc hcfg hgc h2 h256 hstart hstored hdom hno hfirst]
  · rw [candidates_views]
    exact candsIn_nil_of_noHeader false f.data _ hraw
  · intro ha
    rw [candidates_views]
    exact candsIn_nil_of_noHeader false f.data _ (fun k hk => hall ha k (hlk k hk))

/-! #### the same composition in C08 -/

/-- the file object `from_file` hands to `pe.find_compile_stamps` / `pe.find_architecture` (C18; not part of this property):
the XorEncoded view for a block found in it and for a Guardrails recovery, otherwise `fobj` -/
def peSource (B : Nat) (f : PyFile) (x : Extracted) : PyFile :=
  match detectRun B f with
  | .ok (dx, _) => if x.xorencoded || x.guardrails.isSome then fhFor f (dx.map (·.nonceOff)) else f
  | .error _ => f

/-- `C08.fromFile` (the composition used for "only ValueError") is `fromFileReal` followed by C08's `finish` — settings
decoding as an `Except` and the PE artifacts, both proved total in `Lemmas/C08.lean` (`finish_ok`), which copies block, key
and flags unchanged.  (`Lemmas/C08.lean` imports this file, so the statement lives here, over `Model/C08.lean` only.) -/
theorem fromFile_C08_factors (B : Nat) (f : PyFile) (ks : List Bytes) (allKeys : Bool) :
    C08.fromFile B f ks allKeys =
      match fromFileReal B f ks allKeys with
      | .error e => .error e
      | .ok x => C08.finish x.guardrails.isSome x.xorkey x.xorencoded x.block (peSource B f x) := by
  -- `Model/C08.lean` writes out the same search and the same choice of the file object
  have hs : @C08.search = @search := rfl
  have hf : @C08.fhFor = @fhFor := rfl
  unfold C08.fromFile fromFileReal peSource
  rw [hs, hf]
  cases detectRun B f with
  | error e => rfl
  | ok p =>
    simp only [guardFallback]
    cases search B f ks allKeys (p.1.map (·.nonceOff)) p.2.pos with
    | error e => rfl
    | ok o =>
      cases o with
      | some y => simp only [Result.extracted, Option.isSome_none, Bool.or_false]
      | none =>
        cases C17.fromFileFallback (fhFor f (p.1.map (·.nonceOff))) B with
        | error e => rfl
        | ok m =>
          simp only
          cases m.unmaskedBeaconConfig with
          | none => rfl
          | some cfg => simp only [Option.isSome_some, Bool.or_true, if_true]
/-! ### the hypotheses are satisfiable / concrete instances -/

/-- `A` followed by the block `00 01 00 01 00 02 00 08 00 00` under key `0x2e` -/
def exRaw : Bytes := [0x41] ++ C20.xor [0, 1, 0, 1, 0, 2, 0, 8, 0, 0] [0x2e]

example : fromFile 8192 ⟨exRaw, 0, .bytesIO⟩ [] false none [] none
    = .ok ⟨[0, 1, 0, 1, 0, 2, 0, 8, 0, 0], [0x2e], false⟩ := by
  rw [extract_eq_spec 8192 (by omega) _ _ _ _ (by intro c h; cases h)]
  decide +kernel

/-- the input of the repaired defect (fc7bca0): a key-`0x00` header at offset 0 of an OS file is found at offset 0 -/
example : fromFile 8192 ⟨[0, 1, 0, 1, 0, 2, 0, 8, 0, 0], 0, .osFile⟩ [] false none [] none
    = .ok ⟨[0, 1, 0, 1, 0, 2, 0, 8, 0, 0], [0x00], false⟩ := by
  rw [extract_eq_spec 8192 (by omega) _ _ _ _ (by intro c h; cases h)]
  decide +kernel

/-- key priority beats file order: a `0x2e` block at offset 0, a `0x69` block behind it — `0x69` wins with the default
keys, `0x2e` wins with the custom list `[2e, 69]`; buffer size 3 so that both headers straddle read boundaries -/
def exTwo : Bytes := C20.xor [0, 1, 0, 1, 0, 2, 0, 4] [0x2e] ++ [0x55] ++ C20.xor [0, 1, 0, 1, 0, 2, 0, 8, 0, 0] [0x69]

example : fromFile 3 ⟨exTwo, 0, .bytesIO⟩ [] false none [] none
    = .ok ⟨[0, 1, 0, 1, 0, 2, 0, 8, 0, 0], [0x69], false⟩ := by
  rw [extract_eq_spec 3 (by omega) _ _ _ _ (by intro c h; cases h)]
  decide +kernel

example : fromFile 3 ⟨exTwo, 0, .bytesIO⟩ [[0x2e], [0x69]] false none [] none
    = .ok ⟨[0, 1, 0, 1, 0, 2, 0, 4, 0x55 ^^^ 0x2e] ++ C20.xor (C20.xor [0, 1, 0, 1, 0, 2, 0, 8, 0, 0] [0x69]) [0x2e], [0x2e], false⟩ := by
  rw [extract_eq_spec 3 (by omega) _ _ _ _ (by intro c h; cases h)]
  decide +kernel

/-- a XorEncoded stage (stub `90`, nonce `01 02 03 04`): the block under key `0x69` lies in the decoded view -/
def exStage : Bytes :=
  [0x90] ++ [1, 2, 3, 4] ++ [9, 9, 9, 9] ++ C09.rollEncode [1, 2, 3, 4] (C20.xor [0, 1, 0, 1, 0, 2, 0, 8, 0, 0] [0x69])

example : DetOk exStage (some 1) := by intro c h; cases h; decide

example : fromFile 8192 ⟨exStage, 0, .bytesIO⟩ [] false (some 1) [] none
    = .ok ⟨[0, 1, 0, 1, 0, 2, 0, 8, 0, 0], [0x69], true⟩ := by
  rw [extract_eq_spec 8192 (by omega) _ _ _ _ (by intro c h; cases h; decide)]
  decide +kernel

/-- all-keys mode: nothing under the defaults, the block under `0xaf` is found by the retry -/
example : fromFile 8192 ⟨C20.xor [0, 1, 0, 1, 0, 2, 0, 8, 0, 0] [0xaf], 0, .bytesIO⟩ [] true none [[0x01], [0xaf]] none
    = .ok ⟨[0, 1, 0, 1, 0, 2, 0, 8, 0, 0], [0xaf], false⟩ := by
  rw [extract_eq_spec 8192 (by omega) _ _ _ _ (by intro c h; cases h)]
  decide +kernel

/-- … and without `all_xor_keys` the same payload gives the documented `ValueError` -/
example : fromFile 8192 ⟨C20.xor [0, 1, 0, 1, 0, 2, 0, 8, 0, 0] [0xaf], 0, .bytesIO⟩ [] false none [] none
    = .error .valueError := by
  rw [extract_eq_spec 8192 (by omega) _ _ _ _ (by intro c h; cases h)]
  decide +kernel

/-- the hypotheses of `extract_settings` at the candidate of `exRaw` (block cut short by the end of the file) -/
example : settingsTuple (⟨false, exRaw, [0x2e], 1⟩ : Cand).result = [{ index := 1, type := 1, length := 2, value := [0, 8] }] :=
  (extract_settings ⟨false, exRaw, [0x2e], 1⟩ [{ index := 1, type := 1, length := 2, value := [0, 8] }]
    (by decide) [] (by decide +kernel)).2

example : makeByteList [[0x69], [0x2e], [0x00], [1, 2]] = ((List.range 256).filter (fun n => n ≠ 0x69 ∧ n ≠ 0x2e ∧ n ≠ 0)).map
    (fun n => [UInt8.ofNat n]) := by decide +kernel

/-! #### end-to-end theorems: concrete payloads meeting the hypotheses (every hypothesis discharged by the kernel) -/

-- `extract_raw_end_to_end`: `exRaw` as an OS file, all-keys mode requested (not reached)
set_option maxRecDepth 100000 in
example : fromFileReal 8192 ⟨exRaw, 0, .osFile⟩ [] true
      = .ok ⟨[0, 1, 0, 1, 0, 2, 0, 8, 0, 0], [0x2e], false, none⟩ ∧
    (⟨[0, 1, 0, 1, 0, 2, 0, 8, 0, 0], [0x2e], false, none⟩ : Extracted).settings
      = [{ index := 1, type := 1, length := 2, value := [0, 8] }] := by
  obtain ⟨h1, h2⟩ := extract_raw_end_to_end 8192 (by omega) ⟨exRaw, 0, .osFile⟩ [] true (by decide +kernel)
    [0x2e] 1 (by decide) (by decide +kernel) (by decide +kernel)
  have hb : C20.xor ((exRaw.drop 1).take patchSize) [0x2e] = [0, 1, 0, 1, 0, 2, 0, 8, 0, 0] := by decide +kernel
  rw [hb] at h1 h2
  exact ⟨h1, h2 [{ index := 1, type := 1, length := 2, value := [0, 8] }] [] (by decide) (by decide +kernel)⟩

-- … and the model evaluated by the kernel gives the same answer (small buffer, BytesIO not at the start)
set_option maxRecDepth 100000 in
example : fromFileReal 3 ⟨exRaw, 5, .bytesIO⟩ [] false = .ok ⟨[0, 1, 0, 1, 0, 2, 0, 8, 0, 0], [0x2e], false, none⟩ := by
  decide +kernel

/-- a 64-byte "image": `MZ`, `e_lfanew = 4`, i386 file header at offset 8 -/
def exImage : Bytes := [0x4d, 0x5a] ++ List.replicate 6 0 ++ [0x4c, 0x01] ++ List.replicate 50 0 ++ [4, 0, 0, 0]
/-- decoded content: the image, a filler byte, a block under the SECOND default key `0x2e` -/
def exPlain : Bytes := exImage ++ [0x55] ++ C20.xor [0, 1, 0, 1, 0, 2, 0, 8, 0, 0] [0x2e]
/-- loader stub with a decoy: a complete block under the FIRST default key `0x69`, in the raw bytes -/
def exStub : Bytes := [0x90] ++ C20.xor [0, 1, 0, 1, 0, 2, 0, 4, 0, 0] [0x69] ++ [0x90]
def exNonce : Bytes := [1, 2, 3, 4]
/-- `len(enc) = 75` as a little-endian dword, XORed with the nonce -/
def exSize : Bytes := [74, 2, 3, 4]
def exEnc : Bytes := C09.rollEncode exNonce exPlain

-- `extract_xorencoded_end_to_end`: size relation holds, no marker; the `0x69` decoy in the stub is not looked at
set_option maxRecDepth 100000 in
example : fromFileReal 8192 ⟨exStub ++ exNonce ++ exSize ++ exEnc, 7, .bytesIO⟩ [] false
      = .ok ⟨[0, 1, 0, 1, 0, 2, 0, 8, 0, 0], [0x2e], true, none⟩ := by
  have hdec : C09.rollDecode exNonce exEnc = exPlain := C09.rollDecode_rollEncode exNonce exPlain rfl
  obtain ⟨h1, _⟩ := extract_xorencoded_end_to_end 8192 (by omega) exStub exNonce exSize exEnc rfl rfl
    ⟨exStub ++ exNonce ++ exSize ++ exEnc, 7, .bytesIO⟩ rfl [] false
    (Or.inr (by decide +kernel)) 4
    (by rw [hdec]; exact ⟨by decide +kernel, by decide +kernel, by decide, by decide, by decide +kernel, by decide +kernel⟩)
    (by decide +kernel)
    (by -- the payload has 95 bytes, so only offsets below 88 leave room for the two dwords
        rintro c _ ⟨hle, heq⟩
        have hlen : (exStub ++ exNonce ++ exSize ++ exEnc).length = 95 := by decide +kernel
        have hle' : c + 8 ≤ (exStub ++ exNonce ++ exSize ++ exEnc).length := hle
        have hw : ∀ c, c < 88 → C09.u32 (C20.xor (((exStub ++ exNonce ++ exSize ++ exEnc).drop c).take 4)
            (((exStub ++ exNonce ++ exSize ++ exEnc).drop (c + 4)).take 4)) + (c : Int) + 8
              = ((exStub ++ exNonce ++ exSize ++ exEnc).length : Int) → c = exStub.length := by decide +kernel
        exact hw c (by omega) heq)
    [0x2e] 65 (by decide) (by rw [hdec]; decide +kernel) (by rw [hdec]; decide +kernel)
  rw [hdec] at h1
  have hb : C20.xor ((exPlain.drop 65).take patchSize) [0x2e] = [0, 1, 0, 1, 0, 2, 0, 8, 0, 0] := by decide +kernel
  rw [hb] at h1
  exact h1

-- … and by evaluation of the model, as an OS file
set_option maxRecDepth 100000 in
example : fromFileReal 8192 ⟨exStub ++ exNonce ++ exSize ++ exEnc, 0, .osFile⟩ [] false
      = .ok ⟨[0, 1, 0, 1, 0, 2, 0, 8, 0, 0], [0x2e], true, none⟩ := by decide +kernel

-- `extract_none_end_to_end`: nothing under the default keys (the block is under `0xaf`), no XorEncoded stage, too short
-- for a Guardrails area
set_option maxRecDepth 100000 in
example : fromFileReal 8192 ⟨C20.xor [0, 1, 0, 1, 0, 2, 0, 8, 0, 0] [0xaf], 0, .bytesIO⟩ [] false = .error .valueError :=
  extract_none_end_to_end 8192 (by omega) _ [] false (by decide +kernel) (by decide +kernel) (by intro h; cases h)
    (fun _ => guardClean_of_short _ _ (by decide))
    (fun c _ _ => guardClean_of_short _ _ (Nat.le_trans (Nat.add_le_add_right (decodedView_length_le _ c) 6) (by decide)))

-- … all-keys mode on a payload shorter than the header: all 256 keys (and the defaults) find nothing
set_option maxRecDepth 100000 in
example : fromFileReal 16 ⟨[0, 1, 0, 1, 0, 2], 3, .osFile⟩ [[0x41]] true = .error .valueError :=
  extract_none_end_to_end 16 (by omega) _ [[0x41]] true (by decide +kernel) (by decide +kernel) (fun _ => by decide +kernel)
    (fun _ => guardClean_of_short _ _ (by decide))
    (fun c _ _ => guardClean_of_short _ _ (Nat.le_trans (Nat.add_le_add_right (decodedView_length_le _ c) 6) (by decide)))

/-! `extract_guardrails_end_to_end`: an 8192-byte Guardrails-protected payload — configuration `SETTING_PROTOCOL = 8`
padded to 6144 bytes, environmental key `05 05`, guard configuration `GUARD_COMPUTER = ab cd`, `GUARD_PAYLOAD_CHECKSUM = 26`.
The masked areas are written out as literals (`exMb`, `exMg`) and proved equal to what the masking produces, so that no
hypothesis needs a kernel evaluation over the whole payload. -/
section guardrailsExample
open Gen.Guardrails C17

def exCfg : Bytes := [0, 1, 0, 1, 0, 2, 0, 8, 0, 0] ++ List.replicate 6134 0
def exGc : Bytes := [0, 6, 0, 1, 0, 2, 0xab, 0xcd, 0, 9, 0, 2, 0, 4, 0, 0, 0, 26, 0, 0] ++ List.replicate 2028 0
def exKey : Bytes := [5, 5]
def exMb : Bytes := [0x2b, 0x2a, 0x2b, 0x2a, 0x2b, 0x29, 0x2b, 0x23, 0x2b, 0x2b] ++ List.replicate 6134 0x2b
def exMg : Bytes :=
  [0xa1, 0xa7, 0xa1, 0xa0, 0xa1, 0xa3, 0x0a, 0x6c, 0xa1, 0xa8, 0xa1, 0xa3, 0xa1, 0xa5, 0xa1, 0xa1, 0xa1, 0xbb, 0xa1, 0xa1]
    ++ List.replicate 2028 0xa1
def exGuarded : Bytes := exMb ++ exMg

theorem exCfg_length : exCfg.length = 6144 := by rw [exCfg, List.length_append, List.length_replicate]; rfl
theorem exGc_length : exGc.length = 2048 := by rw [exGc, List.length_append, List.length_replicate]; rfl

theorem exMb_eq : C20.xor (C20.xor exCfg exKey) beaconXorKey = exMb := by
  rw [xor_const_key _ exKey 5 (by decide) (by decide), xor_const_key _ beaconXorKey 0x2e (by decide) (by decide)]
  simp only [exCfg, List.map_append, List.map_replicate]
  rfl

theorem exMg_eq : maskGuard exGc defaultGuardXorKey exMb = exMg := by
  unfold maskGuard
  rw [C09.xor_eq_zipWith _ exMb.reverse (by
        rw [C17.xor_length, exGc_length, List.length_reverse, exMb, List.length_append, List.length_replicate]; decide),
      xor_const_key _ defaultGuardXorKey 0x8a (by decide) (by decide)]
  have hr : exMb.reverse = List.replicate 6134 0x2b ++ [0x2b, 0x2a, 0x2b, 0x2a, 0x2b, 0x29, 0x2b, 0x23, 0x2b, 0x2b].reverse := by
    rw [exMb, List.reverse_append, List.reverse_replicate]
  rw [hr, zipWith_replicate_right _ _ _ _ _ (by rw [List.length_map, exGc_length]; decide)]
  simp only [exGc, List.map_append, List.map_replicate]
  rfl

theorem exGuarded_eq : exGuarded =
    [] ++ C20.xor (C20.xor exCfg exKey) beaconXorKey
      ++ maskGuard exGc defaultGuardXorKey (C20.xor (C20.xor exCfg exKey) beaconXorKey) ++ [] := by
  rw [exMb_eq, exMg_eq, List.nil_append, List.append_nil]; rfl

theorem exGuarded_bytes : ∀ b ∈ [(0xff : UInt8), 0, 0x69, 0x2e], b ∉ exGuarded := by
  intro b hb
  simp only [exGuarded, exMb, exMg, List.mem_append, List.mem_replicate]
  revert b
  decide

theorem exGuarded_length : exGuarded.length = 8192 := by
  rw [exGuarded, exMb, exMg, List.length_append, List.length_append, List.length_append, List.length_replicate,
    List.length_replicate]
  rfl

theorem exGuarded_sizeRel : ∀ c, c < 1024 → ¬ C09.SizeRel exGuarded (exGuarded.length : Int) c := by
  intro c hc
  rw [exGuarded_length]
  rintro ⟨_, h⟩
  by_cases h10 : c < 10
  · -- the windows that touch the first ten bytes: only the dword equation is evaluated, not the length of the payload
    have hw : ∀ c, c < 10 → C09.u32 (C20.xor ((exGuarded.drop c).take 4) ((exGuarded.drop (c + 4)).take 4)) + (c : Int) + 8
        ≠ ((8192 : Nat) : Int) := by decide +kernel
    exact hw c h10 h
  · have e1 : (exGuarded.drop c).take 4 = List.replicate 4 0x2b :=
      slice_in_replicate _ exMg 6134 0x2b c 4 (by simp only [List.length_cons, List.length_nil]; omega)
        (by simp only [List.length_cons, List.length_nil]; omega)
    have e2 : (exGuarded.drop (c + 4)).take 4 = List.replicate 4 0x2b :=
      slice_in_replicate _ exMg 6134 0x2b (c + 4) 4 (by simp only [List.length_cons, List.length_nil]; omega)
        (by simp only [List.length_cons, List.length_nil]; omega)
    rw [e1, e2] at h
    have hz : C09.u32 (C20.xor (List.replicate 4 0x2b) (List.replicate 4 0x2b)) = 0 := by decide +kernel
    rw [hz] at h
    omega

set_option maxRecDepth 100000 in
example : ∃ m, fromFileReal 8192 ⟨exGuarded, 0, .bytesIO⟩ [] false = .ok ⟨exCfg, [0x2e], false, some m⟩ ∧
    m.payloadXorKey = some exKey ∧ m.beaconConfigOffset = 0 ∧ m.guardConfigOffset = 6144 :=
  ⟨_, extract_guardrails_end_to_end 8192 (by omega) ⟨exGuarded, 0, .bytesIO⟩ [] false [] [] exCfg exKey exGc
    exCfg_length exGc_length (by decide) (by decide) (by decide +kernel) (by decide +kernel)
    (zero_padding_dominates 8192 exCfg exKey (by decide) (by rw [exCfg_length]; decide) (by
      -- five grams from the settings, then 3067 zero grams
      obtain ⟨hg, hl⟩ := grouper_append 2 (by decide) (List.replicate 6134 0) 5 [0, 1, 0, 1, 0, 2, 0, 8, 0, 0] rfl
      have ht := grouper_tiled (List.replicate 2 0) (by decide) 3067
      rw [List.flatten_replicate_replicate, List.length_replicate] at ht
      rw [show exKey.length = 2 from rfl, exCfg, hg.trans (congrArg _ ht)]
      exact padding_majority _ _ _ (by rw [hl]; decide)))
    (by intro k hk; simp [exKey] at hk) exGuarded_eq
    (noEarlierRecord_start _ _ _ (by decide))
    (notXorEncoded_rejects 8192 (by omega) _ (notXorEncoded_of_no_candidate _
      (by intro h hh
          rw [show C15.occ exGuarded C09.eofMarker = [] from
            occ_nil_of_byte _ _ 0xff (by decide) (exGuarded_bytes 0xff (by decide))] at hh
          cases hh)
      exGuarded_sizeRel))
    (by intro k hk
        have hk' : k ∈ [[(0x69 : UInt8)], [0x2e], [0]] := hk
        simp only [List.mem_cons, List.not_mem_nil, or_false] at hk'
        rcases hk' with rfl | rfl | rfl
        · exact occ_nil_of_byte _ _ 0x69 (by decide) (exGuarded_bytes 0x69 (by decide))
        · exact occ_nil_of_byte _ _ 0x2e (by decide) (exGuarded_bytes 0x2e (by decide))
        · exact occ_nil_of_byte _ _ 0 (by decide) (exGuarded_bytes 0 (by decide)))
    (by intro h; cases h),
   rfl, rfl, rfl⟩

-- the settings of the recovered configuration (C02 `parse_serialize`, no evaluation over the 6144 bytes)
example : (⟨exCfg, [0x2e], false, none⟩ : Extracted).settings = [{ index := 1, type := 1, length := 2, value := [0, 8] }] :=
  (C02.parse_serialize [{ index := 1, type := 1, length := 2, value := [0, 8] }] (by decide) (List.replicate 6134 0)).1

end guardrailsExample

end C01

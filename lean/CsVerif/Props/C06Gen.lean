import CsVerif.Gen.PyC2M
import CsVerif.Props.C06
import CsVerif.Lemmas.C06Gen
/-!
C06 — the tie between the source text and the model, by (untyped) translation.

`Gen/PyC2M.lean` is produced on every run by `tools/py2leanu.py` (plug-in `tools/gen/py_c2m.py`) from the *source* of
`c2.decrypt_metadata` and `c2.encrypt_metadata`: every Python value is a `PyU.V`, every Python operation one total function of the
run-time library (`Model/PyU.lean`, `PyU_T02.lean`, `PyU_T07.lean`).  EXTERNAL (parameters of the translated definitions):
`cipher.decrypt(ct, sentinel)` / `cipher.encrypt(msg)` of the object `PKCS1_v1_5.new(key)` returns — instantiated in
`Model/C06Gen.lean` with the `Crypto` record of the model (`decX`, `encX`).  `BeaconMetadata(pt)`, `len(metadata)`,
`metadata.dumps()` and `metadata.size = …` are run-time operations over the GENERATED layout of `struct BeaconMetadata`
(`Gen/C2Struct.lean`); `try … except EOFError` is translated by guarding the one raising operation of its body.

`gen_decrypt_metadata` / `gen_encrypt_metadata` state that the translated definitions compute, for every blob / every metadata
value (integer fields any natural numbers — out of range ones raise `struct.error` —, `aes_rand` and `info` any byte strings), any
key object and any primitives, exactly the encoding of what the hand-written model computes, the raising branches included.  So
every theorem of `Props/C06.lean` about `decryptMetadata` / `encryptMetadata` is a theorem about the function text as it stands now
(the corollaries below restate the central ones), and an edit that changes the meaning of one of the two functions breaks the
proof here.  `encrypt_metadata` changes its argument: the translated definition answers `(blob, metadata afterwards)`; the state of
the caller's object after a call that RAISES is not part of it (covered by the `hist` correspondence stream only).
-/
namespace C06Gen
open PyU (V)
open C06

/-- the structure class the translated code reads and writes has the layout the model was written for (generated tables) -/
theorem gen_layout :
    Gen.PyC2M.BeaconMetadataCls.fields =
      ["magic", "size", "aes_rand", "ansi_cp", "oem_cp", "bid", "pid", "port", "flag", "ver_major", "ver_minor", "ver_build",
       "ptr_x64", "ptr_gmh", "ptr_gpa", "ip", "info"] ∧
    Gen.PyC2M.BeaconMetadata.tys =
      [.uint 4, .uint 4, .chars 16, .uint 2, .uint 2, .uint 4, .uint 4, .uint 2, .uint 1, .uint 1, .uint 1, .uint 2, .uint 4,
       .uint 4, .uint 4, .uint 4, .charsExpr "size" 51] ∧
    Gen.PyC2M.BeaconMetadata.offsets = [0, 4, 8, 24, 26, 28, 32, 36, 38, 39, 40, 41, 43, 47, 51, 55, 59] ∧
    Gen.PyC2M.BeaconMetadata.bigEndian = true :=
  ⟨bm_fields, bm_tys, bm_offsets, bm_be⟩

/-- the run-time parse of the structure from `bytes` is the model's reader (every byte string) -/
theorem gen_struct_parse (d : Bytes) :
    PyU.t07StructParse Gen.PyC2M.BeaconMetadata (.bytes d) = (parseMetadata d).map encMeta :=
  parse_enc d

/-- the run-time `dumps()` / `len()` of the structure are the model's writer (every field value) -/
theorem gen_struct_dumps (m : Metadata) :
    PyU.t07Dumps Gen.PyC2M.structs (encMeta m) = encPyS .bytes (dumpsMetadata m) ∧
    PyU.t07Len Gen.PyC2M.structs (encMeta m) = encPyS (fun d => .int d.length) (dumpsMetadata m) := by
  rw [dumps_meta, len_meta]
  by_cases hw : InWidth m
  · simp only [hw, ↓reduceIte, dumps_ok m hw]; exact ⟨rfl, rfl⟩
  · simp only [hw, ↓reduceIte, dumps_overflow m hw]; exact ⟨rfl, rfl⟩

/-- **`decrypt_metadata`**: the definition translated from the source, with `cipher.decrypt` instantiated by the model's `rsaDec`,
equals the encoding of the hand-written model — for every blob, every key object, all primitives; including the propagated
exception of pycryptodome, the sentinel / empty-plaintext ValueError, EOFError → ValueError and the magic check -/
theorem gen_decrypt_metadata (c : Crypto) (key : V) (blob : Bytes) :
    Gen.PyC2M.decrypt_metadata (decX c) (.bytes blob) key = (decryptMetadata c blob).map encMeta :=
  gen_decrypt_metadata_proof c key blob

/-- **`encrypt_metadata`**: the definition translated from the source, with `cipher.encrypt` instantiated by the model's `rsaEnc`,
answers the model's blob together with the caller's object after `metadata.size = len(metadata) - 8` — for every metadata value,
every key object, all primitives and padding bytes; including `struct.error` (from `len()` with the stale size, or from `dumps()`
with the new one) and the ValueError of a too long plaintext -/
theorem gen_encrypt_metadata (c : Crypto) (r : Rand) (key : V) (m : Metadata) :
    Gen.PyC2M.encrypt_metadata (encX c r) (encMeta m) key =
      encPyS (fun p => .tuple [.bytes p.1, encMeta p.2]) (encryptMetadataM c m r) := by
  unfold Gen.PyC2M.encrypt_metadata encryptMetadataM C06.encryptMetadata C06.sized
  by_cases hw : InWidth m
  · have hlen : 8 ≤ (rawDumps m).length := by rw [rawDumps_length]; omega
    have hsub : PyU.sub (.int (rawDumps m).length) (.int 8) = .ok (.int ((rawDumps m).length - 8 : Nat)) := by
      simp only [PyU.sub, PyU.ints2, PyU.asInt, Except.map]
      congr 2; omega
    simp only [len_meta, hw, ↓reduceIte, dumps_ok m hw]
    rw [ok_bindE, hsub, lift_ok, ok_bindE, setSize_meta, lift_ok, ok_bindE, dumps_meta]
    by_cases hw' : InWidth { m with size := (rawDumps m).length - 8 }
    · rw [if_pos hw', ok_bindE, dumps_ok _ hw']
      simp only [encX]
      cases c.rsaEnc (rawDumps { m with size := (rawDumps m).length - 8 }) r <;> rfl
    · rw [if_neg hw', err_bindE, dumps_overflow _ hw']
      rfl
  · simp only [len_meta, hw, ↓reduceIte, dumps_overflow m hw]
    rfl

/-! ### the property theorems, restated for the translated definitions -/

/-- **Round trip, for the source text.**  For every metadata whose integer fields fit their widths, every 16-byte `aes_rand` and
every info string that fits the modulus: the translated `encrypt_metadata` answers a blob of modulus length and leaves the caller's
object with the consistent size; the translated `decrypt_metadata` maps that blob back to the same object, field for field
(`ValueError` when the caller did not set the 0xBEEF magic). -/
theorem gen_metadata_roundtrip (c : Crypto) (hc : CryptoLaws c) (m : Metadata) (r : Rand) (kpub kpriv : V)
    (hw : InWidth m) (haes : m.aes_rand.length = 16)
    (hfit : 59 + m.info.length ≤ c.modulusBytes - 11) (hsz : 51 + m.info.length < 2 ^ 32) :
    ∃ blob, Gen.PyC2M.encrypt_metadata (encX c r) (encMeta m) kpub
        = .ok (.tuple [.bytes blob, encMeta { m with size := 51 + m.info.length }]) ∧
      blob.length = c.modulusBytes ∧
      Gen.PyC2M.decrypt_metadata (decX c) (.bytes blob) kpriv =
        if m.magic = 0xBEEF then .ok (encMeta { m with size := 51 + m.info.length }) else .error .valueError := by
  obtain ⟨blob, h1, h2, h3⟩ := metadata_roundtrip c hc m r hw haes hfit hsz
  have hs := sized_ok m hw haes
  refine ⟨blob, ?_, h2, ?_⟩
  · rw [gen_encrypt_metadata]
    simp only [encryptMetadataM, hs, h1]
    rfl
  · rw [gen_decrypt_metadata, h3]
    split <;> rfl

/-- the source text of `decrypt_metadata` raises nothing but ValueError, for every blob whatsoever -/
theorem gen_decrypt_only_valueError (c : Crypto) (hc : CryptoLaws c) (key : V) (blob : Bytes) (e : PyExc)
    (h : Gen.PyC2M.decrypt_metadata (decX c) (.bytes blob) key = .error e) : e = .valueError := by
  exact decrypt_only_valueError c hc blob e (PyU.map_eq_error ((gen_decrypt_metadata c key blob).symm.trans h))

/-- a plaintext that parses but does not start with `00 00 BE EF` is rejected with ValueError by the source text -/
theorem gen_bad_magic_rejected (c : Crypto) (key : V) (blob pt : Bytes) (hd : c.rsaDec blob = .ok (some pt))
    (hlen : 59 ≤ pt.length) (hm : magicField pt ≠ 0xBEEF) :
    Gen.PyC2M.decrypt_metadata (decX c) (.bytes blob) key = .error .valueError := by
  rw [gen_decrypt_metadata, bad_magic_rejected c blob pt hd hlen hm]; rfl

/-- a plaintext shorter than the header, or shorter than its size field promises, is rejected with ValueError by the source text
(the EOFError of the cstruct reader is caught) -/
theorem gen_short_plaintext_rejected (c : Crypto) (key : V) (blob pt : Bytes) (hd : c.rsaDec blob = .ok (some pt))
    (h : pt.length < 59 ∨ pt.length - 59 < sizeField pt - 51) :
    Gen.PyC2M.decrypt_metadata (decX c) (.bytes blob) key = .error .valueError := by
  rw [gen_decrypt_metadata, short_plaintext_rejected c blob pt hd h]; rfl

/-- a blob pycryptodome cannot decrypt (it raised, returned the sentinel, or returned `b""`) is rejected with ValueError -/
theorem gen_undecryptable_rejected (c : Crypto) (hc : CryptoLaws c) (key : V) (blob : Bytes)
    (h : (∃ e, c.rsaDec blob = .error e) ∨ c.rsaDec blob = .ok none ∨ c.rsaDec blob = .ok (some [])) :
    Gen.PyC2M.decrypt_metadata (decX c) (.bytes blob) key = .error .valueError := by
  rw [gen_decrypt_metadata, undecryptable_rejected c hc blob h]; rfl

/-- what the source text of `decrypt_metadata` returns carries the 0xBEEF magic, a 16-byte `aes_rand` and `max(0, size - 51)` info
bytes -/
theorem gen_decrypt_ok_shape (c : Crypto) (key : V) (blob : Bytes) (v : V)
    (h : Gen.PyC2M.decrypt_metadata (decX c) (.bytes blob) key = .ok v) :
    ∃ m, v = encMeta m ∧ m.magic = 0xBEEF ∧ m.aes_rand.length = 16 ∧ m.info.length = m.size - 51 := by
  obtain ⟨m, hm, rfl⟩ := PyU.map_eq_ok ((gen_decrypt_metadata c key blob).symm.trans h)
  obtain ⟨h1, h2, h3, _⟩ := decrypt_ok_shape c blob m hm
  exact ⟨m, rfl, h1, h2, h3⟩

/-- an integer field that does not fit its width makes the source text of `encrypt_metadata` raise `struct.error` -/
theorem gen_encrypt_overflow (c : Crypto) (r : Rand) (key : V) (m : Metadata) (h : ¬ InWidth m) :
    Gen.PyC2M.encrypt_metadata (encX c r) (encMeta m) key = .error .structError := by
  rw [gen_encrypt_metadata]
  simp only [encryptMetadataM, sized, dumps_overflow m h]
  rfl

/-- metadata that does not fit the modulus is rejected with ValueError by the source text of `encrypt_metadata` -/
theorem gen_too_long_rejected (c : Crypto) (hc : CryptoLaws c) (m : Metadata) (r : Rand) (key : V)
    (hw : InWidth m) (haes : m.aes_rand.length = 16) (hsz : 51 + m.info.length < 2 ^ 32)
    (hlong : ¬ (59 + m.info.length + 11 ≤ c.modulusBytes)) :
    Gen.PyC2M.encrypt_metadata (encX c r) (encMeta m) key = .error (.py .valueError) := by
  rw [gen_encrypt_metadata]
  have := too_long_rejected c hc m r hw haes hsz hlong
  simp only [encryptMetadataM, sized, dumps_ok m hw, this]
  rfl

/-! ### Non-vacuity: the translated definitions evaluated on concrete inputs (toy primitives of modulus length 128 / 70) -/

example : (Gen.PyC2M.encrypt_metadata (encX (toyCrypto 128) []) (encMeta sampleMetadata) .none).toOption.map
      (fun v => match v with
        | .tuple [.bytes blob, obj] => (blob.length, decMeta? obj, Gen.PyC2M.decrypt_metadata (decX (toyCrypto 128)) (.bytes blob) .none)
        | _ => (0, none, .error .typeError))
    = some (128, some { sampleMetadata with size := 56 }, .ok (encMeta { sampleMetadata with size := 56 })) := by decide +kernel
example : Gen.PyC2M.encrypt_metadata (encX (toyCrypto 128) []) (encMeta { sampleMetadata with port := 65536 }) .none
    = .error .structError := by decide +kernel
example : Gen.PyC2M.encrypt_metadata (encX (toyCrypto 70) []) (encMeta sampleMetadata) .none = .error (.py .valueError) := by
  decide +kernel
example : Gen.PyC2M.decrypt_metadata (decX (toyCrypto 128)) (.bytes (List.replicate 128 7)) .none = .error .valueError := by
  decide +kernel
example : Gen.PyC2M.decrypt_metadata (decX (toyCrypto 128)) (.bytes [1, 2, 3]) .none = .error .valueError := by decide +kernel
-- wrong-magic plaintext (59 zero bytes under the toy padding): the f-string of the error message is evaluated, then ValueError
example : Gen.PyC2M.decrypt_metadata (decX (toyCrypto 128)) (.bytes (toyPad 128 (List.replicate 59 0))) .none = .error .valueError := by
  decide +kernel
-- arguments of other kinds: `None.dumps` does not exist, `len(5)` is a TypeError, a `str` has no attribute `size` to assign
example : Gen.PyC2M.encrypt_metadata (encX (toyCrypto 128) []) .none .none = .error (.py .typeError) := by decide +kernel
example : Gen.PyC2M.encrypt_metadata (encX (toyCrypto 128) []) (.bytes [1, 2, 3, 4, 5, 6, 7, 8, 9]) .none
    = .error (.py .attributeError) := by decide +kernel

end C06Gen

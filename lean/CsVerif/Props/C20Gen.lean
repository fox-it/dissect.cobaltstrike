import CsVerif.Gen.PyUtils
import CsVerif.Props.C20
import CsVerif.Lemmas.C20Gen
/-!
C20 — the tie between the source text and the model, by translation.

`Gen/PyUtils.lean` is produced on every run by `tools/py2lean.py` from the *source* of `utils.xor`, `netbios_encode`,
`netbios_decode`, `unpack`, `pack`, `checksum8`, `is_stager_x86`, `is_stager_x64` and the `functools.partial` objects
`u8 … p64be`.  The theorems below state that each translated definition computes, for all arguments, exactly what the
hand-written model of `Model/C20.lean` computes — so every theorem of `Props/C20.lean` is a theorem about the function
text as it stands now, and an edit of one of these functions that changes its meaning breaks the corresponding proof here.
(`PyRt` = the Python semantics of the operations the translation uses, `lean/CsVerif/Model/PyRt.lean`.)
-/
namespace C20Gen
open PyRt

/-! ### xor, NetBIOS -/

/-- `utils.xor` never raises and is the byte-wise model (all-zero / empty key: identity) -/
theorem gen_xor (data key : Bytes) : Gen.PyUtils.xor data key = .ok (C20.xor data key) := by
  rw [xor_eq_xorBig, C20.xorBig_eq_xor]

theorem gen_netbios_encode (data : Bytes) (off : Int) :
    Gen.PyUtils.netbios_encode data off = C20.netbiosEncode data off := by
  unfold Gen.PyUtils.netbios_encode C20.netbiosEncode
  simp only []
  rw [encode_loop]
  simp [bytesOfInts_eq]

theorem gen_netbios_decode (data : Bytes) (off : Int) :
    Gen.PyUtils.netbios_decode data off = C20.netbiosDecode data off := by
  unfold Gen.PyUtils.netbios_decode C20.netbiosDecode
  simp only []
  have h := decode_loop data off [] 0 [] rfl
  simp only [List.nil_append] at h
  rw [show (len data : Int) = ((data.length : Nat) : Int) from rfl, range3_zero_two, h]
  cases C20.nbDecodeInts data off with
  | error e => rfl
  | ok vs => simp [Except.map, bind, Except.bind, bytesOfInts_eq]

/-! ### unpack / pack -/

theorem gen_unpack (data : Bytes) (size : Option Int) (o : C20.Order) (signed : Bool) :
    Gen.PyUtils.unpack data size (orderStr o) signed = .ok (C20.unpack data size o signed) := by
  unfold Gen.PyUtils.unpack
  rw [slice_noBound_eq, intFromBytes_eq]
  rfl

theorem gen_unpack_bad_order (data : Bytes) (size : Option Int) (order : Str) (signed : Bool)
    (h : order ≠ s "little" ∧ order ≠ s "big") : Gen.PyUtils.unpack data size order signed = .error .valueError := by
  unfold Gen.PyUtils.unpack
  rw [intFromBytes_bad _ _ _ h]

theorem gen_pack (n : Int) (size : Option Nat) (o : C20.Order) (signed : Bool) :
    Gen.PyUtils.pack n (size.map Int.ofNat) (orderStr o) signed = C20.pack n size o signed :=
  pack_eq n size o signed

theorem gen_pack_negative_size (n k : Int) (hk : k < 0) (order : Str) (signed : Bool) :
    Gen.PyUtils.pack n (some k) order signed = .error .valueError := by
  unfold Gen.PyUtils.pack
  simp only [pure_bind]
  exact intToBytes_neg n k hk order signed

theorem gen_pack_bad_order (n : Int) (size : Option Int) (order : Str) (signed : Bool)
    (h : order ≠ s "little" ∧ order ≠ s "big") : Gen.PyUtils.pack n size order signed = .error .valueError := by
  unfold Gen.PyUtils.pack
  cases size <;> simp only [pure_bind] <;> exact intToBytes_bad _ _ _ _ h

/-! ### checksum8, stager classifiers -/

theorem gen_checksum8 (t : Str) : Gen.PyUtils.checksum8 t = .ok ((C20.checksum8 t : Nat) : Int) := by
  unfold Gen.PyUtils.checksum8 C20.checksum8
  simp only [len, sum, mapOrd, strRemoveChar]
  by_cases h : t.length < 4
  · have : ((t.length : Nat) : Int) < 4 := by omega
    simp [h, this]; rfl
  · have : ¬ ((t.length : Nat) : Int) < 4 := by omega
    simp only [h, this, decide_false, Bool.false_eq_true, if_false, foldl_add_cast, Int.zero_add]
    have hf : t.filter (· != 47) = t.filter (fun x => decide (x ≠ 47)) := by
      congr 1; funext x; rw [Bool.eq_iff_iff]; simp
    rw [hf]
    rfl

theorem gen_is_stager_x86 (t : Str) : Gen.PyUtils.is_stager_x86 t = .ok (C20.isStagerX86 t) := by
  unfold Gen.PyUtils.is_stager_x86 C20.isStagerX86
  rw [gen_checksum8]
  simp only [pure, Except.pure, Except.bind, bind]
  congr 1
  rw [Bool.eq_iff_iff]; simp only [beq_iff_eq]; omega

theorem gen_is_stager_x64 (t : Str) : Gen.PyUtils.is_stager_x64 t = .ok (C20.isStagerX64 t) := by
  unfold Gen.PyUtils.is_stager_x64 C20.isStagerX64
  rw [gen_checksum8]
  simp only [bind, Except.bind, reMatch, if_true, truthy, pure, Except.pure, matchX64_eq]
  by_cases h : C20.checksum8 t = 93
  · simp [h]
    cases C20.matchX64Shape t <;> rfl
  · have : ¬ ((C20.checksum8 t : Nat) : Int) = 93 := by omega
    have e1 : (((C20.checksum8 t : Nat) : Int) == 93) = false := beq_eq_false_iff_ne.mpr this
    have e2 : (C20.checksum8 t == 93) = false := beq_eq_false_iff_ne.mpr h
    rw [e1, e2]; rfl

/-! ### the `functools.partial` objects -/

theorem gen_unpack_be (d : Bytes) (size : Option Int) (sg : Bool) :
    Gen.PyUtils.unpack_be d size sg = .ok (C20.unpack d size .big sg) := gen_unpack d size .big sg

theorem gen_pack_be (n : Int) (size : Option Nat) (sg : Bool) :
    Gen.PyUtils.pack_be n (size.map Int.ofNat) sg = C20.pack n size .big sg := gen_pack n size .big sg

theorem gen_u8 (d : Bytes) (o : C20.Order) (sg : Bool) :
    Gen.PyUtils.u8 d (orderStr o) sg = .ok (C20.unpack d (some 1) o sg) := gen_unpack d (some 1) o sg

theorem gen_u16 (d : Bytes) (o : C20.Order) (sg : Bool) :
    Gen.PyUtils.u16 d (orderStr o) sg = .ok (C20.unpack d (some 2) o sg) := gen_unpack d (some 2) o sg

theorem gen_u32 (d : Bytes) (o : C20.Order) (sg : Bool) :
    Gen.PyUtils.u32 d (orderStr o) sg = .ok (C20.unpack d (some 4) o sg) := gen_unpack d (some 4) o sg

theorem gen_u64 (d : Bytes) (o : C20.Order) (sg : Bool) :
    Gen.PyUtils.u64 d (orderStr o) sg = .ok (C20.unpack d (some 8) o sg) := gen_unpack d (some 8) o sg

theorem gen_u16be (d : Bytes) (sg : Bool) : Gen.PyUtils.u16be d sg = .ok (C20.unpack d (some 2) .big sg) :=
  gen_unpack d (some 2) .big sg

theorem gen_u32be (d : Bytes) (sg : Bool) : Gen.PyUtils.u32be d sg = .ok (C20.unpack d (some 4) .big sg) :=
  gen_unpack d (some 4) .big sg

theorem gen_u64be (d : Bytes) (sg : Bool) : Gen.PyUtils.u64be d sg = .ok (C20.unpack d (some 8) .big sg) :=
  gen_unpack d (some 8) .big sg

theorem gen_p8 (n : Int) (o : C20.Order) (sg : Bool) :
    Gen.PyUtils.p8 n (orderStr o) sg = C20.pack n (some 1) o sg := gen_pack n (some 1) o sg

theorem gen_p16 (n : Int) (o : C20.Order) (sg : Bool) :
    Gen.PyUtils.p16 n (orderStr o) sg = C20.pack n (some 2) o sg := gen_pack n (some 2) o sg

theorem gen_p32 (n : Int) (o : C20.Order) (sg : Bool) :
    Gen.PyUtils.p32 n (orderStr o) sg = C20.pack n (some 4) o sg := gen_pack n (some 4) o sg

theorem gen_p64 (n : Int) (o : C20.Order) (sg : Bool) :
    Gen.PyUtils.p64 n (orderStr o) sg = C20.pack n (some 8) o sg := gen_pack n (some 8) o sg

theorem gen_p16be (n : Int) (sg : Bool) : Gen.PyUtils.p16be n sg = C20.pack n (some 2) .big sg :=
  gen_pack n (some 2) .big sg

theorem gen_p32be (n : Int) (sg : Bool) : Gen.PyUtils.p32be n sg = C20.pack n (some 4) .big sg :=
  gen_pack n (some 4) .big sg

theorem gen_p64be (n : Int) (sg : Bool) : Gen.PyUtils.p64be n sg = C20.pack n (some 8) .big sg :=
  gen_pack n (some 8) .big sg

/-- the default call `u32(d)` / `p32(n)` of the library: byteorder `"little"`, unsigned -/
theorem gen_u32_default (d : Bytes) : Gen.PyUtils.u32 d (s "little") false = .ok (C20.unpack d (some 4) .little false) :=
  gen_u32 d .little false

theorem gen_p32_default (n : Int) : Gen.PyUtils.p32 n (s "little") false = C20.pack n (some 4) .little false :=
  gen_p32 n .little false

/-! ### Non-vacuity: the translated definitions evaluated on concrete inputs -/

example : Gen.PyUtils.xor [1, 2, 3] [255] = .ok [254, 253, 252] := by decide
example : Gen.PyUtils.xor [1, 2, 3] [0, 0] = .ok [1, 2, 3] := by decide
example : Gen.PyUtils.xor [1, 2, 3, 4, 5] [16, 32] = .ok [17, 34, 19, 36, 21] := by decide
example : Gen.PyUtils.netbios_encode [0x41, 0xff] 65 = .ok [69, 66, 80, 80] := by decide
example : Gen.PyUtils.netbios_encode [0xff] 241 = .error .valueError := by decide
example : Gen.PyUtils.netbios_decode [69, 66, 80, 80] 65 = .ok [0x41, 0xff] := by decide
example : Gen.PyUtils.netbios_decode [69, 66, 80] 65 = .error .indexError := by decide
example : Gen.PyUtils.u16be [0x12, 0x34] false = .ok 0x1234 := by decide
example : Gen.PyUtils.u16 [0x12, 0x34, 0x56] (s "little") false = .ok 0x3412 := by decide
example : Gen.PyUtils.u8 [0xff] (s "little") true = .ok (-1) := by decide
example : Gen.PyUtils.unpack [1, 2, 3] (some (-1)) (s "big") false = .ok 0x0102 := by decide
example : Gen.PyUtils.unpack [1] none (s "middle") false = .error .valueError := by decide
example : Gen.PyUtils.p32be 0x01020304 false = .ok [1, 2, 3, 4] := by decide
example : Gen.PyUtils.p16 (-2) (s "little") true = .ok [0xfe, 0xff] := by decide
example : Gen.PyUtils.p8 256 (s "little") false = .error .overflowError := by decide
example : Gen.PyUtils.pack 0x1234 none (s "little") false = .ok [0x34, 0x12] := by decide
example : Gen.PyUtils.pack 1 (some (-1)) (s "little") false = .error .valueError := by decide
example : Gen.PyUtils.checksum8 (s "/zzh") = .ok 92 := by decide
example : Gen.PyUtils.is_stager_x86 (s "/zzh") = .ok true := by decide
example : Gen.PyUtils.is_stager_x64 (s "/zz90") = .ok true := by decide
example : Gen.PyUtils.is_stager_x64 (s "/zzh") = .ok false := by decide
example : (s "middle" ≠ s "little" ∧ s "middle" ≠ s "big") := by decide

end C20Gen

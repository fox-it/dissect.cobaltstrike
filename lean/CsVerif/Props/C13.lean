import CsVerif.Lemmas.C13
import CsVerif.Gen.StrLit
/-! C13 property theorems: a profile generated from a beacon configuration is valid and faithful.

Model: `fromBeaconConfig` (Model/C13.lean) on the pretty values `settings_by_index` presents and `config.uris`;
`WellFormedCfg` is the decidable domain of the property (any latin-1 text in text settings, any `config.uris`, any text in
the quoted part of execute items); `ValidTree` / `Derives` (Lemmas/C13.lean) say that a tree is the
tree of a derivation of the generated grammar (C10's model of Lark); `specDict` is the dictionary of a tree, `expectedDict`
the dictionary the property promises. -/
namespace C13
set_option maxRecDepth 100000

/-! ### generated obligations: every name the generator can emit exists in the grammar, where it is emitted

(`Gen.ProfileGen` = names found in the source by introspection, `Grammar` = Lark's loaded grammar; `decide +kernel`).
These and the `*_match` obligations check the source against grammar and model tables; no theorem below uses them. -/

/-- `profile.set_option(kw, …)`: every keyword is an alternative of the OPTION terminal, and `set OPTION string ;` exists -/
theorem emitted_options_in_grammar : emittedOptionsOK = true := by decide +kernel

/-- `block.set_option(kw, …)` / `block._pair(kw, …)`: below the block path there is a production with that label and that
number of literals -/
theorem emitted_statements_in_grammar : emittedStmtsOK = true := by decide +kernel

/-- every block path the generator can create exists as nested block productions -/
theorem emitted_blocks_in_grammar : emittedBlocksOK = true := by decide +kernel

/-- every execute option accepted by the generator (`NtQueueApcThread_s` included) has its production -/
theorem emitted_execute_in_grammar : emittedExecuteOK = true := by decide +kernel

/-- every BeaconGate name (`BeaconGateOptions` fields and the four group names, lower-cased) has its production -/
theorem emitted_gate_in_grammar : emittedGateOK = true := by decide +kernel

/-- every BUILD argument is a data-transform block of its client block, and every step / termination label
`DataTransformBlock` can emit is a statement of `steps` / `termination` there; the same for http-get.server.output -/
theorem emitted_transforms_in_grammar : emittedTransformsOK = true := by decide +kernel

theorem emitted_names_in_grammar :
    emittedOptionsOK = true ∧ emittedStmtsOK = true ∧ emittedBlocksOK = true ∧ emittedExecuteOK = true ∧
      emittedGateOK = true ∧ emittedTransformsOK = true :=
  ⟨emitted_options_in_grammar, emitted_statements_in_grammar, emitted_blocks_in_grammar, emitted_execute_in_grammar,
    emitted_gate_in_grammar, emitted_transforms_in_grammar⟩

/-! ### generated obligations: the tables of the hand-written model are the ones the source has now -/

/-- no setting value is tested twice in the if/elif chain -/
theorem chain_keys_nodup : (actionTable.map (·.1)).Nodup := by decide +kernel

/-- same settings, in the same order, with the same `and value` guards -/
theorem chain_matches : actionTable.map (fun e => (e.1, e.2.1)) = Gen.ProfileGen.chain := by decide +kernel
theorem options_match : modelOptions = Gen.ProfileGen.options := by decide +kernel
theorem stmts_match : sameSet modelStmts Gen.ProfileGen.stmts = true := by decide +kernel
theorem literals_match : sameSet modelLiterals Gen.ProfileGen.literalValues = true := by decide +kernel

theorem execute_matches :
    Gen.ProfileGen.executeEnable = execEnable.map (fun s => (toText s, toText (dashToUnderscore (lower s)))) ∧
    Gen.ProfileGen.executeSpecial = [(toText (b "CreateThread"), toText (b "createthread_special")),
      (toText (b "CreateRemoteThread"), toText (b "createremotethread_special"))] ∧
    Gen.ProfileGen.executePath = (pathOf .procInj ++ [b "execute"]).map toText := by decide +kernel

theorem gate_matches :
    Gen.ProfileGen.gateNames = gateLabels.map (fun s => (toText s, toText (lower s))) ∧
    Gen.ProfileGen.gatePath = (pathOf .stage ++ [b "beacon_gate"]).map toText ∧
    (actionTable.find? (·.1 == Gen.ProfileGen.gateSetting)).map (·.2.2) = some Act.gate := by decide +kernel

theorem transform_names_match :
    Gen.ProfileGen.dtFlagSteps = dtFlagSteps.map toText ∧
    Gen.ProfileGen.dtTerminationOptions = dtTermOptions.map toText ∧
    Gen.ProfileGen.dtArgTerminations = dtArgTerms.map toText ∧
    sameSet (Gen.ProfileGen.requestEnable.map (·.2))
      ([EnStep.base64, .base64url, .netbios, .netbiosu, .uriAppend, .print, .mask].map fun e => toText e.pyName) = true ∧
    sameSet (Gen.ProfileGen.requestArg.map (·.2))
      ([ArgStep.header, .parameter, .append, .prepend].map fun e => toText e.pyName) = true ∧
    sameSet (Gen.ProfileGen.requestStatic.map (·.2))
      ([StaticStep.hdr, .hostHdr, .param].map fun e => toText e.pyName) = true ∧
    sameSet (Gen.ProfileGen.recoverFlags.map (·.2) ++ Gen.ProfileGen.recoverLens.map (·.2))
      ([RStep.append 0, .prepend 0, .base64, .print, .netbios, .netbiosu, .base64url, .mask].map fun r =>
        match recoverOpt r with
        | .bare n => toText n
        | .pair n _ => toText n) = true := by decide +kernel

theorem blocks_match :
    Gen.ProfileGen.buildNames = [(12, toText (k "metadata")), (12, toText (k "output")), (13, toText (k "id")), (13, toText (k "output"))] ∧
    Gen.ProfileGen.dtBlocks = [(12, (pathOf .getClient).map toText), (13, (pathOf .postClient).map toText)] ∧
    Gen.ProfileGen.serverOutput = [b "http_get", b "server", b "output"].map toText ∧
    Gen.ProfileGen.recoverSetting = 11 ∧
    Gen.ProfileGen.finalBlocks = [[b "http_get", b "server"], [b "http_get", b "client"], [b "http_get"],
      [b "http_post", b "client"], [b "http_post"], [b "stage"], [b "process_inject"], [b "dns_beacon"],
      [b "http_beacon"]].map (·.map toText) := by decide +kernel

theorem listProps_pinned : listProps.length = 9 := by decide +kernel

/-- the labels `noEmptyBlocks` / `empty_blocks_absent` speak about are exactly the labels of the `{ … }` blocks the generator
can create, at any depth (`Gen.ProfileGen.blocks`: every block path found in the source, prefix closed) -/
theorem brace_labels_are_blocks :
    sameSet (Gen.ProfileGen.blocks.filterMap List.getLast?) (braceLabels.map toText) = true := by decide +kernel

/-- the settings loop starts with `if isinstance(value, str): value = value.encode("latin-1")`: text taken from the
configuration reaches `value_to_string` as bytes (`vts (.str s) = C12.valueToString s`, everything escaped).  Without it
`str` values would take the `str` path, which escapes `"` only (a backslash in a user agent would change the value). -/
theorem str_values_encoded : Gen.ProfileGen.strValuesEncoded = true := by decide

/-- the SETTING_DOMAINS branch is the modelled one: join of the URIs that are not `None`, option omitted when the joined
text is empty, literal written from `uris.encode("latin-1")` (bytes path) -/
theorem uris_branch_modelled : Gen.ProfileGen.urisBranch = true := by decide

/-- the execute branch hands the quoted part of `CreateThread "…"` / `CreateRemoteThread "…"` to `value_to_string` as
`val[1:-1].encode()`: bytes path (`execItem` writes `C12.valueToString val`).  As a `str` only `"` would be escaped and a
backslash in a module name (`C:\win\a.dll!f`) would change or break the regenerated statement. -/
theorem execute_val_encoded : Gen.ProfileGen.executeValEncoded = true := by decide

/-- what the two facts above mean for the model: text and the joined URIs are written with the bytes escaping -/
theorem text_takes_bytes_path (s : Bytes) (uris : List (Option Bytes)) (st : St) :
    vts (.str s) = some (C12.valueToString s) ∧
    runAct uris st .none .uris =
      .ok (if (joinUris uris).isEmpty then st else st.app .httpGet (stmt (b "uri") [C12.valueToString (joinUris uris)])) := by
  refine ⟨rfl, ?_⟩
  simp only [runAct]
  split <;> rfl


/-- the STRING terminal is the regular expression C12's scanner (used by `litOK`) was derived from -/
theorem string_pattern_is_modelled :
    Gen.StrLit.stringPattern = C12.modelledPattern ∧ Gen.StrLit.stringPatternFlags = [] ∧
      Gen.StrLit.globalRegexFlags = 0 ∧ Gen.StrLit.quoteTerminals = ["STRING"] := by
  decide

/-! ### generation never fails -/

/-- For every well-formed configuration `from_beacon_config` returns a tree (no exception). -/
theorem generation_total (cfg : List (Nat × PVal)) (uris : List (Option Bytes)) (h : WellFormedCfg cfg = true) :
    ∃ t, fromBeaconConfig cfg uris = .ok t := by
  obtain ⟨t, ht, _⟩ := total_and_valid h
  exact ⟨t, ht⟩

/-- the settings may come in any TLV order, repeated or not: `settings_by_index` has unique keys -/
theorem settingsByIndex_nodup (tlvs : List (Nat × PVal)) : ((settingsByIndex tlvs).map (·.1)).Nodup := by
  unfold settingsByIndex
  suffices ∀ d : List (Nat × PVal), (d.map (·.1)).Nodup → ((tlvs.foldl (fun d kv => dictInsert kv d) d).map (·.1)).Nodup from
    this [] (by simp)
  induction tlvs with
  | nil => intro d h; exact h
  | cons kv rest ih => intro d h; exact ih _ (dictInsert_nodup kv d h)

/-! ### the generated tree is valid -/

/-- For every well-formed configuration the generated tree is the tree of a well-formed derivation of the grammar as
it is now; hence Lark's Reconstructor (C10's `printTree`) prints it, to the token sequence of that derivation. -/
theorem generated_valid (cfg : List (Nat × PVal)) (uris : List (Option Bytes)) (h : WellFormedCfg cfg = true)
    (t : PTree) (ht : fromBeaconConfig cfg uris = .ok t) :
    ∃ d : C10.Deriv, d.WF C10.gen = true ∧ C10.toTree d = t.intern ∧
      C10.printTree C10.gen t.intern = some d.yield ∧ printable t = true := by
  obtain ⟨t', ht', hv⟩ := total_and_valid h
  rw [ht] at ht'
  cases ht'
  obtain ⟨d, hd, hdt⟩ := valid_deriv hv
  have hp := C10.print_eq_source_gen d hd
  rw [hdt] at hp
  exact ⟨d, hd, hdt, hp, by simp [printable, hp]⟩

/-- Every token of the generated tree is well formed: an OPTION token is an alternative of the OPTION terminal, and every
STRING token (configuration text and bytes with `repr`-style escapes, numbers, the `"X" * n` placeholders, constants)
is matched by the STRING regular expression as exactly one token (`litOK`: C12's scanner consumes it up to its own
closing quote and nothing else) — no value can end its literal early or leave it open. -/
theorem generated_tokens_wellformed (cfg : List (Nat × PVal)) (uris : List (Option Bytes))
    (h : WellFormedCfg cfg = true) (t : PTree) (ht : fromBeaconConfig cfg uris = .ok t) : tokensOK t.kids = true := by
  simp only [WellFormedCfg, Bool.and_eq_true] at h
  obtain ⟨st, hr, rfl⟩ := fromBeaconConfig_ok ht
  have hi := runSettings_tk uris cfg St.init st h.2 ⟨fun _ => rfl, fun _ h => by cases h⟩ hr
  exact tk_splits.finalize hi.blocks (tk_dtKids _ hi.recov) fun l _ kids hk _ => tk_block _ hk

/-- such a literal is a lexable token in the sense of C10's lexer model (whatever the keyword set) -/
theorem literal_token_lexes (kws : List C10.Text) (tok : Bytes) (h : litOK tok = true) :
    C10.lexableTok kws (toText tok) = true :=
  litOK_lexable kws tok h

/-- The regenerated text is valid: for every well-formed configuration whose tree carries no `# dns_resolver` comment
statement (`noComment`; the comment is, by design, not a token sequence for the lexer), `as_text()` exists and lexes
— white space and indentation of `postproc` included — back to exactly the tokens the Reconstructor printed, i.e. to the
token sequence of a derivation of the grammar (C10's lexer model `lexProfile`, any identifier-character test `idc`
that rejects blank, line feed and `;`). -/
theorem generated_text_relexes (idc : Nat → Bool) (hidc : C10.IdcOK idc) (cfg : List (Nat × PVal))
    (uris : List (Option Bytes)) (h : WellFormedCfg cfg = true) (t : PTree) (ht : fromBeaconConfig cfg uris = .ok t)
    (hc : noComment t.kids = true) :
    ∃ toks, C10.printTree C10.gen t.intern = some toks ∧
      (C10.asText C10.gen idc t.intern).bind (C10.lexProfile C10.gen.words) = some (toks.map C10.gen.tokText) := by
  have htk := generated_tokens_wellformed cfg uris h t ht
  simp only [WellFormedCfg, Bool.and_eq_true] at h
  obtain ⟨st, hr, rfl⟩ := fromBeaconConfig_ok ht
  exact relex_of_valid idc hidc (finalize st).kids
    (finalize_allOf (runSettings_inv uris cfg _ _ h.2 inv_init hr)) htk hc

/-- Blocks with no content are omitted: in the generated tree no node that is printed as `keyword { … }` (http_get,
http_post, stage, process_inject, dns_beacon, http_beacon, client, server, output, metadata, id, transform_x86/x64,
execute, beacon_gate), at any depth, has an empty children list. -/
theorem empty_blocks_absent (cfg : List (Nat × PVal)) (uris : List (Option Bytes)) (h : WellFormedCfg cfg = true)
    (t : PTree) (ht : fromBeaconConfig cfg uris = .ok t) : noEmptyBlocks t.kids = true := by
  simp only [WellFormedCfg, Bool.and_eq_true] at h
  obtain ⟨st, hr, rfl⟩ := fromBeaconConfig_ok ht
  exact ne_splits.finalize (runSettings_ne uris cfg St.init st h.2 (fun _ => rfl) hr) (ne_dtKids _).1
    fun l _ kids hk hne => ne_block hk hne

/-! ### the generated profile is faithful -/

/-- For every well-formed configuration the dictionary of the re-parsed profile (`specDict` of the generated tree
without the `# dns_resolver` comment) is, entry for entry and in order, the dictionary the property promises
(`expectedDict`): sleeptime, jitter, spawnto, useragent, frame headers, URIs (those present, joined with `, `; no `uri`
entry when there is none), verbs, submit URI, static headers and
parameters, the steps of every BUILD group of the http-get / http-post client and of the http-get server output
(arguments byte-exact: `.tuple kw [.ok bytes]` by `C12.roundtrip`), process-inject, DNS, stage and BeaconGate
options; guarded settings with a zero / empty value are absent. -/
theorem generated_faithful (cfg : List (Nat × PVal)) (uris : List (Option Bytes)) (h : WellFormedCfg cfg = true)
    (t : PTree) (ht : fromBeaconConfig cfg uris = .ok t) :
    specDict t.reparsed = expectedDict cfg uris := by
  simp only [WellFormedCfg, Bool.and_eq_true, decide_eq_true_eq] at h
  obtain ⟨st, hr, rfl⟩ := fromBeaconConfig_ok ht
  have := runSettings_finv uris cfg [] St.init st (finv_init uris) h.2 (by simpa using h.1) hr
  exact finalize_spec (by simpa using this)

/-- the same for a configuration given as an arbitrary TLV sequence (repeated settings allowed): dict semantics first -/
theorem generated_faithful_tlv (tlvs : List (Nat × PVal)) (uris : List (Option Bytes))
    (h : (settingsByIndex tlvs).all wfSetting = true) (t : PTree)
    (ht : fromBeaconConfig (settingsByIndex tlvs) uris = .ok t) :
    specDict t.reparsed = expectedDict (settingsByIndex tlvs) uris :=
  generated_faithful _ uris (by simp [WellFormedCfg, h, settingsByIndex_nodup]) t ht

/-- plain text options state the configured text, whatever its characters (backslashes, quotes, control characters,
non-ASCII latin-1): the literal written for a text value is one STRING token and decodes (profile escape rules,
`string_token_to_bytes`) to the text itself; the dictionary value `lit (.str s)` is the text between its quotes -/
theorem text_literal_decodes (s : Bytes) :
    ∃ l, vts (.str s) = some l ∧ litOK l = true ∧ C12.stringTokenToBytes l = .ok s ∧ unquote l = lit (.str s) :=
  ⟨_, rfl, litOK_bytes s, C12.roundtrip s, rfl⟩

/-- the same for the `uri` option: its literal decodes to the URIs that are present, joined with `, ` -/
theorem uris_literal_decodes (uris : List (Option Bytes)) :
    litOK (C12.valueToString (joinUris uris)) = true ∧
      C12.stringTokenToBytes (C12.valueToString (joinUris uris)) = .ok (joinUris uris) :=
  ⟨litOK_bytes _, C12.roundtrip _⟩

/-- the literal written for any scalar consists of printable ASCII characters only: a line feed in configured text is
written `\n`, never as a raw line break -/
theorem scalar_literal_one_line (v : PVal) (l : Bytes) (h : vts v = some l) : ∀ c ∈ l, 0x20 ≤ c ∧ c < 0x7f :=
  vts_printable h

/-- The `# dns_resolver "…";` statement stays on one line, for every well-formed configuration: wherever the generated
tree has a `comment_dns_resolver` node, none of its tokens contains a line feed, so the comment the lexer sees
(`SH_COMMENT`, up to the end of the line) ends exactly where the statement ends and swallows nothing else; `reparsed`
(the tree without that statement) is then the tree of the regenerated text. -/
theorem resolver_comment_one_line (cfg : List (Nat × PVal)) (uris : List (Option Bytes)) (h : WellFormedCfg cfg = true)
    (t : PTree) (ht : fromBeaconConfig cfg uris = .ok t) : t.kids.commentsOneLine = true := by
  simp only [WellFormedCfg, Bool.and_eq_true] at h
  obtain ⟨st, hr, rfl⟩ := fromBeaconConfig_ok ht
  have hi := runSettings_col uris cfg St.init st h.2 ⟨fun _ => rfl, fun _ h => by cases h⟩ hr
  exact col_splits.finalize hi.1 (col_dtKids _ hi.2) fun l hl kids hk _ =>
    col_block (finalLabels_notComment l hl) hk

/-- every plain option states its value: the literal written for a number / text / bytes value decodes to the decimal
digits / the text / the bytes, and the dictionary value `lit v` is the text between its quotes -/
theorem scalar_literal_decodes (v : PVal) (hw : wfScalar v = true) :
    ∃ s, vts v = some s ∧ C12.stringTokenToBytes s = .ok (scalarBytes v) ∧ unquote s = lit v := by
  obtain ⟨s, hs⟩ := wfScalar_vts hw
  exact ⟨s, hs, vts_decodes hw hs, unquote_vts hw hs⟩

/-- execute items state the configured names byte for byte, whatever their characters: the generated statement(s) for a
well-formed item consist of well-formed tokens (the quoted part is one STRING literal) and their dictionary entries are the
promised ones — for `CreateThread "<text>"` the tuple `(CreateThread, <bytes of text>)` decoded from the literal -/
theorem execute_item_faithful (s : Bytes) (h : wfExecItem (some s) = true) :
    ∃ f, execItem (some s) = .ok f ∧ tokensOK f = true ∧ specForest execN execPath f.reparsed = expExecItem s := by
  obtain ⟨f, hf, hs⟩ := spec_execItem h
  obtain ⟨f', hf', ht⟩ := tk_execItem s
  rw [hf] at hf'
  cases hf'
  exact ⟨f, hf, ht, hs⟩

/-- byte-valued options (frame headers, transform arguments, static headers) decode to the exact bytes -/
theorem bytes_literal_decodes (v : Bytes) : C12.stringTokenToBytes (C12.valueToString v) = .ok v :=
  C12.roundtrip v

/-! ### non-vacuity -/

/-- sleeptime, a user agent with a quote, a backslash, a line feed and `é`, an http-get client program with binary arguments,
an execute list with a module name containing a backslash, a quote and `é` (UTF-8), a gate list, a DNS resolver with a line
feed (written as the `# dns_resolver` comment) -/
def exampleCfg : List (Nat × PVal) := [
  (3, .int 60000), (9, .str [65, 34, 92, 10, 233]), (8, .str []), (66, .str [56, 10, 56]),
  (12, .transform [.static .hdr [65, 58, 32, 66], .build (k "metadata"), .en .base64, .arg .prepend [0, 34, 92, 255],
    .arg .header [67]]),
  (11, .recover [.print, .prepend 3, .base64]),
  (51, .execute [some (k "CreateThread"), some (k "NtQueueApcThread_s"),
    some (k "CreateRemoteThread \"C:\\a\"" ++ [195, 169] ++ k ".dll!f+0x10\"")]),
  (78, .gate [k "Core", k "ExitThread"])]

example : WellFormedCfg exampleCfg = true := by decide +kernel
example : (fromBeaconConfig exampleCfg [some [47, 120]]).toOption.map printable = some true := by decide +kernel
example : (fromBeaconConfig exampleCfg [some [47, 120]]).toOption.map (fun t => noComment t.kids) = some false := by
  decide +kernel
example : (fromBeaconConfig (exampleCfg.filter (·.1 != 66)) [some [47, 120]]).toOption.map (fun t => noComment t.kids) = some true := by
  decide +kernel
example : (fromBeaconConfig exampleCfg [some [47, 120]]).toOption.map (fun t => (specDict t.reparsed).length) = some 15 := by
  decide +kernel
/-- URIs: a missing one (odd number of SETTING_DOMAINS fields) is skipped; with none left the `uri` option is absent -/
example : (expectedDict exampleCfg [some [47, 120], none, some []]).length = 15 ∧ (expectedDict exampleCfg [none]).length = 14 ∧
    (expectedDict exampleCfg [some []]).length = 14 := by decide +kernel
/-- the execute item `CreateRemoteThread "C:\a"é.dll!f+0x10"` is promised with exactly the bytes between its quotes -/
example : expExecItem (k "CreateRemoteThread \"C:\\a\"" ++ [195, 169] ++ k ".dll!f+0x10\"") =
    [([k "process-inject", k "execute"], .tuple (k "CreateRemoteThread") [.ok (k "C:\\a\"" ++ [195, 169] ++ k ".dll!f+0x10")])] := by
  decide +kernel
/-- the user agent `A"\<LF>é` is promised as the text `A\"\\\n\xe9` between the quotes -/
example : lit (.str [65, 34, 92, 10, 233]) = b "A\\\"\\\\\\n\\xe9" := by decide +kernel

end C13

import CsVerif.Model.C13Gen
import CsVerif.Props.C13
import CsVerif.Lemmas.C13Gen
/-!
C13 — the tie between the source text of `C2Profile.from_beacon_config` and the model, by (untyped) translation.

`Gen/PyC2Gen.lean` is produced on every run by `tools/py2leanu.py` (plug-in `tools/gen/py_c2gen.py`) from the *source* of the class
method: every Python value is a `PyU.V`, every Python operation one total function of `Model/PyU.lean` / `PyU_T12.lean` /
`PyU_T13.lean`.  The plug-in prepares the method in checked steps (see its header): `logger.debug(…)` statements dropped; the builder
API (`ConfigBlock.set_option / _pair / _enable / set_config_block / set_non_empty_config_block`, `C2Profile.set_option`, the block
constructors, `DataTransformBlock(steps=…)`, `HttpOptionsBlock(output=…)`, `BeaconGateBlock.from_beacon_gate_option_strings`) EXTERNAL —
block objects are threaded as values through these functions, which is exact because no block has a second live reference (checked);
the statements in front of the `if / elif` chain and every branch of more than one simple statement outlined into synthetic functions
`settings_value` / `branch_<SETTING NAME>`; the main function keeps the loop over `config.settings_by_index.items()`, the chain of 48
tests `setting == BeaconSetting.<NAME> [and value]` (the members are the constants `V.enum BeaconSetting <value>` read from the class)
and the nine `set_non_empty_config_block` calls of the assembly.

The theorems below state, for the external functions instantiated with the builder functions of the C13 model written on values
(`Model/C13Gen.lean`: `xSetOption`, `xPair`, … — `value_to_string` inside them is the translated one of C12, `DataTransformBlock` is the
model's `dtKids`; these instantiations are tied to the real builder classes by correspondence only), that each translated definition
computes exactly the encoding of what the hand-written model computes:

* `gen_settings_value`, `gen_branch_*` — the slices: text values encoded, the URIs option, the recover list, the two transform
  programs (static headers / parameters, BUILD groups in insertion order — `collections.defaultdict(list)` —, one
  `DataTransformBlock` per group), process-inject permissions, the two process-inject transforms, the execute list (for items given
  as Python `str`: splitting at the first space, `val[1:-1].encode()`, the name tests and `lower().replace("-", "_")` against the
  model's byte-level operations on the UTF-8 encoding), BeaconGate;
* `gen_settings_step` — one run of the loop body for ANY setting number and any pretty value of the shape its branch expects:
  the `if / elif` chain selects the branch the model's `actionTable` selects (the shape of the chain, which the generated-table
  obligations `chain_matches` … pin as a table, is a consequence of the translated text);
* `gen_from_beacon_config` — the whole function: loop, `if c2_recover:`, the nine `set_non_empty_config_block` calls.

The domain predicate `shapeOK` is explicit and weak: a value has the shape its branch iterates over (the model answers `TypeError` as an
out-of-domain marker elsewhere), BeaconGate names are ASCII (`str.lower`), execute items are valid UTF-8 (they denote a `str`;
`utf8_roundtrip`: the item is then the encoding of that `str`) and the part behind their first space starts and ends with a
one-byte character (true of everything `parse_execute_list` writes).  Every
`WellFormedCfg` configuration with valid UTF-8 execute items is inside it (`wf_in_domain`), so the property theorems of
`Props/C13.lean` are restated below for the translated definition.  Helper lemmas: `Lemmas/C13Gen.lean`.
-/
namespace C13Gen
open PyU C13

/-! ### the slices -/

/-- `if isinstance(value, str): value = value.encode("latin-1")` (the statements in front of the chain), for every pretty value -/
theorem gen_settings_value (v : PVal) : Gen.PyC2Gen.settings_value (encPVal v) = .ok (preV v) := settings_value_enc v

/-- SETTING_DOMAINS: `", ".join(uri for uri in config.uris if uri is not None)`, the option only when the text is not empty, the
literal written from the latin-1 bytes — for every list of URIs (any text, `None` entries) and any `settings_by_index` -/
theorem gen_branch_domains (x : V) (uris : List (Option Bytes)) (f : PForest) :
    domainsG (.inst Gen.PyC2Gen.BeaconConfigCls [x, encUris uris]) (encBlock f) = .ok (encBlock (
      if (joinUris uris).isEmpty then f else f ++ stmt (b "uri") [C12.valueToString (joinUris uris)])) :=
  domainsG_eq x uris f

/-- SETTING_C2_RECOVER: the list handed to `DataTransformBlock` (`True` → the bare name, a length `n` → `(name, "X" * n)`) -/
theorem gen_branch_recover (l : List RStep) : recoverG (.list (l.map encRStep)) = .ok (encDOpts (l.map recoverOpt)) :=
  recoverG_eq l

/-- SETTING_C2_REQUEST: for EVERY program (no well-formedness needed) the branch appends `requestKids prog` to the http-get client -/
theorem gen_branch_request (prog : List TStep) (f : PForest) :
    requestG (encBlock f) (.list (prog.map encTStep)) = .ok (encBlock (f ++ requestKids prog)) :=
  requestG_eq prog f

/-- SETTING_C2_POSTREQ: the same statements on the http-post client -/
theorem gen_branch_postreq (prog : List TStep) (f : PForest) :
    postreqG (encBlock f) (.list (prog.map encTStep)) = .ok (encBlock (f ++ requestKids prog)) := by
  unfold postreqG
  rw [postreq_eq_request]
  exact requestG_eq prog f

/-- SETTING_PROCINJ_PERMS_I, for every pretty value (`value == 64` / `value == 4` is false for anything but that number) -/
theorem gen_branch_perms_i (v : PVal) (f : PForest) :
    permsIG (encBlock f) (preV v) = .ok (encBlock (
      if v.eqInt 64 then f ++ stmt (b "startrwx") [C12.valueToStringStr (b "true")]
      else if v.eqInt 4 then f ++ stmt (b "startrwx") [C12.valueToStringStr (b "false")] else f)) :=
  permsIG_eq v f

/-- SETTING_PROCINJ_PERMS: the same statements with `userwx` and the constant 32 -/
theorem gen_branch_perms (v : PVal) (f : PForest) :
    permsG (encBlock f) (preV v) = .ok (encBlock (
      if v.eqInt 64 then f ++ stmt (b "userwx") [C12.valueToStringStr (b "true")]
      else if v.eqInt 32 then f ++ stmt (b "userwx") [C12.valueToStringStr (b "false")] else f)) :=
  permsG_eq v f

/-- SETTING_PROCINJ_TRANSFORM_X86: the last `prepend` / `append` values, each written only when not empty, the block only when
one of them is -/
theorem gen_branch_inj_x86 (l : List (Bool × Bytes)) (f : PForest) :
    injX86G (encBlock f) (.list (l.map encInj))
      = .ok (encBlock (if (injKids l).isEmpty then f else f ++ block (some (b "transform_x86")) (injKids l))) :=
  injX86G_eq l f

/-- SETTING_PROCINJ_TRANSFORM_X64: the same statements, the block is `transform_x64` -/
theorem gen_branch_inj_x64 (l : List (Bool × Bytes)) (f : PForest) :
    injX64G (encBlock f) (.list (l.map encInj))
      = .ok (encBlock (if (injKids l).isEmpty then f else f ++ block (some (b "transform_x64")) (injKids l))) :=
  injX64G_eq l f

/-- the run-time library's strict UTF-8 decoder and encoder are inverse: a byte string that decodes is the encoding of the `str` it
decodes to (so "the model's execute item is valid UTF-8" and "it is the encoding of the `str` the method sees" are the same thing) -/
theorem utf8_roundtrip (s : Bytes) (cs : PyRt.Str) (h : PyU.utf8 s = .ok cs) : PyU.utf8Enc cs = .ok s :=
  PyU.utf8Enc_utf8 s cs h

/-- SETTING_PROCINJ_EXECUTE: for every list of items that are `None` (→ TypeError, as in the model) or valid UTF-8 (`execItemOK`;
the method sees the decoded `str`), including the raising branch -/
theorem gen_branch_execute (l : List (Option Bytes)) (h : l.all execItemOK = true) (f : PForest) :
    executeG (encBlock f) (.list (l.map encExecItem))
      = (execKids l).map fun kids => encBlock (if l.isEmpty then f else f ++ block (some (b "execute")) kids) :=
  executeG_eq l h f

/-- one execute item given as a Python `str` (code points `cs`, UTF-8 encoding `s`): the loop body computes the model's `execItem`
on the bytes -/
theorem gen_execute_item (cs : PyRt.Str) (s : Bytes) (h : PyU.utf8Enc cs = .ok s) (hsl : execSliceOK s = true) (g : PForest) :
    Gen.PyC2Gen.branch_SETTING_PROCINJ_EXECUTE_loop1 xNew xSetOption xEnable xSetConfigBlock (.str cs) (encBlock g)
      = (execItem (some s)).map fun F => (PyU.Ctl.cont, encBlock (g ++ F)) :=
  gen_execute_step cs s h hsl g

/-- SETTING_BEACON_GATE, for ASCII names -/
theorem gen_branch_gate (l : List Bytes) (h : l.all (fun s => s.all (· < 128)) = true) (f : PForest) :
    gateG (encBlock f) (.list (l.map txt))
      = .ok (encBlock (f ++ block (some (b "beacon_gate")) (PForest.flatten (l.map fun s => stmt (C13.lower s) [])))) :=
  gateG_eq l h f

/-! ### the chain and the whole function -/

/-- One run of the body of the settings loop, for ANY setting number `idx` (understood by the chain or not) and any pretty value
in the domain: the translated `if / elif` chain does what the model's `stepOne` (table lookup `actionOf` + `runAct`) does, on
every block variable and on `c2_recover` — including the `and value` guards and the settings the chain passes over. -/
theorem gen_settings_step (x : V) (uris : List (Option Bytes)) (st : St) (idx : Nat) (v : PVal) (hs : shapeOK (idx, v) = true) :
    settingsStepG (.inst Gen.PyC2Gen.BeaconConfigCls [x, encUris uris]) (.tuple [.int (idx : Int), encPVal v]) (encSt st)
      = (stepOne uris st (idx, v)).map fun st' => (PyU.Ctl.cont, encSt st') :=
  settingsStepG_eq x uris st idx v hs

/-- `C2Profile.from_beacon_config(config)`: for every configuration in the domain and every `config.uris`, the translated method
returns the encoding of the children of the tree the model returns, or raises what the model raises. -/
theorem gen_from_beacon_config (cfg : List (Nat × PVal)) (uris : List (Option Bytes)) (h : cfg.all shapeOK = true) :
    fromBeaconConfigG cfg uris = (fromBeaconConfig cfg uris).map fun t => encBlock t.kids := by
  unfold fromBeaconConfigG fromBeaconConfigV Gen.PyC2Gen.from_beacon_config
  have hattr : PyU.getAttr (encConfig cfg uris) "settings_by_index" = .ok (encSettings cfg) := by
    simp [PyU.getAttr, encConfig, Gen.PyC2Gen.BeaconConfigCls, lookupField]
  have hitems : PyU.t13Items (encSettings cfg) = .ok (.list (cfg.map fun kv => V.tuple [.int (kv.1 : Int), encPVal kv.2])) := by
    simp only [encSettings, PyU.t13Items, t13Pairs_map]
  have hloop := gen_settings_loop (encSettings cfg) uris cfg h St.init
  have heta : settingsStepG (.inst Gen.PyC2Gen.BeaconConfigCls [encSettings cfg, encUris uris])
      = Gen.PyC2Gen.from_beacon_config_loop1 xNew xProfSetOption xSetOption xPair xDataTransform xSetConfigBlock xEnable xGate
          xHttpOptionsOutput xSetNonEmpty (encConfig cfg uris) := rfl
  rw [heta, show encSt St.init = (V.list [], V.list [], V.list [], V.list [], V.list [], V.list [], V.list [], V.list [], V.list [], V.list [])
    from rfl] at hloop
  rw [show xNew = .ok (V.list []) from rfl] at hloop ⊢
  simp only [PyU.ok_bind, hattr, hitems, PyU.iterList, hloop]
  unfold fromBeaconConfig
  cases hr : runSettings uris St.init cfg with
  | error e => rfl
  | ok st =>
    simp only [Except.map, PyU.ok_bind, encSt, truthy_dopts, xDataTransform_enc, xHttpOptionsOutput_enc, pure_ok, finalize]
    -- `if c2_recover:` first, then the eight `set_non_empty_config_block` calls are the model's `addNonEmpty`
    cases hrec : st.recover.isEmpty <;>
      simp only [Bool.not_false, Bool.not_true, Bool.false_eq_true, ↓reduceIte, PyU.ok_bind, xSetNonEmpty_enc _ _ "server",
        xSetNonEmpty_enc _ _ "client", xSetNonEmpty_enc _ _ "http_get", xSetNonEmpty_enc _ _ "http_post",
        xSetNonEmpty_enc _ _ "stage", xSetNonEmpty_enc _ _ "process_inject", xSetNonEmpty_enc _ _ "dns_beacon",
        xSetNonEmpty_enc _ _ "http_beacon"]

/-- every well-formed configuration whose execute items are valid UTF-8 is in the domain -/
theorem wf_in_domain (cfg : List (Nat × PVal)) (hw : WellFormedCfg cfg = true) (hu : cfg.all execUtf8OK = true) :
    cfg.all shapeOK = true := by
  simp only [WellFormedCfg, Bool.and_eq_true, List.all_eq_true] at hw hu ⊢
  intro kv hkv
  exact wf_shape kv (hw.2 kv hkv) (hu kv hkv)

/-! ### the property theorems, restated for the translated definition -/

/-- `generation_total`: the source of `from_beacon_config` raises nothing on a well-formed configuration -/
theorem gen_generation_total (cfg : List (Nat × PVal)) (uris : List (Option Bytes)) (hw : WellFormedCfg cfg = true)
    (hu : cfg.all execUtf8OK = true) :
    ∃ t, fromBeaconConfigG cfg uris = .ok (encBlock t.kids) ∧ fromBeaconConfig cfg uris = .ok t := by
  obtain ⟨t, ht⟩ := generation_total cfg uris hw
  refine ⟨t, ?_, ht⟩
  rw [gen_from_beacon_config cfg uris (wf_in_domain cfg hw hu), ht]
  rfl

/-- `generated_valid`, `empty_blocks_absent`, `generated_faithful`: the tree the SOURCE builds is the tree of a derivation of the
grammar as it is now (the Reconstructor prints it), contains no empty `{ }` block, and its dictionary is the expected one -/
theorem gen_generated_valid_faithful (cfg : List (Nat × PVal)) (uris : List (Option Bytes)) (hw : WellFormedCfg cfg = true)
    (hu : cfg.all execUtf8OK = true) :
    ∃ t, fromBeaconConfigG cfg uris = .ok (encBlock t.kids) ∧ t.label = some (b "start") ∧
      (∃ d : C10.Deriv, d.WF C10.gen = true ∧ C10.toTree d = t.intern ∧ C10.printTree C10.gen t.intern = some d.yield) ∧
      printable t = true ∧ noEmptyBlocks t.kids = true ∧ specDict t.reparsed = expectedDict cfg uris := by
  obtain ⟨t, hg, ht⟩ := gen_generation_total cfg uris hw hu
  obtain ⟨d, h1, h2, h3, h4⟩ := generated_valid cfg uris hw t ht
  refine ⟨t, hg, ?_, ⟨d, h1, h2, h3⟩, h4, empty_blocks_absent cfg uris hw t ht, generated_faithful cfg uris hw t ht⟩
  unfold fromBeaconConfig at ht
  cases hr : runSettings uris St.init cfg with
  | error e => simp [hr] at ht
  | ok st =>
    simp only [hr, Except.ok.injEq] at ht
    rw [← ht]
    rfl

/-- the `uri` option the source writes decodes (by the source of `string_token_to_bytes`, C12) to the joined URIs: the literal is
`value_to_string` of the latin-1 bytes -/
theorem gen_uris_literal (x : V) (uris : List (Option Bytes)) (hne : (joinUris uris).isEmpty = false) :
    domainsG (.inst Gen.PyC2Gen.BeaconConfigCls [x, encUris uris]) (encBlock .nil)
        = .ok (encBlock (stmt (b "uri") [C12.valueToString (joinUris uris)])) ∧
      C12.stringTokenToBytes (C12.valueToString (joinUris uris)) = .ok (joinUris uris) := by
  refine ⟨?_, (uris_literal_decodes uris).2⟩
  rw [gen_branch_domains, hne]
  rfl

/-! ### Non-vacuity: the translated definition evaluated on concrete inputs -/

-- the example configuration of `Props/C13.lean` (a user agent with a quote, a backslash, a line feed and `é`; an http-get client
-- program; a recover program; an execute list with UTF-8; a BeaconGate list …) is in the domain, and the translated method computes
-- the model's tree on it
example : C13.exampleCfg.all shapeOK = true := by decide +kernel
example : C13.exampleCfg.all execUtf8OK = true := by decide +kernel
example : fromBeaconConfigG C13.exampleCfg [some [47, 120], none]
    = (fromBeaconConfig C13.exampleCfg [some [47, 120], none]).map (fun t => encBlock t.kids) := by decide +kernel
-- an empty configuration: an empty profile
example : fromBeaconConfigG [] [] = .ok (.list []) := by decide +kernel
-- sleeptime 60000 and nothing else: `set sleeptime "60000";`
example : fromBeaconConfigG [(3, .int 60000)] []
    = .ok (.list [treeV (PyU.lit "option") [tokenV "OPTION" (PyU.lit "sleeptime"), strNode (PyU.lit "\"60000\"")]]) := by decide +kernel
-- a `None` execute item: TypeError, as in the model
example : fromBeaconConfigG [(51, .execute [none])] [] = .error .typeError := by decide +kernel
-- values of other kinds (outside the model's domain; compared with the real method by the `g-arg` stream): a number where the
-- recover program is expected (`for k, v in 5` → TypeError), a `str` that is not latin-1 (UnicodeEncodeError, a ValueError)
example : fromBeaconConfigV (.inst Gen.PyC2Gen.BeaconConfigCls [.dict [.int 11] [.int 5], .list []]) = .error .typeError := by
  decide +kernel
example : fromBeaconConfigV (.inst Gen.PyC2Gen.BeaconConfigCls [.dict [.int 9] [.str [321]], .list []]) = .error .valueError := by
  decide +kernel

end C13Gen

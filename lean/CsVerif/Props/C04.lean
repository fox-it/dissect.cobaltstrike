import CsVerif.Lemmas.C04
/-! C04 property theorems: HTTP data transforms follow the Malleable C2 wire format and are invertible.

Vocabulary (Model/C04.lean): `encStep`/`decStep` = the seven encoders / decoders of `transform` / `recover`;
`encChain`/`decChain` = runs of them; `mkTransform` = the constructor; `Ref.*` = the independent reference
(structured programs `Ref.Program`, `Ref.compile` = the step list the profile compiler emits, `Ref.encode`,
`Ref.decode`); `Ref.valid` = valid program; `Ref.normalise p d` = what recover must return. -/
namespace C04
open Ref

/-! ### constructor -/

/-- tsteps / rsteps ordering for every `steps`, `reverse`, `build`: recover undoes transform last-to-first. -/
theorem rsteps_eq_reverse_tsteps (steps : List Step) (rev : Bool) (build : Option (Option Field)) :
    (mkTransform steps rev build).rsteps = (mkTransform steps rev build).tsteps.reverse :=
  mk_rsteps steps rev build

/-- server side (`reverse=True, build="output"` on a `parse_recover_binary` list): transform runs
`BUILD output`, the statements in profile order, `print`. -/
theorem server_tsteps (es : List Enc) :
    (mkTransform (serverSteps es) true (some (some .output))).tsteps
      = Step.build (some .output) :: (es.map fun e => Step.enc (intForm e)) ++ [Step.term .print] := by
  rw [mk_server]; simp [compile, Block.toSteps, List.map_map, Function.comp_def]

/-! ### step_inverse: decoder ∘ encoder = id for each of the seven encoders, on all byte strings -/

/-- append: `(data + arg)[: len - n] == data` for every bytes or int argument (negative ints included). -/
theorem append_inverse (a : Arg) (x : Bytes) : decStep (.append a) (x ++ a.toBytes) = .ok x := by
  cases a with
  | bytes b => exact dec_of_enc1 (.append (.bytes b)) x _ rfl (Or.inl ⟨fun _ => 0, rfl⟩)
  | int n =>
    by_cases hn : 0 ≤ n
    · exact dec_of_enc1 (.append (.int n)) x _ (by simpa [encOk] using hn) (Or.inl ⟨fun _ => 0, rfl⟩)
    · have h0 : n.toNat = 0 := by omega
      simp only [decStep, Arg.toBytes, Arg.len, h0, List.replicate_zero, List.append_nil, pySliceTo]
      rw [if_pos (by omega), List.take_of_length_le (by omega)]

/-- prepend: `(arg + data)[n:] == data` (int arguments must be non-negative). -/
theorem prepend_inverse (a : Arg) (h : encOk (.prepend a) = true) (x : Bytes) :
    decStep (.prepend a) (a.toBytes ++ x) = .ok x :=
  dec_of_enc1 (.prepend a) x _ h (Or.inl ⟨fun _ => 0, rfl⟩)

/-- base64: `b64decode(b64encode(d) + b"==") == d` for every `d`. -/
theorem base64_inverse (x : Bytes) : decStep .base64 (b64encode x) = .ok x := by
  simp [decStep, b64_roundtrip, liftPy]

/-- base64url: `urlsafe_b64decode(urlsafe_b64encode(d) + b"==") == d` for every `d`. -/
theorem base64url_inverse (x : Bytes) : decStep .base64url (urlsafeB64encode x) = .ok x := by
  simp [decStep, b64url_roundtrip, liftPy]

/-- netbios: `netbios_decode(netbios_encode(d).lower().upper()) == d` -/
theorem netbios_inverse (x e : Bytes) (h : C20.netbiosEncode x 0x41 = .ok e) :
    decStep .netbios (lower e) = .ok x := by
  rw [nbEncode_eq] at h; injection h with h; subst h
  simp [decStep, lower_nbEnc, (upper_nbEnc x).2, nbDecode_nbEnc, liftPy]

/-- netbiosu: `netbios_decode(netbios_encode(d).upper()) == d` -/
theorem netbiosu_inverse (x e : Bytes) (h : C20.netbiosEncode x 0x41 = .ok e) :
    decStep .netbiosu (upper e) = .ok x := by
  rw [nbEncode_eq] at h; injection h with h; subst h
  simp [decStep, (upper_nbEnc x).1, nbDecode_nbEnc, liftPy]

/-- mask: `xor((m + xor(d, m))[4:], (m + xor(d, m))[:4]) == d` for every 32-bit `m` (zero included). -/
theorem mask_inverse (m : UInt32) (x : Bytes) :
    decStep .mask (p32be m ++ C20.xor x (p32be m)) = .ok x := by
  simp only [decStep, List.take_left' (p32be_length m), List.drop_left' (p32be_length m), C20.xor_involutive]

theorem step_total (e : Enc) (r : Rand) (x : Bytes) : ∃ v r', encStep e r x = .ok (v, r') := by
  obtain ⟨v, r', h, _⟩ := encStep_spec e r x; exact ⟨v, r', h⟩

/-- `step_inverse`, uniform statement: whatever an encoder step of `transform` produces, the matching
decoder step of `recover` returns the input (all seven encoders, all byte strings, all mask values). -/
theorem step_inverse (e : Enc) (hok : encOk e = true) (r : Rand) (x v : Bytes) (r' : Rand)
    (h : encStep e r x = .ok (v, r')) : decStep e v = .ok x := by
  obtain ⟨v', r'', h', hE⟩ := encStep_spec e r x
  rw [h] at h'; injection h' with h'; injection h' with hv _; subst hv
  exact dec_of_enc1 e x v hok hE

/-! ### chain_inverse: any order and repetition of the encoders -/

theorem chain_total (es : List Enc) (r : Rand) (x : Bytes) : ∃ v r', encChain es r x = .ok (v, r') := by
  obtain ⟨v, r', h, _⟩ := encChain_spec es r x; exact ⟨v, r', h⟩

theorem chain_inverse (es : List Enc) (hok : ∀ e ∈ es, encOk e = true) (r : Rand) (x v : Bytes) (r' : Rand)
    (h : encChain es r x = .ok (v, r')) : decChain es.reverse v = .ok x := by
  obtain ⟨v', r'', h', hN⟩ := encChain_spec es r x
  rw [h] at h'; injection h' with h'; injection h' with hv _; subst hv
  exact decChain_of_encN es hok x v hN

/-! ### recover_transform -/

theorem transform_ok (p : Program) (hv : valid p = true) (c2 : C2Data) (rand : Rand) (req : Option Req)
    (hu : usesUri p = true → (req.getD emptyReq).uri = []) :
    ∃ r, transform (mkTransform (compile p) false none) rand c2 req = .ok r ∧ Placed c2 (.request r) p := by
  obtain ⟨s', h1, hP⟩ := transform_placed c2 (req.getD emptyReq) p hv (TSt.init (req.getD emptyReq) rand) hu
  refine ⟨s'.toReq (req.getD emptyReq), ?_, hP⟩
  simp only [transform, mk_client, h1, Except.map]

/-- The full statement: every valid program, payload, mask stream and initial request. -/
def recover_transform_full : Prop :=
  ∀ (p : Program), valid p = true → ∀ (c2 : C2Data) (rand : Rand) (req : Option Req),
    (transform (mkTransform (compile p) false none) rand c2 req).bind
        (fun r => recover (mkTransform (compile p) false none) (.request r))
      = .ok (normalise p c2)

/-- Proved part: as `recover_transform_full`, with the initial URI empty when the program uses uri-append.
Missing for the full statement: uri-append with a non-empty initial URI (known finding
`C04-uri-append-initial-uri`, see `recover_transform_full_fails`). -/
theorem recover_transform_partial (p : Program) (hv : valid p = true) (c2 : C2Data) (rand : Rand)
    (req : Option Req) (hu : usesUri p = true → (req.getD emptyReq).uri = []) :
    (transform (mkTransform (compile p) false none) rand c2 req).bind
        (fun r => recover (mkTransform (compile p) false none) (.request r))
      = .ok (normalise p c2) := by
  obtain ⟨r, h1, hP⟩ := transform_ok p hv c2 rand req hu
  rw [h1]
  simp only [Except.bind, recover, mk_rsteps, mk_client]
  exact recover_of_placed p hv c2 _ hP

/-- The full statement is false for the code as it is: `[BUILD metadata, uri_append]`, `request.uri = b"/x"`,
`metadata = b"AB"` recovers `b"/xAB"`. -/
theorem recover_transform_full_fails : ¬ recover_transform_full := by
  intro h
  have := h [.block ⟨.metadata, [], .uriAppend⟩] (by decide) ⟨none, some [65, 66], none⟩ (fun _ => 0)
    (some ⟨[], [47, 120], [], [], []⟩)
  revert this
  decide

/-- server side (`HttpDataTransform(parse_recover_binary(..), reverse=True, build="output")`):
recovering the response body produced by `transform` returns the output. -/
theorem recover_transform_server (es : List Enc) (hok : ∀ e ∈ es, encOk e = true) (c2 : C2Data) (rand : Rand)
    (req : Option Req) :
    (transform (mkTransform (serverSteps es) true (some (some .output))) rand c2 req).bind
        (fun r => recover (mkTransform (serverSteps es) true (some (some .output))) (.response r.headers r.body))
      = .ok ⟨some ((c2.output).getD []), none, none⟩ := by
  obtain ⟨r, h1, hP⟩ := transform_server_placed es hok c2 rand req
  rw [h1]
  simp only [Except.bind, recover, mk_rsteps, mk_server]
  exact recover_of_placed _ (valid_server es hok) c2 _ hP

/-! ### cross decoding against the independent reference -/

/-- library-encoded messages decode with the reference decoder -/
theorem ref_decodes_model (p : Program) (hv : valid p = true) (c2 : C2Data) (rand : Rand)
    (req : Option Req) (hu : usesUri p = true → (req.getD emptyReq).uri = []) :
    (transform (mkTransform (compile p) false none) rand c2 req).map
        (fun r => Ref.decode p (.request r) ⟨none, none, none⟩)
      = .ok (some (normalise p c2)) := by
  obtain ⟨r, h1, hP⟩ := transform_ok p hv c2 rand req hu
  rw [h1]
  simp only [Except.map, refDecode_of_placed p hv c2 _ hP]

/-- reference-encoded messages (base64url unpadded, as Cobalt Strike emits it) are recovered by the library -/
theorem model_decodes_ref (p : Program) (hv : valid p = true) (c2 : C2Data) (rand : Rand) (req : Req)
    (hu : usesUri p = true → req.uri = []) :
    recover (mkTransform (compile p) false none) (.request (Ref.encode p rand c2 req))
      = .ok (normalise p c2) := by
  simp only [recover, mk_rsteps, mk_client]
  exact recover_of_placed p hv c2 _ (refEncode_placed c2 p hv rand req hu)

/-- server side: a reference-encoded `output { es…; print; }` body (actual prepend/append strings) is recovered
by the library from the length-only `parse_recover_binary` program. -/
theorem model_decodes_ref_server (es : List Enc) (hok : ∀ e ∈ es, encOk e = true) (c2 : C2Data) (rand : Rand)
    (req : Req) :
    let r := Ref.encode [.block ⟨.output, es, .print⟩] rand c2 req
    recover (mkTransform (serverSteps es) true (some (some .output))) (.response r.headers r.body)
      = .ok ⟨some ((c2.output).getD []), none, none⟩ := by
  intro r
  have hv : valid [.block ⟨.output, es, .print⟩] = true := by
    simpa [valid, places] using hok
  have hP := refEncode_placed c2 _ hv rand req (fun h => by simp [usesUri, places, Item.place] at h)
  obtain ⟨v, hl, hN⟩ := hP ⟨.output, es, .print⟩ (List.mem_singleton.mpr rfl)
  simp only [recover, mk_rsteps, mk_server]
  refine recover_of_decodes [.block ⟨.output, es.map intForm, .print⟩] c2 _ fun b hb => ?_
  obtain rfl : b = ⟨.output, es.map intForm, .print⟩ := by simpa using hb
  refine ⟨v, hl, ?_⟩
  rw [← List.map_reverse, decChain_intForm]
  exact decChain_of_encN es hok _ _ hN

/-- server side: the reference decoder (length-only view of prepend/append) decodes what the library emits -/
theorem ref_decodes_model_server (es : List Enc) (hok : ∀ e ∈ es, encOk e = true) (c2 : C2Data) (rand : Rand)
    (req : Option Req) :
    (transform (mkTransform (serverSteps es) true (some (some .output))) rand c2 req).map
        (fun r => Ref.decode [.block ⟨.output, es.map intForm, .print⟩] (.response r.headers r.body) ⟨none, none, none⟩)
      = .ok (some ⟨some ((c2.output).getD []), none, none⟩) := by
  obtain ⟨r, h1, hP⟩ := transform_server_placed es hok c2 rand req
  rw [h1]
  simp only [Except.map, refDecode_of_placed _ (valid_server es hok) c2 _ hP]
  rfl

/-- the reference is consistent with itself (the specification is satisfiable) -/
theorem ref_decodes_ref (p : Program) (hv : valid p = true) (c2 : C2Data) (rand : Rand) (req : Req)
    (hu : usesUri p = true → req.uri = []) :
    Ref.decode p (.request (Ref.encode p rand c2 req)) ⟨none, none, none⟩ = some (normalise p c2) :=
  refDecode_of_placed p hv c2 _ (refEncode_placed c2 p hv rand req hu)

/-! ### Non-vacuity: concrete programs meeting the hypotheses, concrete wire bytes -/

/-- `metadata { mask; base64url; prepend "S="; header "Cookie"; } id { netbios; parameter "id"; }
    header "Accept" "*/*"; output { base64; print; }` -/
def exampleProgram : Program :=
  [.block ⟨.metadata, [.mask, .base64url, .prepend (.bytes [83, 61])], .header [67, 111, 111, 107, 105, 101]⟩,
   .deco (.header [65, 99, 99, 101, 112, 116] [42, 47, 42]),
   .block ⟨.id, [.netbios], .parameter [105, 100]⟩,
   .block ⟨.output, [.base64], .print⟩]

example : valid exampleProgram = true := by decide
example : usesUri exampleProgram = false := by decide
example : valid [.block ⟨.metadata, [.append (.int 3), .netbiosu], .uriAppend⟩] = true := by decide
-- two blocks with the same termination are not valid
example : valid [.block ⟨.metadata, [], .print⟩, .block ⟨.id, [], .print⟩] = false := by decide
-- `"AB"` → base64 `"QUI="`, base64url as the library emits it `"QUI="`, reference (Cobalt Strike) `"QUI"`
example : b64encode [65, 66] = [81, 85, 73, 61] := by decide
example : urlsafeB64encode [251, 255] = [45, 95, 56, 61] := by decide
example : Ref.b64urlenc [251, 255] = [45, 95, 56] := by decide
example : decStep .base64url [45, 95, 56] = .ok [251, 255] := by decide
-- lenient decoder: non-alphabet bytes are discarded, data after the padding is ignored, wrong length raises
example : b64decode [81, 10, 85, 73, 61, 81] = .ok [65, 66] := by decide
example : b64decode [81] = .error .valueError := by decide
example : transform (mkTransform (compile [.block ⟨.metadata, [.netbios, .prepend (.bytes [61])], .header [104]⟩]) false none)
    (fun _ => 0) ⟨none, some [171], none⟩ none = .ok ⟨[], [], [], [([104], [61, 107, 108])], []⟩ := by decide
example : recover (mkTransform [.term .print, .enc (.append (.int 2)), .enc .mask] true (some (some .output)))
    (.response [] [1, 2, 3, 4, 64, 64, 88, 88]) = .ok ⟨some [65, 66], none, none⟩ := by decide

end C04

import CsVerif.Lemmas.C02
/-! C02 — settings are decoded exactly and all views agree: property theorems.

Vocabulary (Model/C02.lean): `iterSettings d` = `BeaconConfig(d).settings_tuple`, `serialize` = the big-endian TLV
encoder (spec), `settingsMapG prettyF ss it pretty parse` = `settings_map(index_type, pretty, parse)` as an ordered
item list where `prettyF i = some fn` iff `SETTING_TO_PRETTYFUNC` has an entry for `BeaconSetting(i)` (the content of
the functions is a parameter and may raise), `settingsMap content` = the same with the dispatch of the generated key set.
(Lemmas/C02.lean): `Yielded`, `NoMixedIdentity`, `Key.toName`, `Key.toConst`, `rekey`, `noPretty`, `maskVals`, `pushKey`. -/
namespace C02
open Gen.Beacon

/-! ### generated obligations: what the model hard-codes about the source -/

/-- `struct Setting` is three big-endian uint16 fields followed by `char value[length]` -/
theorem struct_layout :
    settingStruct = [("index", "BeaconSetting"), ("type", "SettingsType"), ("length", "uint16"), ("value", "char[length]")] ∧
    settingStructBigEndian = true ∧ settingIndexBytes = 2 ∧ settingTypeBytes = 2 ∧ settingLengthBytes = 2 :=
  ⟨rfl, rfl, rfl, rfl, rfl⟩

/-- the Cobalt Strike numbering the property text refers to -/
theorem enum_numbering :
    settingUserAgent = 9 ∧ settingWatermarkHash = 36 ∧ deprecatedInjectOptions = 36 ∧
    typeNone = 0 ∧ typeShort = 1 ∧ typeInt = 2 ∧ typePtr = 3 ∧ settingsTypes.map Prod.fst = [0, 1, 2, 3] := by
  decide

/-- the byte-string name tables used by the model list the same values as the string tables -/
theorem name_tables_aligned :
    settingNameBytes.map Prod.fst = settingNames.map Prod.fst ∧
    deprecatedNameBytes.map Prod.fst = deprecatedNames.map Prod.fst ∧
    (∀ k ∈ prettyKeys, (settingNameBytes.lookup k).isSome) := by
  decide +kernel

/-! ### decoding -/

/-- The loop never runs out of fuel (no divergence, also not in the User-Agent scan) and never raises:
`iterSettings` is total and its error arm is dead. -/
theorem iterSettingsE_eq (d : Bytes) : iterSettingsE d = .ok (iterSettings d) := by
  rw [iterSettings_parseSpec]; exact iterSettingsE_parseSpec d

/-- Compositional form of the round trip: a serialized well-formed list is decoded to itself and decoding
continues on whatever follows. -/
theorem parse_serialize_append (ss : List Setting) (h : WellFormedList ss) (tail : Bytes) :
    iterSettings (serialize ss ++ tail) = ss ++ iterSettings tail := by
  simp only [iterSettings_parseSpec]; exact parseSpec_serialize_append ss h tail

/-- **parse ∘ serialize = id** for every well-formed list: with a `00 00` terminator followed by arbitrary bytes,
and at end of data. -/
theorem parse_serialize (ss : List Setting) (h : WellFormedList ss) (tail : Bytes) :
    iterSettings (serialize ss ++ [0, 0] ++ tail) = ss ∧ iterSettings (serialize ss) = ss := by
  constructor
  · rw [List.append_assoc, parse_serialize_append ss h, iterSettings_parseSpec]
    simp [parseSpec_terminator]
  · have := parse_serialize_append ss h []
    rw [List.append_nil] at this
    rw [this, iterSettings_parseSpec, parseSpec_short [] (by simp)]
    simp

/-- A record cut anywhere before its end (header or value) is dropped, the records before it are kept. -/
theorem truncated_drops_partial (ss : List Setting) (h : WellFormedList ss) (s : Setting) (hs : s.Encodable)
    (p : Bytes) (hp : p <+: serializeOne s) (hlt : p.length < (serializeOne s).length) :
    iterSettings (serialize ss ++ p) = ss := by
  rw [parse_serialize_append ss h, iterSettings_parseSpec, parseSpec_partial s hs p hp hlt]
  simp

/-- Truncating a serialized list at any byte offset keeps exactly the records that are complete. -/
theorem truncated_at_any_offset (ss : List Setting) (h : WellFormedList ss) (n : Nat) :
    ∃ k, iterSettings ((serialize ss).take n) = ss.take k ∧ (serialize (ss.take k)).length ≤ n := by
  induction ss generalizing n with
  | nil => exact ⟨0, by rw [iterSettings_parseSpec]; exact parseSpec_short _ (by simp [serialize]), Nat.zero_le _⟩
  | cons s ss ih =>
    obtain ⟨hs, hss⟩ := List.forall_mem_cons.mp h
    rw [serialize_cons, iterSettings_parseSpec]
    by_cases hn : n < (serializeOne s).length
    · refine ⟨0, ?_, Nat.zero_le _⟩
      rw [List.take_append_of_le_length (by omega)]
      exact parseSpec_partial s hs.1 _ (List.take_prefix _ _) (by rw [List.length_take]; omega)
    · obtain ⟨k, hk, hlen⟩ := ih hss (n - (serializeOne s).length)
      refine ⟨k + 1, ?_, ?_⟩
      · rw [List.take_append, List.take_of_length_le (by omega), parseSpec_cons s hs, ← iterSettings_parseSpec, hk]
        rfl
      · rw [List.take_succ_cons, serialize_cons, List.length_append]
        omega

/-- **User-Agent continuation, NUL found**: a User-Agent record of length 0x80 whose value does not end in NUL
takes the following bytes up to (not including) the next NUL into its value; `length` stays 0x80 and decoding
resumes *at* that NUL. -/
theorem useragent_continuation (pre : List Setting) (hpre : WellFormedList pre) (ua : Setting)
    (hua : ua.Encodable) (hov : ua.uaOverlong) (ext rest : Bytes) (hext : ∀ b ∈ ext, b ≠ 0) :
    iterSettings (serialize pre ++ (serializeOne ua ++ (ext ++ 0 :: rest))) =
      pre ++ { ua with value := ua.value ++ ext, deprecated := false } :: iterSettings (0 :: rest) := by
  rw [parse_serialize_append pre hpre]
  simp only [iterSettings_parseSpec]
  obtain ⟨h1, h2⟩ := scan_nonzero ext (0 :: rest) hext
  rw [parseSpec_ua ua hua hov, h1, h2]
  simp

/-- **User-Agent continuation, end of data**: without a NUL the value takes everything up to the end of the data
and decoding stops (the scan terminates). -/
theorem useragent_continuation_eof (pre : List Setting) (hpre : WellFormedList pre) (ua : Setting)
    (hua : ua.Encodable) (hov : ua.uaOverlong) (ext : Bytes) (hext : ∀ b ∈ ext, b ≠ 0) :
    iterSettings (serialize pre ++ (serializeOne ua ++ ext)) =
      pre ++ [{ ua with value := ua.value ++ ext, deprecated := false }] := by
  rw [parse_serialize_append pre hpre]
  simp only [iterSettings_parseSpec]
  obtain ⟨h1, h2⟩ := scan_nonzero ext [] hext
  rw [List.append_nil] at h1 h2
  rw [parseSpec_ua ua hua hov, h1, h2]
  simp [parseSpec_short]

/-- the over-long condition is exactly "length field 0x80 and last value byte non-NUL" for a 128-byte value -/
theorem uaOverlong_iff (s : Setting) (hl : s.value.length = s.length) :
    s.uaOverlong ↔ s.index = settingUserAgent ∧ s.length = 0x80 ∧ s.value.getLast? ≠ some 0 ∧ s.value ≠ [] := by
  obtain ⟨hle, hiff⟩ := rstripNul_length s.value
  unfold Setting.uaOverlong
  constructor
  · rintro ⟨h1, h2, h3⟩
    exact ⟨h1, h2, hiff.mp (by omega), fun he => by rw [he] at hl; simp at hl; omega⟩
  · rintro ⟨h1, h2, h3, _⟩
    exact ⟨h1, h2, by rw [hiff.mpr h3]; omega⟩

/-- **Soundness of decoding**: for *arbitrary* bytes, what was decoded re-serializes to a prefix of the data
(records are in on-disk order with index, type, length and value bytes exactly as they are in the block), and
decoding stopped either at a `00 00` index or where no complete record follows. -/
theorem parse_sound (d : Bytes) :
    ∃ rest, d = serialize (iterSettings d) ++ rest ∧ (rest.take 2 = [0, 0] ∨ decodeOne rest = none) := by
  rw [iterSettings_parseSpec]; exact parseSpec_sound d

/-- Every yielded setting has a non-zero 16-bit index, 16-bit type and length, at least `length` value bytes
(more only for a continued User-Agent), and its enum identity is `DeprecatedBeaconSetting` iff index 36 with TYPE_SHORT. -/
theorem yielded_fields (d : Bytes) : ∀ s ∈ iterSettings d, Yielded s := by
  rw [iterSettings_parseSpec]; exact parseSpec_yielded d

/-! ### integers -/

/-- TYPE_SHORT / TYPE_INT values are exposed as unsigned 16 / 32 bit integers (whatever the value length is:
`u16be` reads at most the first two bytes), everything else as the raw bytes. -/
theorem short_int_unsigned (pretty parse : Bool) (s : Setting) :
    ((pretty || parse) = true → s.type = typeShort →
        convert pretty parse s = .int (u16be s.value) ∧ u16be s.value < 2 ^ 16) ∧
    ((pretty || parse) = true → s.type = typeInt →
        convert pretty parse s = .int (u32be s.value) ∧ u32be s.value < 2 ^ 32) ∧
    ((pretty || parse) = false ∨ (s.type ≠ typeShort ∧ s.type ≠ typeInt) →
        convert pretty parse s = .bytes s.value) := by
  have hne : typeInt ≠ typeShort := by decide
  unfold convert
  rw [Bool.or_comm parse pretty]
  refine ⟨fun hp ht => ⟨?_, fromBE_take_lt _ 2⟩, fun hp ht => ⟨?_, fromBE_take_lt _ 4⟩, fun h => ?_⟩
  · rw [if_pos hp, if_pos ht]
  · rw [if_pos hp, if_neg (ht ▸ hne), if_pos ht]
  · rcases h with h | ⟨h1, h2⟩
    · rw [if_neg (h ▸ Bool.false_ne_true)]
    · rw [if_neg h1, if_neg h2, ite_self]

/-- the conversions are big-endian: exact values for 2- and 4-byte values -/
theorem u16be_u32be_exact (a b c d : UInt8) :
    u16be [a, b] = a.toNat * 256 + b.toNat ∧
    u32be [a, b, c, d] = ((a.toNat * 256 + b.toNat) * 256 + c.toNat) * 256 + d.toNat := by
  simp [u16be, u32be, fromBE]

/-- `max_setting_enum` raises ValueError exactly on an empty configuration, otherwise it is the maximum. -/
theorem max_setting_enum (ss : List Setting) :
    (maxSettingEnum ss = .error .valueError ↔ ss = []) ∧
    (∀ m, maxSettingEnum ss = .ok m → m ∈ settingEnums ss ∧ ∀ x ∈ settingEnums ss, x ≤ m) := by
  unfold maxSettingEnum settingEnums
  cases ss with
  | nil => simp
  | cons s ss =>
    refine ⟨by simp, fun m hm => ?_⟩
    cases hm
    exact List.max?_eq_some_iff.mp List.max?_cons'
/-! ### names -/

/-- The name key is injective in the enum identity (class, value): two settings share a name key iff they share
the enum key. -/
theorem nameKey_inj (d1 d2 : Bool) (v1 v2 : Nat) : nameKey d1 v1 = nameKey d2 v2 ↔ (d1 = d2 ∧ v1 = v2) :=
  ⟨nameKey_injective, fun ⟨h1, h2⟩ => by rw [h1, h2]⟩

/-- **Unknown indices keep a synthetic name** `BeaconSetting_<decimal value>`, distinct from every other name
(by `nameKey_inj`). -/
theorem unknown_index_name (v : Nat) (h : settingNameBytes.lookup v = none) :
    nameKey false v = ascii "BeaconSetting_" ++ decimal v := by
  have hp : unknownPrefixBytes = ascii "BeaconSetting_" := by decide +kernel
  simp [nameKey, enumName, h, hp]

/-- known indices are named by what cstruct resolves `BeaconSetting(v).name` to -/
theorem known_index_name (v : Nat) (n : Bytes) (h : settingNameBytes.lookup v = some n) : nameKey false v = n := by
  simp [nameKey, enumName, h]

/-- the four aliased values resolve to the newer names -/
theorem alias_names :
    nameKey false 16 = ascii "SETTING_BOF_ALLOCATOR" ∧ nameKey false 17 = ascii "SETTING_SYSCALL_METHOD" ∧
    nameKey false 48 = ascii "SETTING_PROCINJ_BOF_REUSE_MEM" ∧ nameKey false 36 = ascii "SETTING_WATERMARKHASH" ∧
    nameKey true 36 = ascii "SETTING_INJECT_OPTIONS" := by
  decide +kernel

/-- **Index 36 is named by its type** in every decoded configuration. -/
theorem index36_named_by_type (d : Bytes) (s : Setting) (hs : s ∈ iterSettings d) (h36 : s.index = 36) :
    (s.type = 1 → keyOf .name s = .name (ascii "SETTING_INJECT_OPTIONS") ∧ keyOf .enum s = .enum true 36) ∧
    (s.type ≠ 1 → keyOf .name s = .name (ascii "SETTING_WATERMARKHASH") ∧ keyOf .enum s = .enum false 36) := by
  have hd := deprecated_iff hs
  constructor
  · intro h1
    have hy : s.deprecated = true := hd.mpr ⟨h36, h1⟩
    simp only [keyOf, hy, h36, alias_names.2.2.2.2]
    exact ⟨trivial, trivial⟩
  · intro h1
    have hy : s.deprecated = false := Bool.not_eq_true _ ▸ fun h => h1 (hd.mp h).2
    simp only [keyOf, hy, h36, alias_names.2.2.2.1]
    exact ⟨trivial, trivial⟩

/-! ### views -/

/-- The name-keyed mapping is the enum-keyed mapping with every key replaced by its name — for every list, every
argument combination, and also when a pretty function raises (same exception). -/
theorem views_agree_name (prettyF : Nat → Option (Val → Py Val)) (ss : List Setting) (pretty parse : Bool) :
    settingsMapG prettyF ss .name pretty parse =
      (settingsMapG prettyF ss .enum pretty parse).map (rekey Key.toName) :=
  buildDict_mapKey Key.toName (keyOf .enum) (valueOf prettyF pretty parse) (fun k => ∃ d v, k = .enum d v)
    (by
      rintro _ _ ⟨d1, v1, rfl⟩ ⟨d2, v2, rfl⟩ hab
      obtain ⟨h1, h2⟩ := nameKey_injective (Key.name.inj hab)
      rw [h1, h2])
    ss [] (fun _ h => by cases h) (fun s _ => ⟨_, _, rfl⟩)

/-- The const-keyed mapping is the enum-keyed mapping with every key replaced by its integer value, provided no
index occurs under both enum identities (the name↔index map is injective on the list). -/
theorem views_agree_const (prettyF : Nat → Option (Val → Py Val)) (ss : List Setting) (pretty parse : Bool)
    (h : NoMixedIdentity ss) :
    settingsMapG prettyF ss .const pretty parse =
      (settingsMapG prettyF ss .enum pretty parse).map (rekey Key.toConst) :=
  buildDict_mapKey Key.toConst (keyOf .enum) (valueOf prettyF pretty parse) (fun k => ∃ s ∈ ss, k = keyOf .enum s)
    (by
      rintro _ _ ⟨s, hs, rfl⟩ ⟨t, ht, rfl⟩ hab
      have hi : s.index = t.index := Key.const.inj hab
      simp only [keyOf, hi, h s hs t ht hi])
    ss [] (fun _ h => by cases h) (fun s hs => ⟨s, hs, rfl⟩)

/-- Raw mappings never raise. -/
theorem raw_never_raises (prettyF : Nat → Option (Val → Py Val)) (ss : List Setting) (it : IndexType) (parse : Bool) :
    ∃ m, settingsMapG prettyF ss it false parse = .ok m :=
  ⟨_, settingsMapG_raw prettyF ss it parse⟩

/-- With `pretty=True` the `parse` argument is irrelevant. -/
theorem pretty_ignores_parse (prettyF : Nat → Option (Val → Py Val)) (ss : List Setting) (it : IndexType)
    (parse : Bool) : settingsMapG prettyF ss it true parse = settingsMapG prettyF ss it true true := by
  unfold settingsMapG valueOf
  simp only [convert_pretty]

/-- **raw = pretty where there is no pretty function**: a pretty mapping that does not raise has the same length
and the same keys in the same order as the raw (parsed) mapping, and equal values under every key whose setting
has no pretty function (`noPretty`: deprecated identity, or index outside the key set of SETTING_TO_PRETTYFUNC). -/
theorem raw_eq_pretty (prettyF : Nat → Option (Val → Py Val)) (ss : List Setting) (it : IndexType)
    (parse : Bool) (mp : List (Key × Val)) (h : settingsMapG prettyF ss it true parse = .ok mp) :
    ∃ mr, settingsMapG prettyF ss it false true = .ok mr ∧
      mp.map Prod.fst = mr.map Prod.fst ∧
      maskVals (noPretty prettyF) mp = maskVals (noPretty prettyF) mr := by
  have h1 := settingsMapG_raw prettyF ss it true
  have h2 := buildDict_mask (noPretty prettyF) (keyOf it) _ _ ss [] [] mp _
    (fun s _ hp => noPretty_value prettyF it parse s hp) rfl h h1
  refine ⟨_, h1, ?_, h2⟩
  have := congrArg (List.map Prod.fst) h2
  simpa [maskVals, List.map_map, Function.comp_def] using this

/-- The same for the name-keyed mappings (`settings` against `raw_settings`), whose keys do not expose the index:
both are the re-keyed enum mappings, and those agree off the pretty keys. -/
theorem raw_eq_pretty_name (prettyF : Nat → Option (Val → Py Val)) (ss : List Setting) (parse : Bool)
    (mp : List (Key × Val)) (h : settingsMapG prettyF ss .name true parse = .ok mp) :
    ∃ mpe mre, settingsMapG prettyF ss .enum true parse = .ok mpe ∧ settingsMapG prettyF ss .enum false true = .ok mre ∧
      mp = rekey Key.toName mpe ∧ settingsMapG prettyF ss .name false true = .ok (rekey Key.toName mre) ∧
      maskVals (noPretty prettyF) mpe = maskVals (noPretty prettyF) mre := by
  rw [views_agree_name] at h
  cases he : settingsMapG prettyF ss .enum true parse with
  | error e => rw [he] at h; cases h
  | ok mpe =>
    rw [he] at h
    obtain ⟨mre, h1, _, h3⟩ := raw_eq_pretty prettyF ss .enum parse mpe he
    refine ⟨mpe, mre, rfl, h1, ?_, ?_, h3⟩
    · simp only [Except.map, Except.ok.injEq] at h; exact h.symm
    · rw [views_agree_name, h1]; rfl

/-- With the real dispatch, exactly the indices in the generated key set of SETTING_TO_PRETTYFUNC go through a
pretty function (and only under the `BeaconSetting` identity). -/
theorem dispatch_noPretty (content : Nat → Val → Py Val) (d : Bool) (v : Nat) :
    noPretty (dispatch content) (.enum d v) = (d || !prettyKeys.contains v) ∧
    noPretty (dispatch content) (.const v) = !prettyKeys.contains v := by
  unfold noPretty dispatch
  by_cases hm : v ∈ prettyKeys <;> simp [hm]

/-- Whether and with which exception `settings_map` raises does not depend on the index type. -/
theorem raises_alike (prettyF : Nat → Option (Val → Py Val)) (ss : List Setting) (it it' : IndexType)
    (pretty parse : Bool) (e : PyExc) :
    settingsMapG prettyF ss it pretty parse = .error e ↔ settingsMapG prettyF ss it' pretty parse = .error e :=
  buildDict_error_indep _ _ _ e ss [] []

/-- **All views agree** (the four cached views and `settings_map`): with the dispatch of the real table and any
content of the pretty functions, for a list without mixed identities, the name- and const-keyed mappings are
re-keyings of the enum-keyed one (same length, order, values). -/
theorem views_agree (content : Nat → Val → Py Val) (ss : List Setting) (h : NoMixedIdentity ss) :
    rawSettings content ss = (settingsMap content ss .enum false true).map (rekey Key.toName) ∧
    rawSettingsByIndex content ss = (settingsMap content ss .enum false true).map (rekey Key.toConst) ∧
    settings content ss = (settingsMap content ss .enum true true).map (rekey Key.toName) ∧
    settingsByIndex content ss = (settingsMap content ss .enum true true).map (rekey Key.toConst) :=
  ⟨views_agree_name _ ss false true, views_agree_const _ ss false true h,
   views_agree_name _ ss true true, views_agree_const _ ss true true h⟩

/-- Decoder output has no mixed identities unless index 36 occurs both with TYPE_SHORT and with another type. -/
theorem noMixed_of_decoded (d : Bytes)
    (h : ∀ s ∈ iterSettings d, ∀ t ∈ iterSettings d, s.index = 36 → t.index = 36 → (s.type = 1 ↔ t.type = 1)) :
    NoMixedIdentity (iterSettings d) := by
  intro s hs t ht hidx
  rw [Bool.eq_iff_iff, deprecated_iff hs, deprecated_iff ht, ← hidx]
  constructor
  · rintro ⟨h36, h1⟩; exact ⟨h36, (h s hs t ht h36 (hidx ▸ h36)).mp h1⟩
  · rintro ⟨h36, h1⟩; exact ⟨h36, (h s hs t ht h36 (hidx ▸ h36)).mpr h1⟩

/-! ### duplicates -/

/-- **Duplicates follow dict semantics**, for every index type alike: when no value raises (`w` = the stored values),
the keys are the distinct keys in order of *first* occurrence (`pushKey`: an existing key keeps its place), without
repetition, and the value under a key is that of the *last* setting with this key. -/
theorem duplicates_dict_semantics (prettyF : Nat → Option (Val → Py Val)) (ss : List Setting) (it : IndexType)
    (pretty parse : Bool) (w : Setting → Val) (hw : ∀ s ∈ ss, valueOf prettyF pretty parse s = .ok (w s)) :
    ∃ m, settingsMapG prettyF ss it pretty parse = .ok m ∧
      m.map Prod.fst = (ss.map (keyOf it)).foldl pushKey [] ∧
      (m.map Prod.fst).Nodup ∧
      (∀ k, k ∈ m.map Prod.fst ↔ k ∈ ss.map (keyOf it)) ∧
      (∀ k, m.lookup k = (ss.reverse.find? (fun s => keyOf it s = k)).map w) := by
  refine ⟨_, buildDict_ok (keyOf it) _ w ss [] hw, ?_⟩
  have hk := foldl_dictSet_keys (keyOf it) w ss []
  simp only [List.map_nil] at hk
  refine ⟨hk, ?_, ?_, ?_⟩
  · rw [hk]; exact foldl_pushKey_nodup _ [] List.nodup_nil
  · intro k; rw [hk, mem_foldl_pushKey]; simp
  · intro k
    rw [foldl_dictSet_lookup]
    cases ss.reverse.find? (fun s => keyOf it s = k) <;> simp

/-- the raw instance: values are the (parsed) raw values -/
theorem duplicates_raw (prettyF : Nat → Option (Val → Py Val)) (ss : List Setting) (it : IndexType) (parse : Bool) :
    ∃ m, settingsMapG prettyF ss it false parse = .ok m ∧
      m.map Prod.fst = (ss.map (keyOf it)).foldl pushKey [] ∧
      (∀ k, m.lookup k = (ss.reverse.find? (fun s => keyOf it s = k)).map (convert false parse)) := by
  obtain ⟨m, h1, h2, _, _, h5⟩ := duplicates_dict_semantics prettyF ss it false parse (convert false parse)
    (fun s _ => valueOf_raw prettyF parse s)
  exact ⟨m, h1, h2, h5⟩

/-- positions are stable: the keys after a prefix of the settings are a prefix of the final keys -/
theorem keys_first_occurrence (ks1 ks2 : List Key) :
    ks1.foldl pushKey [] <+: (ks1 ++ ks2).foldl pushKey [] := by
  rw [List.foldl_append]; exact foldl_pushKey_prefix ks2 _

/-! ### one object, many accesses -/

/-- **History independence**: on one `BeaconConfig` object (model with the four cache attributes, starting empty),
the answer of every access in any sequence of accesses — the four cached properties, `settings_map` with any
arguments, `setting_enums`, `max_setting_enum`, `settings_tuple` — equals the answer of that single access on a
fresh object; in particular `settings_map` never depends on what a property cached before. -/
theorem views_history_independent (content : Nat → Val → Py Val) (ss : List Setting) (ops : List Op) :
    (runHistory content ss {} ops).1 = ops.map (answer content ss) :=
  (runHistory_valid content ss ops {} (Cache.valid_empty content ss)).1

/-- the same from any cache state reachable by accesses, and the cache only ever holds fresh-computation results -/
theorem cache_stays_valid (content : Nat → Val → Py Val) (ss : List Setting) (ops ops' : List Op) :
    (runHistory content ss (runHistory content ss {} ops).2 ops').1 = ops'.map (answer content ss) :=
  (runHistory_valid content ss ops' _ (runHistory_valid content ss ops {} (Cache.valid_empty content ss)).2).1

/-- a cached property is filled exactly by a successful access to it (a raising pretty function leaves `None`) -/
theorem cache_filled_iff (content : Nat → Val → Py Val) (ss : List Setting) :
    (access content ss {} .settings).2.settings = (settingsMap content ss .name true true).toOption ∧
    (access content ss {} .rawSettings).2.rawSettings = (settingsMap content ss .name false true).toOption := by
  constructor <;> (simp only [access, cachedView]; split <;> simp_all [Except.toOption])

/-! ### the hypotheses are satisfiable / concrete instances -/

/-- a configuration with a SHORT, a deprecated 36, an INT, an empty PTR and an unknown index -/
def sample : List Setting :=
  [⟨1, 1, 2, [0, 8], false⟩, ⟨36, 1, 2, [0, 1], true⟩, ⟨3, 2, 4, [0, 0, 234, 96], false⟩,
   ⟨9, 3, 0, [], false⟩, ⟨75, 3, 1, [7], false⟩, ⟨1, 1, 2, [1, 187], false⟩]

example : WellFormedList sample := by decide
example : NoMixedIdentity sample := by decide
example : ¬ NoMixedIdentity [⟨36, 1, 2, [0, 1], true⟩, ⟨36, 3, 1, [65], false⟩] := by decide
example : serialize sample =
    [0, 1, 0, 1, 0, 2, 0, 8, 0, 36, 0, 1, 0, 2, 0, 1, 0, 3, 0, 2, 0, 4, 0, 0, 234, 96,
     0, 9, 0, 3, 0, 0, 0, 75, 0, 3, 0, 1, 7, 0, 1, 0, 1, 0, 2, 1, 187] := by decide
example : iterSettings (serialize sample ++ [0, 0] ++ [1, 2, 3]) = sample := (parse_serialize sample (by decide) _).1
example : iterSettings ((serialize sample).take 30) = sample.take 3 := by
  have := truncated_drops_partial (sample.take 3) (by decide) ⟨9, 3, 0, [], false⟩ (by decide) [0, 9, 0, 3]
    (by decide) (by decide)
  exact this

/-- an over-long User-Agent: 128 bytes `A` -/
def sampleUA : Setting := ⟨9, 3, 128, List.replicate 128 65, false⟩
theorem sampleUA_ok : sampleUA.Encodable ∧ sampleUA.uaOverlong := by decide +kernel
example : iterSettings (serializeOne sampleUA ++ ([66, 67] ++ 0 :: [0, 1, 2])) =
    [{ sampleUA with value := sampleUA.value ++ [66, 67] }] := by
  have := useragent_continuation [] (by decide) sampleUA sampleUA_ok.1 sampleUA_ok.2 [66, 67] [0, 1, 2] (by decide)
  simp only [serialize, List.flatMap_nil, List.nil_append] at this
  rw [this, iterSettings_parseSpec, parseSpec_terminator]
  rfl

/-- dict semantics on the sample: key 1 keeps its first position and has the last value (443) -/
example : settingsMap (fun i v => .ok (.opaque i v)) sample .const true true =
    .ok [(.const 1, .int 443), (.const 36, .int 1), (.const 3, .int 60000),
         (.const 9, .opaque 9 (.bytes [])), (.const 75, .bytes [7])] := by decide
example : (runHistory (fun i v => .ok (.opaque i v)) sample {} [.rawSettings, .settingsMap .name false false]).1 =
    [answer (fun i v => .ok (.opaque i v)) sample .rawSettings,
     answer (fun i v => .ok (.opaque i v)) sample (.settingsMap .name false false)] :=
  views_history_independent _ _ _
example : nameKey false 75 = ascii "BeaconSetting_75" := by decide +kernel
example : maxSettingEnum sample = .ok 75 ∧ maxSettingEnum [] = .error .valueError := by decide

end C02

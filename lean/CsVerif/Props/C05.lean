import CsVerif.Lemmas.C05
/-! C05 property theorems: packet encryption round-trips, is authenticated before decryption,
and the two framings split a stream back into exactly the packets concatenated.

`c : Crypto` are the primitives (AES-CBC, HMAC-SHA256) as parameters; `CryptoLaws c` are the only
assumptions about them and are used only where a theorem lists them.  `Verifies c p hk` (Lemmas/C05.lean) says that
`decrypt_packet(..., verify=True)` accepts `p` under the HMAC key `hk`. -/
namespace C05
open C20

/-! ### the assumptions are satisfiable -/

theorem cryptoLaws_satisfiable : ∃ c : Crypto, CryptoLaws c := ⟨toyCrypto, toy_laws⟩

/-! ### padding -/

/-- `pad d = d ++ 'A' * k` with `k = 16 - |d| % 16`, `1 ≤ k ≤ 16`, and the result is block aligned. -/
theorem pad_spec (d : Bytes) :
    ∃ k, pad d = d ++ List.replicate k 0x41 ∧ 1 ≤ k ∧ k ≤ 16 ∧ k = 16 - d.length % 16 ∧
      (pad d).length = d.length + k ∧ (pad d).length % 16 = 0 := by
  refine ⟨16 - d.length % 16, rfl, by omega, by omega, rfl, ?_, pad_length_mod d⟩
  rw [pad, padTo_length]

/-- the same for every positive block size -/
theorem padTo_spec (bs : Nat) (hbs : 0 < bs) (d : Bytes) :
    ∃ k, padTo bs d = d ++ List.replicate k 0x41 ∧ 1 ≤ k ∧ k ≤ bs ∧ k = bs - d.length % bs ∧
      (padTo bs d).length % bs = 0 := by
  refine ⟨bs - d.length % bs, rfl, ?_, by omega, rfl, ?_⟩
  · have := Nat.mod_lt d.length hbs; omega
  · rw [padTo_length]
    have hlt := Nat.mod_lt d.length hbs
    have hdm := Nat.div_add_mod d.length bs
    have : d.length + (bs - d.length % bs) = bs * (d.length / bs + 1) := by
      rw [Nat.mul_add, Nat.mul_one]; omega
    rw [this, Nat.mul_mod_right]

/-- an already aligned plaintext gets a full extra block; the padding is never empty -/
theorem pad_aligned_adds_block (d : Bytes) (h : d.length % 16 = 0) :
    pad d = d ++ List.replicate 16 0x41 := by
  simp [pad, padTo, h]

theorem pad_prefix (d : Bytes) : (pad d).take d.length = d ∧ ∀ b ∈ (pad d).drop d.length, b = 0x41 := by
  constructor
  · simp [pad, padTo]
  · intro b hb
    simp [pad, padTo] at hb
    exact hb.2

/-! ### encryption, signature -/

/-- `encrypt_packet` with admissible key/IV lengths and a bytes HMAC key always succeeds:
ciphertext = AES(pad pt), signature = first 16 bytes of the MAC over the ciphertext. -/
theorem encrypt_packet_ok (c : Crypto) (L : CryptoLaws c) (pt k hk iv : Bytes)
    (hkv : k.length = 16 ∨ k.length = 24 ∨ k.length = 32) (hiv : iv.length = 16) :
    ∃ ct, c.aesCbcEnc k iv (pad pt) = .ok ct ∧ ct.length = (pad pt).length ∧
      c.aesCbcDec k iv ct = .ok (pad pt) ∧
      encryptPacketT c pt (some k) (some hk) iv =
        (.ok ⟨ct, mac16 c hk ct⟩, [.aesEnc k iv (pad pt), .hmac hk ct]) := by
  obtain ⟨ct, h1, h2, h3⟩ := L.dec_enc k iv (pad pt) ⟨hkv, hiv, pad_length_mod pt⟩
  refine ⟨ct, h1, h2, h3, ?_⟩
  simp [encryptPacketT, encryptDataT, h1]

/-- whenever `encrypt_packet` returns a packet, its signature is `HMAC(hk, ciphertext)[:16]` and its
ciphertext is the AES encryption of the padded plaintext -/
theorem signature_is_mac (c : Crypto) (pt : Bytes) (ak : Option Bytes) (hk : Option Bytes) (iv : Bytes)
    (pkt : Packet) (h : encryptPacket c pt ak hk iv = .ok pkt) :
    ∃ k h', ak = some k ∧ hk = some h' ∧ c.aesCbcEnc k iv (pad pt) = .ok pkt.ciphertext ∧
      pkt.signature = (c.hmacSha256 h' pkt.ciphertext).take 16 := by
  unfold encryptPacket encryptPacketT encryptDataT at h
  cases ak with
  | none => simp at h
  | some k =>
    cases he : c.aesCbcEnc k iv (pad pt) with
    | error e => simp [he] at h
    | ok ct =>
      cases hk with
      | none => simp [he] at h
      | some h' =>
        simp [he] at h
        subst h
        exact ⟨k, h', rfl, rfl, he, rfl⟩

theorem signature_length (c : Crypto) (L : CryptoLaws c) (pt : Bytes) (ak hk : Option Bytes) (iv : Bytes)
    (pkt : Packet) (h : encryptPacket c pt ak hk iv = .ok pkt) : pkt.signature.length = 16 := by
  obtain ⟨k, h', _, _, _, hs⟩ := signature_is_mac c pt ak hk iv pkt h
  rw [hs, List.length_take, L.hmac_len]; rfl

/-- when `encrypt_packet` raises and which exception -/
theorem encrypt_packet_raises (c : Crypto) (L : CryptoLaws c) (pt : Bytes) (ak hk : Option Bytes) (iv : Bytes) :
    encryptPacket c pt ak hk iv =
      match ak with
      | none => .error .valueError
      | some k =>
        if (k.length = 16 ∨ k.length = 24 ∨ k.length = 32) ∧ iv.length = 16 then
          match hk with
          | none => .error .typeError
          | some h' => (c.aesCbcEnc k iv (pad pt)).map fun ct => ⟨ct, mac16 c h' ct⟩
        else .error .valueError := by
  cases ak with
  | none => rfl
  | some k =>
    by_cases hv : (k.length = 16 ∨ k.length = 24 ∨ k.length = 32) ∧ iv.length = 16
    · obtain ⟨ct, h1, _, _⟩ := L.dec_enc k iv (pad pt) ⟨hv.1, hv.2, pad_length_mod pt⟩
      simp only [if_pos hv]
      cases hk <;> simp [encryptPacket, encryptPacketT, encryptDataT, h1, Except.map]
    · have := L.enc_raises k iv (pad pt) (fun h => hv ⟨h.1, h.2.1⟩)
      simp only [if_neg hv]
      simp [encryptPacket, encryptPacketT, encryptDataT, this]

/-! ### decryption: verify, then decrypt -/

/-- Complete description of `decrypt_packet(..., verify=True)`: the result is that of `decrypt_data`
when the packet verifies and ValueError otherwise. -/
theorem verify_decision (c : Crypto) (p : Packet) (ak hk : Option Bytes) (iv : Bytes) :
    decryptPacket c p ak hk iv true =
      if Verifies c p hk then decryptData c p.ciphertext ak iv else .error .valueError := by
  unfold decryptPacket
  by_cases hv : Verifies c p hk
  · cases hk with
    | none => exact hv.elim
    | some k => rw [if_pos hv, decryptPacketT_accept c p ak k iv hv]; rfl
  · rw [if_neg hv, decryptPacketT_reject c p ak hk iv hv]

/-- With usable AES arguments, a plaintext is produced iff the HMAC key is present and non-empty and
`HMAC(key, ct)[:16] = signature`. -/
theorem verify_decision_iff (c : Crypto) (L : CryptoLaws c) (p : Packet) (k : Bytes) (hk : Option Bytes)
    (iv : Bytes) (hok : AesArgsOk k iv p.ciphertext) :
    (∃ pt, decryptPacket c p (some k) hk iv true = .ok pt) ↔
      ∃ h', hk = some h' ∧ h' ≠ [] ∧ (c.hmacSha256 h' p.ciphertext).take 16 = p.signature := by
  rw [verify_decision]
  obtain ⟨pt, hpt, _⟩ := L.dec_total k iv p.ciphertext hok
  constructor
  · rintro ⟨pt', h⟩
    by_cases hv : Verifies c p hk
    · cases hk with
      | none => exact absurd hv (by simp [Verifies])
      | some h' => exact ⟨h', rfl, hv.1, hv.2⟩
    · rw [if_neg hv] at h; cases h
  · rintro ⟨h', rfl, hne, hm⟩
    have hv : Verifies c p (some h') := ⟨hne, hm⟩
    exact ⟨pt, by rw [if_pos hv]; simpa [decryptData, decryptDataT] using hpt⟩

/-- `verify=False` skips the check altogether; the HMAC key is ignored and HMAC is never computed -/
theorem unverified_decrypts (c : Crypto) (p : Packet) (ak hk : Option Bytes) (iv : Bytes) :
    decryptPacketT c p ak hk iv false = decryptDataT c p.ciphertext ak iv ∧
      ∀ call ∈ (decryptPacketT c p ak hk iv false).2, ∀ a b, call ≠ Call.hmac a b := by
  refine ⟨rfl, ?_⟩
  intro call hc a b
  cases ak <;> simp [decryptPacketT, decryptDataT] at hc
  subst hc; simp

/-- Round trip: decrypting what `encrypt_packet` produced gives the plaintext followed by the
1..16 bytes of 'A' padding (`pad_spec`), for every admissible key length, with verification
(non-empty HMAC key) … -/
theorem decrypt_encrypt (c : Crypto) (L : CryptoLaws c) (pt k hk iv : Bytes)
    (hkv : k.length = 16 ∨ k.length = 24 ∨ k.length = 32) (hiv : iv.length = 16) (hne : hk ≠ []) :
    ∃ pkt, encryptPacket c pt (some k) (some hk) iv = .ok pkt ∧
      decryptPacket c pkt (some k) (some hk) iv true = .ok (pad pt) := by
  obtain ⟨ct, _, _, hdec, henc⟩ := encrypt_packet_ok c L pt k hk iv hkv hiv
  refine ⟨⟨ct, mac16 c hk ct⟩, by simp [encryptPacket, henc], ?_⟩
  rw [verify_decision]
  have hv : Verifies c ⟨ct, mac16 c hk ct⟩ (some hk) := ⟨hne, rfl⟩
  rw [if_pos hv]
  simpa [decryptData, decryptDataT] using hdec

/-- … and without verification (any, or no, HMAC key on the receiving side). -/
theorem decrypt_encrypt_unverified (c : Crypto) (L : CryptoLaws c) (pt k hk iv : Bytes) (hk' : Option Bytes)
    (hkv : k.length = 16 ∨ k.length = 24 ∨ k.length = 32) (hiv : iv.length = 16) :
    ∃ pkt, encryptPacket c pt (some k) (some hk) iv = .ok pkt ∧
      decryptPacket c pkt (some k) hk' iv false = .ok (pad pt) := by
  obtain ⟨ct, _, _, hdec, henc⟩ := encrypt_packet_ok c L pt k hk iv hkv hiv
  refine ⟨⟨ct, mac16 c hk ct⟩, by simp [encryptPacket, henc], ?_⟩
  simpa [decryptPacket, decryptPacketT, decryptDataT] using hdec

/-- `hmac_key` `None` or `b""` with `verify=True`: ValueError before any primitive is called. -/
theorem missing_key_rejected (c : Crypto) (p : Packet) (ak hk : Option Bytes) (iv : Bytes)
    (h : hk = none ∨ hk = some []) :
    decryptPacketT c p ak hk iv true = (.error .valueError, []) := by
  rcases h with rfl | rfl <;> rfl

/-- On rejection no plaintext is produced and AES is not invoked: the outcome is ValueError and the
call log is empty (no usable key) or consists of the single HMAC computation. -/
theorem no_plaintext_on_reject (c : Crypto) (p : Packet) (ak hk : Option Bytes) (iv : Bytes)
    (h : ¬ Verifies c p hk) :
    (decryptPacketT c p ak hk iv true).1 = .error .valueError ∧
      (∀ call ∈ (decryptPacketT c p ak hk iv true).2, call.isAes = false) ∧
      ((decryptPacketT c p ak hk iv true).2 = [] ∨
        ∃ k, hk = some k ∧ (decryptPacketT c p ak hk iv true).2 = [.hmac k p.ciphertext]) := by
  rw [decryptPacketT_reject c p ak hk iv h]
  rcases hk with _ | _ | ⟨b, bs⟩ <;> simp [rejectLog, Call.isAes]

/-- …and therefore the outcome of a rejected packet does not depend on the AES functions at all. -/
theorem reject_independent_of_aes (c c' : Crypto) (hh : c'.hmacSha256 = c.hmacSha256) (p : Packet)
    (ak hk : Option Bytes) (iv : Bytes) (h : ¬ Verifies c p hk) :
    decryptPacketT c' p ak hk iv true = decryptPacketT c p ak hk iv true := by
  have h' : ¬ Verifies c' p hk := by
    cases hk with
    | none => exact h
    | some k => simpa only [Verifies, mac16, hh] using h
  rw [decryptPacketT_reject c' p ak hk iv h', decryptPacketT_reject c p ak hk iv h]

/-- When the packet verifies, the MAC is computed first and AES is called after it (at most once). -/
theorem verified_call_order (c : Crypto) (p : Packet) (ak hk : Option Bytes) (iv : Bytes)
    (h : Verifies c p hk) :
    ∃ k, hk = some k ∧
      (decryptPacketT c p ak hk iv true).2 =
        .hmac k p.ciphertext :: (match ak with | none => [] | some a => [.aesDec a iv p.ciphertext]) := by
  cases hk with
  | none => exact h.elim
  | some k =>
    refine ⟨k, rfl, ?_⟩
    rw [decryptPacketT_accept c p ak k iv h]
    cases ak <;> rfl

/-- Any other signature on an accepted packet (bit flip, truncation, extension, …) is rejected. -/
theorem tampered_signature_rejected (c : Crypto) (p : Packet) (ak hk : Option Bytes) (iv : Bytes)
    (sig' : Bytes) (hacc : Verifies c p hk) (hs : sig' ≠ p.signature) :
    decryptPacket c ⟨p.ciphertext, sig'⟩ ak hk iv true = .error .valueError ∧
      ∀ call ∈ (decryptPacketT c ⟨p.ciphertext, sig'⟩ ak hk iv true).2, call.isAes = false := by
  have hrej : ¬ Verifies c ⟨p.ciphertext, sig'⟩ hk := by
    cases hk with
    | none => exact id
    | some k => exact fun hv => hs (hv.2.symm.trans hacc.2)
  have := no_plaintext_on_reject c _ ak hk iv hrej
  exact ⟨this.1, this.2.1⟩

/-- the instance the property talks about: a packet made by `encrypt_packet` with a changed signature -/
theorem tampered_signature_of_encrypted_rejected (c : Crypto) (pt : Bytes) (ak : Option Bytes) (hk iv : Bytes)
    (pkt : Packet) (sig' : Bytes) (hne : hk ≠ [])
    (henc : encryptPacket c pt ak (some hk) iv = .ok pkt) (hs : sig' ≠ pkt.signature) :
    decryptPacket c ⟨pkt.ciphertext, sig'⟩ ak (some hk) iv true = .error .valueError := by
  obtain ⟨_, h', _, hh, _, hsig⟩ := signature_is_mac c pt ak (some hk) iv pkt henc
  cases hh
  exact (tampered_signature_rejected c pkt ak (some hk) iv sig' ⟨hne, hsig.symm⟩ hs).1

/-- A changed ciphertext is rejected — under the explicit hypothesis that the truncated MACs differ
(collision resistance of HMAC-SHA256 is not provable and is not assumed silently). -/
theorem tampered_ciphertext_rejected (c : Crypto) (p : Packet) (ak : Option Bytes) (hk : Bytes) (iv : Bytes)
    (ct' : Bytes) (hacc : Verifies c p (some hk))
    (hmac_differs : (c.hmacSha256 hk ct').take 16 ≠ (c.hmacSha256 hk p.ciphertext).take 16) :
    decryptPacket c ⟨ct', p.signature⟩ ak (some hk) iv true = .error .valueError ∧
      ∀ call ∈ (decryptPacketT c ⟨ct', p.signature⟩ ak (some hk) iv true).2, call.isAes = false := by
  have := no_plaintext_on_reject c ⟨ct', p.signature⟩ ak (some hk) iv
    fun hv => hmac_differs (hv.2.trans hacc.2.symm)
  exact ⟨this.1, this.2.1⟩

/-- A different HMAC key is rejected — again under the hypothesis that the truncated MACs differ
(they do NOT differ for `hk' = hk ++ [0]`: HMAC zero-pads short keys; that is why the hypothesis is needed). -/
theorem wrong_key_rejected (c : Crypto) (p : Packet) (ak : Option Bytes) (hk hk' : Bytes) (iv : Bytes)
    (hacc : Verifies c p (some hk))
    (hmac_differs : (c.hmacSha256 hk' p.ciphertext).take 16 ≠ (c.hmacSha256 hk p.ciphertext).take 16) :
    decryptPacket c p ak (some hk') iv true = .error .valueError ∧
      ∀ call ∈ (decryptPacketT c p ak (some hk') iv true).2, call.isAes = false := by
  have := no_plaintext_on_reject c p ak (some hk') iv fun hv => hmac_differs (hv.2.trans hacc.2.symm)
  exact ⟨this.1, this.2.1⟩

/-- without verification, a ciphertext that is not block aligned (e.g. truncated) makes AES raise
ValueError, and a missing AES key raises ValueError -/
theorem unverified_bad_ciphertext_raises (c : Crypto) (L : CryptoLaws c) (p : Packet) (k : Bytes)
    (hk : Option Bytes) (iv : Bytes) (h : p.ciphertext.length % 16 ≠ 0) :
    decryptPacket c p (some k) hk iv false = .error .valueError ∧
      decryptPacket c p none hk iv false = .error .valueError := by
  refine ⟨?_, rfl⟩
  have := L.dec_raises k iv p.ciphertext (fun hok => h hok.2.2)
  simpa [decryptPacket, decryptPacketT, decryptDataT] using this

/-! ### framing of callback packets (client side) -/

/-- `dumps` is `p32be(len(ct)+len(sig)) ++ ct ++ sig`, and OverflowError from 2^32 on -/
theorem dumps_spec (p : Packet) :
    dumps p =
      if p.ciphertext.length + p.signature.length < 2 ^ 32 then
        .ok (toBytesU .big 4 (p.ciphertext.length + p.signature.length) ++ (p.ciphertext ++ p.signature))
      else .error .overflowError := by
  by_cases h : p.ciphertext.length + p.signature.length < 2 ^ 32
  · rw [if_pos h, dumps_ok p h]
  · rw [if_neg h]
    unfold dumps
    rw [List.length_append, p32be_overflow _ (by omega)]
    rfl

/-- `dumpsAll` (used below) is literally `b"".join(p.dumps() for p in ps)` -/
theorem dumpsAll_is_concat (ps : List Packet) :
    dumpsAll ps = (ps.mapM dumps).map List.flatten := by
  induction ps with
  | nil => rfl
  | cons p ps ih =>
    rw [dumpsAll, ih, List.mapM_cons]
    cases dumps p with
    | error e => rfl
    | ok b =>
      cases List.mapM dumps ps with
      | error e => rfl
      | ok bs => rfl

/-- the generator's loop terminates: every yielded packet accounts for at least 4 consumed bytes -/
theorem client_packets_bounded (data : Bytes) : 4 * (iterClientPackets data).1.length ≤ data.length + 3 := by
  induction data using iterClientPackets.induct with
  | case1 data h =>
    rw [iterClientPackets]; simp [h]
  | case2 data h e he =>
    have hne : data ≠ [] := by cases data <;> simp_all
    rw [iterClientPackets_error hne he]; simp
  | case3 data h p rest he ih =>
    rw [iterClientPackets_ok he]
    have := iterClientStep_consumes he
    simp only [List.length_cons]
    omega

/-- Central framing theorem: for every list of packets with 16-byte signatures whose frames fit the
32-bit size field, iterating over the concatenation of their `dumps()` yields exactly these packets,
in order, and ends normally — also when followed by further well-formed data (`more`). -/
theorem client_frames_roundtrip_append (ps : List Packet) (more : Bytes)
    (hwf : ∀ p ∈ ps, p.signature.length = 16 ∧ p.ciphertext.length + 16 < 2 ^ 32) :
    ∃ bs, dumpsAll ps = .ok bs ∧
      iterClientPackets (bs ++ more) = (ps ++ (iterClientPackets more).1, (iterClientPackets more).2) := by
  induction ps with
  | nil => exact ⟨[], rfl, rfl⟩
  | cons p ps ih =>
    obtain ⟨hs, hl⟩ := hwf p (by simp)
    obtain ⟨bs, hbs, hit⟩ := ih (fun q hq => hwf q (by simp [hq]))
    have hd := dumps_ok p (by omega)
    refine ⟨toBytesU .big 4 (p.ciphertext.length + 16) ++ (p.ciphertext ++ p.signature) ++ bs, ?_, ?_⟩
    · rw [hs] at hd
      rw [dumpsAll, hd, hbs]
      simp only [Except.map, Except.bind]
    · have hstep := iterClientStep_frame p.ciphertext p.signature (bs ++ more) hs hl
      have := iterClientPackets_ok hstep
      rw [List.append_assoc _ bs more, this, hit]
      rfl

theorem client_frames_roundtrip (ps : List Packet)
    (hwf : ∀ p ∈ ps, p.signature.length = 16 ∧ p.ciphertext.length + 16 < 2 ^ 32) :
    ∃ bs, dumpsAll ps = .ok bs ∧ iterClient (some bs) = (ps, none) := by
  obtain ⟨bs, h1, h2⟩ := client_frames_roundtrip_append ps [] hwf
  refine ⟨bs, h1, ?_⟩
  simpa [iterClient, iterClientPackets_nil] using h2

/-! behaviour on malformed client frames -/

/-- 1–3 bytes where a size field is expected (also after valid frames): EOFError -/
theorem client_short_header (data : Bytes) (h0 : 0 < data.length) (h4 : data.length < 4) :
    iterClientPackets data = ([], some .eofError) := by
  have hne : data ≠ [] := by intro h; simp [h] at h0
  apply iterClientPackets_error hne
  rw [iterClientStep_eq, if_pos h4]

theorem client_frames_then_trailing (ps : List Packet) (trail : Bytes)
    (hwf : ∀ p ∈ ps, p.signature.length = 16 ∧ p.ciphertext.length + 16 < 2 ^ 32)
    (h0 : 0 < trail.length) (h4 : trail.length < 4) :
    ∃ bs, dumpsAll ps = .ok bs ∧ iterClientPackets (bs ++ trail) = (ps, some .eofError) := by
  obtain ⟨bs, h1, h2⟩ := client_frames_roundtrip_append ps trail hwf
  refine ⟨bs, h1, ?_⟩
  rw [h2, client_short_header trail h0 h4]; simp

/-- a size field below 16 makes `read(size - 16)` negative: everything that follows becomes the
"ciphertext" of ONE packet with an empty signature, and the iteration ends -/
theorem client_size_below_16 (hdr body : Bytes) (hh : hdr.length = 4) (hs : fromBytesU .big hdr < 16) :
    iterClientPackets (hdr ++ body) = ([⟨body, []⟩], none) := by
  have hstep : iterClientStep (hdr ++ body) = .ok (⟨body, []⟩, []) := by
    rw [iterClientStep_append hdr body hh, if_pos hs]
  rw [iterClientPackets_ok hstep, iterClientPackets_nil]

/-- general shape of one iteration for `size ≥ 16`, whatever the amount of data present
(a size reaching beyond the data yields a short ciphertext / short or empty signature) -/
theorem client_frame_general (hdr body : Bytes) (hh : hdr.length = 4) (hs : 16 ≤ fromBytesU .big hdr) :
    iterClientPackets (hdr ++ body) =
      (⟨body.take (fromBytesU .big hdr - 16), (body.drop (fromBytesU .big hdr - 16)).take 16⟩
          :: (iterClientPackets (body.drop (fromBytesU .big hdr))).1,
        (iterClientPackets (body.drop (fromBytesU .big hdr))).2) := by
  apply iterClientPackets_ok
  rw [iterClientStep_append hdr body hh, if_neg (by omega)]

/-! ### framing of task data (server side) -/

/-- `|out| ≥ 16`: exactly one packet, ciphertext = all but the last 16 bytes, signature = last 16 -/
theorem server_frame_split (out : Bytes) (h : 16 ≤ out.length) :
    iterServerPacket (some out) = [⟨out.take (out.length - 16), out.drop (out.length - 16)⟩] ∧
      (out.drop (out.length - 16)).length = 16 := by
  have hne : out.isEmpty = false := by cases out <;> simp_all
  obtain ⟨h1, h2⟩ := read_of_nonneg (PyFile.ofBytes out) ((out.length : Int) - 16) (by omega)
  have hl : (out.drop (out.length - 16)).length = 16 := by rw [List.length_drop]; omega
  refine ⟨?_, hl⟩
  simp only [iterServerPacket, hne, Bool.false_eq_true, ↓reduceIte]
  rw [(read_of_nonneg _ 16 (by decide)).1, h2, h1, show ((out.length : Int) - 16).toNat = out.length - 16 by omega]
  exact congrArg (fun s => [Packet.mk _ s]) (List.take_of_length_le (Nat.le_of_eq hl))

/-- and it inverts concatenation: `ct ++ sig` with a 16-byte signature splits into `(ct, sig)` -/
theorem server_frame_roundtrip (ct sig : Bytes) (hs : sig.length = 16) :
    iterServerPacket (some (ct ++ sig)) = [⟨ct, sig⟩] := by
  have h := (server_frame_split (ct ++ sig) (by simp [hs])).1
  rw [h]
  have : (ct ++ sig).length - 16 = ct.length := by simp [hs]
  rw [this, List.take_left' rfl, List.drop_left' rfl]

/-- 1..15 bytes: the negative `read` argument swallows everything, the signature is empty -/
theorem server_short_output (out : Bytes) (h0 : 0 < out.length) (h : out.length < 16) :
    iterServerPacket (some out) = [⟨out, []⟩] := by
  have hne : out.isEmpty = false := by cases out <;> simp_all
  obtain ⟨h1, h2⟩ := read_of_neg (PyFile.ofBytes out) ((out.length : Int) - 16) (by omega)
  simp only [iterServerPacket, hne, Bool.false_eq_true, ↓reduceIte]
  rw [(read_of_nonneg _ 16 (by decide)).1, h2, h1]
  rfl

theorem server_no_output : iterServerPacket none = [] ∧ iterServerPacket (some []) = [] := ⟨rfl, rfl⟩

/-! ### Non-vacuity: concrete inputs meeting the hypotheses, on the toy instance -/

example : pad [1, 2, 3] = [1, 2, 3] ++ List.replicate 13 0x41 := by decide +kernel
example : (pad (List.replicate 16 7)).length = 32 := by decide +kernel
example : ∃ pkt, encryptPacket toyCrypto [1, 2, 3] (some (List.replicate 16 9)) (some [5]) (List.replicate 16 1) = .ok pkt ∧
    decryptPacket toyCrypto pkt (some (List.replicate 16 9)) (some [5]) (List.replicate 16 1) true = .ok (pad [1, 2, 3]) :=
  decrypt_encrypt toyCrypto toy_laws [1, 2, 3] (List.replicate 16 9) [5] (List.replicate 16 1) (by decide) (by decide) (by decide)
example : Verifies toyCrypto ⟨[1, 2], [7, 1, 2] ++ List.replicate 13 0⟩ (some [7]) := by decide +kernel
example : ¬ Verifies toyCrypto ⟨[1, 3], [7, 1, 2] ++ List.replicate 13 0⟩ (some [7]) := by decide +kernel
example : decryptPacketT toyCrypto ⟨[1, 3], [7, 1, 2] ++ List.replicate 13 0⟩ (some (List.replicate 16 9)) (some [7]) (List.replicate 16 1) true
    = (.error .valueError, [.hmac [7] [1, 3]]) := by decide +kernel
example : dumps ⟨[0xaa], List.replicate 16 0xbb⟩ = .ok ([0, 0, 0, 17, 0xaa] ++ List.replicate 16 0xbb) := by decide +kernel
example : iterClientStep ([0, 0, 0, 17, 0xaa] ++ List.replicate 16 0xbb ++ [1, 2]) = .ok (⟨[0xaa], List.replicate 16 0xbb⟩, [1, 2]) := by decide +kernel
example : iterClientPackets [0, 0, 0, 5, 1, 2, 3] = ([⟨[1, 2, 3], []⟩], none) :=
  client_size_below_16 [0, 0, 0, 5] [1, 2, 3] rfl (by decide)
example : iterServerPacket (some [1, 2, 3]) = [⟨[1, 2, 3], []⟩] := by decide +kernel
example : iterServerPacket (some ([9] ++ List.replicate 16 0xcc)) = [⟨[9], List.replicate 16 0xcc⟩] := by decide +kernel
/-- the hypotheses of `client_frames_roundtrip` hold for a concrete two-packet stream (one empty ciphertext) … -/
example : ∀ p ∈ [(⟨[0xaa], List.replicate 16 0xbb⟩ : Packet), ⟨[], List.replicate 16 0xcc⟩],
    p.signature.length = 16 ∧ p.ciphertext.length + 16 < 2 ^ 32 := by decide +kernel
/-- … whose concatenated frames are these 41 bytes … -/
example : dumpsAll [⟨[0xaa], List.replicate 16 0xbb⟩, ⟨[], List.replicate 16 0xcc⟩] =
    .ok ([0, 0, 0, 17, 0xaa] ++ List.replicate 16 0xbb ++ [0, 0, 0, 16] ++ List.replicate 16 0xcc) := by decide +kernel
/-- … and they are split back exactly. -/
example : iterClient (some ([0, 0, 0, 17, 0xaa] ++ List.replicate 16 0xbb ++ [0, 0, 0, 16] ++ List.replicate 16 0xcc)) =
    ([⟨[0xaa], List.replicate 16 0xbb⟩, ⟨[], List.replicate 16 0xcc⟩], none) := by
  obtain ⟨bs, h1, h2⟩ := client_frames_roundtrip [⟨[0xaa], List.replicate 16 0xbb⟩, ⟨[], List.replicate 16 0xcc⟩] (by decide)
  have h3 : dumpsAll [⟨[0xaa], List.replicate 16 0xbb⟩, ⟨[], List.replicate 16 0xcc⟩] =
      .ok ([0, 0, 0, 17, 0xaa] ++ List.replicate 16 0xbb ++ [0, 0, 0, 16] ++ List.replicate 16 0xcc) := by decide +kernel
  rw [h3] at h1
  cases h1
  exact h2
example : iterClientPackets [0, 0, 1] = ([], some .eofError) := client_short_header _ (by decide) (by decide)

end C05

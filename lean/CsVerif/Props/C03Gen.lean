import CsVerif.Gen.PyBeacon
import CsVerif.Props.C03
import CsVerif.Lemmas.C03Gen
/-!
C03 — the tie between the source text and the model, by (untyped) translation.

`Gen/PyBeacon.lean` is produced on every run by `tools/py2leanu.py` from the *source* of `beacon.null_terminated_bytes`,
`null_terminated_str`, `parse_pivot_frame`, `parse_process_injection_transform_steps`, `parse_gargle`,
`parse_recover_binary`, `parse_transform_binary` and `parse_execute_list`: every Python value is a `PyU.V`, every Python
operation one total function of `lean/CsVerif/Model/PyU.lean`, every `while` loop a `PyU.whileFuel` over a separate
loop-body definition.  The theorems below state that each translated definition computes, for every `bytes` argument
(and every fuel above the length of the argument), exactly the encoding (`enc*`, Lemmas/C03Gen.lean) of what the
hand-written model of `Model/C03.lean` computes — including the raising branches of `parse_execute_list`.  So every
theorem of `Props/C03.lean` about these decoders is a theorem about the function text itself, and an edit of
one of these functions that changes its meaning breaks the corresponding proof here.  Helper lemmas: `Lemmas/C03Gen.lean`.
-/
namespace C03Gen
open PyU

/-! ### strings and frames (no loops) -/

/-- `null_terminated_bytes(data)` = the bytes before the first NUL -/
theorem gen_null_terminated_bytes (data : Bytes) :
    Gen.PyBeacon.null_terminated_bytes (.bytes data) = .ok (.bytes (C03.nullTerminatedBytes data)) := by
  simp only [Gen.PyBeacon.null_terminated_bytes, partition, List.isEmpty_cons, Bool.false_eq_true, ↓reduceIte]
  rw [← splitAt_zero_fst]
  cases splitAt? [(0 : UInt8)] data <;> rfl

/-- `null_terminated_str(data)`: the same bytes as a latin-1 `str` (one code point per byte) -/
theorem gen_null_terminated_str (data : Bytes) :
    Gen.PyBeacon.null_terminated_str (.bytes data) = .ok (encLatin (C03.nullTerminatedStr data)) := by
  simp only [Gen.PyBeacon.null_terminated_str, gen_null_terminated_bytes, PyU.ok_bind, decodeLatin1]
  rfl

theorem gen_parse_pivot_frame (data : Bytes) :
    Gen.PyBeacon.parse_pivot_frame (.bytes data) = .ok (.bytes (C03.parsePivot data)) := by
  simp only [Gen.PyBeacon.parse_pivot_frame, newBytesIO_bytes, PyU.ok_bind, read_mk, rdInt2, u16be_bytes, PyU.sub, ints2, asInt,
    Except.map, C03.parsePivot, pure_ok]

/-- a list of `(name, bytes)` tuples -/
theorem gen_parse_process_injection_transform_steps (data : Bytes) :
    Gen.PyBeacon.parse_process_injection_transform_steps (.bytes data)
      = .ok (.list ((C03.parseInjTransform data).map encInj)) := by
  simp only [Gen.PyBeacon.parse_process_injection_transform_steps, newBytesIO_bytes, PyU.ok_bind, read_mk, rdInt4, truthy_bytes,
    C03.parseInjTransform]
  by_cases h1 : List.take 4 data = []
  · have hd : data = [] := by simpa using h1
    subst hd
    simp [pure_ok]
  · simp only [isEmpty_false h1, h1, Bool.not_false, ↓reduceIte, u32be_bytes, PyU.ok_bind, read_mk, rdInt_nat,
      append_list, List.nil_append, ne_eq, not_false_eq_true, rdInt4]
    by_cases h2 : List.take 4 (List.drop (C03.u32be (List.take 4 data)) (List.drop 4 data)) = []
    · simp only [truthy_bytes, h2, List.isEmpty_nil, Bool.not_true, Bool.false_eq_true, ↓reduceIte, pure_ok, not_true_eq_false, List.append_nil,
        List.map_cons, List.map_nil, encInj]
    · simp only [truthy_bytes, isEmpty_false h2, h2, Bool.not_false, ↓reduceIte, pure_ok, not_false_eq_true, List.map_cons,
        List.map_nil, encInj, List.cons_append, List.nil_append]

/-! ### the `while True:` decoders: for every fuel above the length of the input -/

/-- a list of `str` -/
theorem gen_parse_gargle (fuel : Nat) (data : Bytes) (h : data.length < fuel) :
    Gen.PyBeacon.parse_gargle fuel (.bytes data) = .ok (.list ((C03.parseGargle data).map lit)) := by
  simp only [Gen.PyBeacon.parse_gargle, newBytesIO_bytes, PyU.ok_bind, bind_fst]
  exact whileFuel_decode _ _ lit gargle_iter fuel [] data [] h

/-- a list of `(name, int | True)` tuples; unknown steps (logged by the source) contribute nothing -/
theorem gen_parse_recover_binary (fuel : Nat) (data : Bytes) (h : data.length < fuel) :
    Gen.PyBeacon.parse_recover_binary fuel (.bytes data) = .ok (.list ((C03.parseRecover data).map encROut)) := by
  simp only [Gen.PyBeacon.parse_recover_binary, newBytesIO_bytes, PyU.ok_bind, bind_fst]
  exact whileFuel_decode _ _ encROut recover_iter fuel [] data [] h

/-- a list of `(name | None, str | True | bytes)` tuples, for every `build` string; never raises (the `IndexError` branch of
the source is dead) -/
theorem gen_parse_transform_binary (fuel : Nat) (data : Bytes) (build : String) (h : data.length < fuel) :
    Gen.PyBeacon.parse_transform_binary fuel (.bytes data) (lit build)
      = .ok (.list ((C03.parseTransform build data).map encTOut)) := by
  obtain ⟨a1, a2, a3, a4, a8, a11, a13, a15⟩ := C03.tsv_vals
  obtain ⟨b12, b10, b6, b5, b9, b16⟩ := tsv_more
  simp only [Gen.PyBeacon.parse_transform_binary, enumMember_ts _ _ a1, enumMember_ts _ _ a2, enumMember_ts _ _ a3,
    enumMember_ts _ _ a4, enumMember_ts _ _ a8, enumMember_ts _ _ a11, enumMember_ts _ _ a13, enumMember_ts _ _ a15,
    enumMember_ts _ _ b12, enumMember_ts _ _ b10, enumMember_ts _ _ b6, enumMember_ts _ _ b5, enumMember_ts _ _ b9,
    enumMember_ts _ _ b16, PyU.ok_bind, mkDict_build, newBytesIO_bytes, bind_fst]
  exact whileFuel_decode _ _ encTOut (transform_iter build) fuel [] data [] h

/-- the call without `build` (as registered for `SETTING_C2_REQUEST`): the default in the source is `"metadata"` -/
theorem gen_parse_transform_binary_default (fuel : Nat) (data : Bytes) (h : data.length < fuel) :
    Gen.PyBeacon.parse_transform_binary_default1 fuel (.bytes data)
      = .ok (.list ((C03.parseTransform "metadata" data).map encTOut)) := by
  unfold Gen.PyBeacon.parse_transform_binary_default1
  exact gen_parse_transform_binary fuel data "metadata" h

/-- a list of `str | None`, or the model's exception (UnicodeDecodeError ⊂ ValueError from `bytes.decode()`,
AttributeError from `None.rstrip` if a call opcode (6, 7) had no name in the enum; a plain undefined opcode gives `None`) -/
theorem gen_parse_execute_list (fuel : Nat) (data : Bytes) (h : data.length < fuel) :
    Gen.PyBeacon.parse_execute_list fuel (.bytes data)
      = (C03.parseExecute data).map fun l => .list (l.map encEx) := by
  simp only [Gen.PyBeacon.parse_execute_list, newBytesIO_bytes, PyU.ok_bind, bind_fst]
  exact whileFuel_decode _ _ encEx execute_iter fuel [] data [] h

/-! ### arguments that are not `bytes`: `io.BytesIO(None)` is an empty stream, so `None` decodes like `b""` -/

theorem gen_none_argument (fuel : Nat) :
    Gen.PyBeacon.parse_pivot_frame .none = Gen.PyBeacon.parse_pivot_frame (.bytes []) ∧
    Gen.PyBeacon.parse_process_injection_transform_steps .none
      = Gen.PyBeacon.parse_process_injection_transform_steps (.bytes []) ∧
    Gen.PyBeacon.parse_gargle fuel .none = Gen.PyBeacon.parse_gargle fuel (.bytes []) ∧
    Gen.PyBeacon.parse_recover_binary fuel .none = Gen.PyBeacon.parse_recover_binary fuel (.bytes []) ∧
    (∀ build, Gen.PyBeacon.parse_transform_binary fuel .none build
      = Gen.PyBeacon.parse_transform_binary fuel (.bytes []) build) ∧
    Gen.PyBeacon.parse_execute_list fuel .none = Gen.PyBeacon.parse_execute_list fuel (.bytes []) :=
  ⟨rfl, rfl, rfl, rfl, fun _ => rfl, rfl⟩

/-! ### Non-vacuity: the translated definitions evaluated on concrete inputs -/

example : Gen.PyBeacon.null_terminated_bytes (.bytes [72, 105, 0, 0, 66]) = .ok (.bytes [72, 105]) := by decide
example : Gen.PyBeacon.null_terminated_str (.bytes [72, 255, 0, 66]) = .ok (.str [72, 255]) := by decide
example : Gen.PyBeacon.null_terminated_bytes .none = .error .attributeError := by decide
example : Gen.PyBeacon.parse_pivot_frame (.bytes [0, 6, 65, 66, 67]) = .ok (.bytes [65, 66]) := by decide +kernel
example : Gen.PyBeacon.parse_pivot_frame (.bytes [0, 3, 65, 66, 67]) = .ok (.bytes [65, 66, 67]) := by decide +kernel
example : Gen.PyBeacon.parse_pivot_frame (.int 5) = .error .typeError := by decide
example : Gen.PyBeacon.parse_process_injection_transform_steps (.bytes [0, 0, 0, 1, 144, 0, 0, 0, 2, 65, 66])
    = .ok (.list [.tuple [lit "append", .bytes [144]], .tuple [lit "prepend", .bytes [65, 66]]]) := by decide +kernel
example : Gen.PyBeacon.parse_gargle 10 (.bytes [1, 0, 0, 0, 255, 0, 0, 0]) = .ok (.list [lit "0x1-0xff"]) := by decide +kernel
example : Gen.PyBeacon.parse_gargle 2 (.bytes [1, 0, 0, 0, 2, 0, 0, 0, 3, 0, 0, 0, 4, 0, 0, 0]) = .error .timeoutDiverge := by
  decide +kernel
example : Gen.PyBeacon.parse_recover_binary 20 (.bytes [0, 0, 0, 1, 0, 0, 1, 0, 0, 0, 0, 3, 0, 0, 0, 99, 0, 0, 0, 0, 7])
    = .ok (.list [.tuple [lit "append", .int 256], .tuple [lit "base64", .bool true]]) := by decide +kernel
example : Gen.PyBeacon.parse_transform_binary 20 (.bytes [0, 0, 0, 7, 0, 0, 0, 0, 0, 0, 0, 3, 0, 0, 0, 1, 0, 0, 0, 1, 65])
      (lit "metadata")
    = .ok (.list [.tuple [lit "BUILD", lit "metadata"], .tuple [lit "BASE64", .bool true],
        .tuple [lit "APPEND", .bytes [65]]]) := by decide +kernel
example : Gen.PyBeacon.parse_execute_list 30 (.bytes [1, 6, 0, 33, 0, 0, 0, 2, 109, 0, 0, 0, 0, 1, 102, 9])
    = .ok (.list [lit "CreateThread", lit "CreateThread \"m!f+0x21\"", .none]) := by decide +kernel
example : Gen.PyBeacon.parse_execute_list 30 (.bytes [7, 0, 0, 0, 0, 0, 1, 255, 0, 0, 0, 0]) = .error .valueError := by decide +kernel
example : Gen.PyBeacon.parse_execute_list 30 (.bytes [9, 6, 0]) = .ok (.list [.none, lit "CreateThread \"!\""]) := by decide +kernel

end C03Gen

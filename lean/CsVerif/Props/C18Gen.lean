import CsVerif.Lemmas.C18Gen
import CsVerif.Props.C18
/-!
C18 — the six PE helpers of pe.py TRANSLATED from their source text (`Gen/PyPe.lean`, regenerated on every run by
tools/gen/py_pe.py with the untyped translator tools/py2leanu.py) equal the hand-written model of `Model/C18.lean`: what
`Props/C18.lean` proves of the model holds of the source text of pe.py.

Domain of the `gen_*` theorems: EVERY file object of the model (`PyFile`: any content, any position, `io.BytesIO` or a regular file),
`start_offset` `None` or any non-negative int, `maxrange` any non-negative int (the domain of the hand-written model); the
`gen_*_any_int` theorems extend this to ANY int `start_offset` and ANY int `maxrange` (against `C18.Generic.*` over Python file objects).  The translated definition answers the Python tuple
`(result, file object afterwards)`: both the reported value and the position the helper leaves behind are part of the statement.
A helper that raises answers the exception alone (`encPy`; the file is then not observable through the translated definition).
The struct reads are `PyU.t18Read(E)` on the layouts `Gen.PyPe.IMAGE_*` (introspected, every field the code reads); the proofs connect
them to `C18.readStruct` + `C18.fieldVal` on the layouts of `Gen/PeStruct.lean` (both regenerated from the same loaded cstruct classes).
-/
namespace C18Gen
open PyU (V)
open C15Gen (encFile encOptNat)
open Gen.PeStruct

/-! ## the translated definitions equal the model -/

/-- `pe.find_mz_offset`, translated from its source = `C18.findMzOffset` (value and file afterwards) -/
theorem gen_find_mz_offset (f : PyFile) (start : Option Nat) (maxrange : Nat) :
    Gen.PyPe.find_mz_offset (encFile f) (encOptNat start) (.int (maxrange : Int))
      = encRes encOptNat (C18.findMzOffset f start maxrange) :=
  gen_find_mz_offset_proof f start maxrange

theorem gen_find_architecture (f : PyFile) (start : Option Nat) (maxrange : Nat) :
    Gen.PyPe.find_architecture (encFile f) (encOptNat start) (.int (maxrange : Int))
      = encRes encArch (C18.findArchitecture f start maxrange) :=
  gen_find_architecture_proof f start maxrange

/-- `pe.find_compile_stamps` = `C18.findCompileStamps`, including the `try … except EOFError: pass` that reports what was read
so far, the section loop with its chained comparison, and the uncaught ValueError / OSError of a negative seek -/
theorem gen_find_compile_stamps (f : PyFile) (start : Option Nat) (maxrange : Nat) :
    Gen.PyPe.find_compile_stamps (encFile f) (encOptNat start) (.int (maxrange : Int))
      = encPy encStamps (C18.findCompileStamps f start maxrange) :=
  gen_find_compile_stamps_proof f start maxrange

theorem gen_find_magic_mz (f : PyFile) (start : Option Nat) (maxrange : Nat) :
    Gen.PyPe.find_magic_mz (encFile f) (encOptNat start) (.int (maxrange : Int))
      = encRes encOptBytes (C18.findMagicMz f start maxrange) :=
  gen_find_magic_mz_proof f start maxrange

/-- `pe.find_magic_pe` = `C18.findMagicPe` (no `try`: the EOFError of the struct read escapes) -/
theorem gen_find_magic_pe (f : PyFile) (start : Option Nat) (maxrange : Nat) :
    Gen.PyPe.find_magic_pe (encFile f) (encOptNat start) (.int (maxrange : Int))
      = encPy encOptBytes (C18.findMagicPe f start maxrange) :=
  gen_find_magic_pe_proof f start maxrange

/-- `pe.find_stage_prepend_append` = `C18.findStagePrependAppend`; the handler of `except (OSError, OverflowError, ValueError)`
around `fh.seek(mz_offset + size)` is never entered on a model file: the offset is a sum of unsigned fields -/
theorem gen_find_stage_prepend_append (f : PyFile) (start : Option Nat) (maxrange : Nat) :
    Gen.PyPe.find_stage_prepend_append (encFile f) (encOptNat start) (.int (maxrange : Int))
      = encPy encPair (C18.findStagePrependAppend f start maxrange) :=
  gen_find_stage_prepend_append_proof f start maxrange

/-- all six at once, in the form the stage theorems use -/
theorem gen_pe_call (f : PyFile) (start : Option Nat) (maxrange : Nat) (op : C18.PeOp) :
    peCallG f start maxrange op = encOut (C18.peCall f start maxrange op) := by
  cases op
  · exact gen_find_mz_offset f start maxrange
  · exact gen_find_architecture f start maxrange
  · exact gen_find_compile_stamps f start maxrange
  · exact gen_find_magic_mz f start maxrange
  · exact gen_find_magic_pe f start maxrange
  · exact gen_find_stage_prepend_append f start maxrange

/-- the defaults the SOURCE gives `start_offset` / `maxrange` are the documented ones (0 and 1024), for every helper -/
theorem gen_pe_defaults (op : C18.PeOp) : dfltStart op = .int 0 ∧ dfltMaxrange op = .int 1024 := by
  cases op <;> exact ⟨rfl, rfl⟩

/-! ### every int argument

`start_offset` is `None` or ANY int and `maxrange` ANY int: the translated helper equals the file-like-generic model
(`C18.Generic.*` over `C18.pyFileLike` — the model C01 / C09 run over the XorEncoded view; `C18.generic_agrees` identifies it with the
`PyFile` model for non-negative arguments).  A `maxrange ≤ 0` searches nothing (and touches nothing), a negative `start_offset` with
`maxrange > 0` is the ValueError (`io.BytesIO`) / OSError (file) of the first `fh.seek`. -/

theorem gen_find_mz_offset_any_int (f : PyFile) (start : Option Int) (m : Int) :
    Gen.PyPe.find_mz_offset (encFile f) (C15Gen.encOptInt start) (.int m)
      = encGen encOptI (C18.Generic.findMzOffset C18.pyFileLike f start m.toNat) := by
  rcases arg_cases start m with h0 | ⟨n, st, rfl, rfl⟩ | ⟨n, s, rfl, rfl, hs⟩
  · rw [mz_nothing f start m h0, h0, generic_mz_zero]; rfl
  · rw [encOptInt_map, gen_find_mz_offset, Int.toNat_natCast, C18.generic_findMzOffset]
    rcases C18.findMzOffset f st (n + 1) with ⟨_ | o, g⟩ <;> rfl
  · rw [Int.toNat_natCast, generic_mz_neg f s hs n]
    exact mz_negstart f s hs n

theorem gen_find_architecture_any_int (f : PyFile) (start : Option Int) (m : Int) :
    Gen.PyPe.find_architecture (encFile f) (C15Gen.encOptInt start) (.int m)
      = encGen encArch (C18.Generic.findArchitecture C18.pyFileLike f start m.toNat) := by
  rcases arg_cases start m with h0 | ⟨n, st, rfl, rfl⟩ | ⟨n, s, rfl, rfl, hs⟩
  · rw [arch_nothing f start m h0, h0, generic_arch_zero]; rfl
  · rw [encOptInt_map, gen_find_architecture, Int.toNat_natCast, C18.generic_findArchitecture]
    rfl
  · rw [Int.toNat_natCast, generic_arch_neg f s hs n]
    exact arch_negstart f s hs n

theorem gen_find_compile_stamps_any_int (f : PyFile) (start : Option Int) (m : Int) :
    Gen.PyPe.find_compile_stamps (encFile f) (C15Gen.encOptInt start) (.int m)
      = encGen encStamps (C18.Generic.findCompileStamps C18.pyFileLike f start m.toNat) := by
  rcases arg_cases start m with h0 | ⟨n, st, rfl, rfl⟩ | ⟨n, s, rfl, rfl, hs⟩
  · unfold Gen.PyPe.find_compile_stamps C18.Generic.findCompileStamps
    show (Gen.PyPe.find_mz_offset (encFile f) (C15Gen.encOptInt start) (.int m) >>= _) = _
    rw [mz_nothing f start m h0, h0, generic_mz_zero]
    rfl
  · rw [encOptInt_map, gen_find_compile_stamps, Int.toNat_natCast, C18.generic_findCompileStamps, encGen_liftPy]
  · unfold Gen.PyPe.find_compile_stamps C18.Generic.findCompileStamps
    show (Gen.PyPe.find_mz_offset (encFile f) (.int s) (.int ((n + 1 : Nat) : Int)) >>= _) = _
    rw [mz_negstart f s hs n, Int.toNat_natCast, generic_mz_neg f s hs n]
    rfl

theorem gen_find_magic_mz_any_int (f : PyFile) (start : Option Int) (m : Int) :
    Gen.PyPe.find_magic_mz (encFile f) (C15Gen.encOptInt start) (.int m)
      = encGen encOptBytes (C18.Generic.findMagicMz C18.pyFileLike f start m.toNat) := by
  rcases arg_cases start m with h0 | ⟨n, st, rfl, rfl⟩ | ⟨n, s, rfl, rfl, hs⟩
  · unfold Gen.PyPe.find_magic_mz C18.Generic.findMagicMz
    show (Gen.PyPe.find_mz_offset (encFile f) (C15Gen.encOptInt start) (.int m) >>= _) = _
    rw [mz_nothing f start m h0, h0, generic_mz_zero]
    rfl
  · rw [encOptInt_map, gen_find_magic_mz, Int.toNat_natCast, C18.generic_findMagicMz]
    rfl
  · unfold Gen.PyPe.find_magic_mz C18.Generic.findMagicMz
    show (Gen.PyPe.find_mz_offset (encFile f) (.int s) (.int ((n + 1 : Nat) : Int)) >>= _) = _
    rw [mz_negstart f s hs n, Int.toNat_natCast, generic_mz_neg f s hs n]
    rfl

theorem gen_find_magic_pe_any_int (f : PyFile) (start : Option Int) (m : Int) :
    Gen.PyPe.find_magic_pe (encFile f) (C15Gen.encOptInt start) (.int m)
      = encGen encOptBytes (C18.Generic.findMagicPe C18.pyFileLike f start m.toNat) := by
  rcases arg_cases start m with h0 | ⟨n, st, rfl, rfl⟩ | ⟨n, s, rfl, rfl, hs⟩
  · unfold Gen.PyPe.find_magic_pe C18.Generic.findMagicPe
    show (Gen.PyPe.find_mz_offset (encFile f) (C15Gen.encOptInt start) (.int m) >>= _) = _
    rw [mz_nothing f start m h0, h0, generic_mz_zero]
    rfl
  · rw [encOptInt_map, gen_find_magic_pe, Int.toNat_natCast, C18.generic_findMagicPe, encGen_liftPy]
  · unfold Gen.PyPe.find_magic_pe C18.Generic.findMagicPe
    show (Gen.PyPe.find_mz_offset (encFile f) (.int s) (.int ((n + 1 : Nat) : Int)) >>= _) = _
    rw [mz_negstart f s hs n, Int.toNat_natCast, generic_mz_neg f s hs n]
    rfl

theorem gen_find_stage_prepend_append_any_int (f : PyFile) (start : Option Int) (m : Int) :
    Gen.PyPe.find_stage_prepend_append (encFile f) (C15Gen.encOptInt start) (.int m)
      = encGen encPair (C18.Generic.findStagePrependAppend C18.pyFileLike f start m.toNat) := by
  rcases arg_cases start m with h0 | ⟨n, st, rfl, rfl⟩ | ⟨n, s, rfl, rfl, hs⟩
  · unfold Gen.PyPe.find_stage_prepend_append C18.Generic.findStagePrependAppend
    show (Gen.PyPe.find_mz_offset (encFile f) (C15Gen.encOptInt start) (.int m) >>= _) = _
    rw [mz_nothing f start m h0, h0, generic_mz_zero]
    rfl
  · rw [encOptInt_map, gen_find_stage_prepend_append, Int.toNat_natCast, C18.generic_findStagePrependAppend, encGen_liftPy]
  · unfold Gen.PyPe.find_stage_prepend_append C18.Generic.findStagePrependAppend
    show (Gen.PyPe.find_mz_offset (encFile f) (.int s) (.int ((n + 1 : Nat) : Int)) >>= _) = _
    rw [mz_negstart f s hs n, Int.toNat_natCast, generic_mz_neg f s hs n]
    rfl

/-! ## the property theorems of `Props/C18.lean`, for the translated definitions -/

/-- `stage_call_at`: every translated helper on a stage `J ++ P ++ I` searched from `start_offset = |J|` reports the artifacts
of the image and leaves the file at `|J| + |P| + Img.endPos I op` — for every initial position and both file kinds -/
theorem gen_stage_call_at {J P I : Bytes} {maxrange : Nat} (h : C18.StageAt J P I maxrange)
    (hc : C18.Img.headersEnd I ≤ I.length) (pos : Nat) (k : FileKind) (op : C18.PeOp) :
    peCallG ⟨J ++ P ++ I, pos, k⟩ (some J.length) maxrange op
      = encOut (C18.stageAnswerAt J P I op, ⟨J ++ P ++ I, J.length + P.length + C18.Img.endPos I op, k⟩) := by
  rw [gen_pe_call, C18.stage_call_at h hc pos k op]

/-- `mz_found_at` for the translated definitions: absolute offset, architecture, stamps, magic bytes, prepend / append -/
theorem gen_mz_found_at {J P I : Bytes} {maxrange : Nat} (h : C18.StageAt J P I maxrange)
    (hc : C18.Img.headersEnd I ≤ I.length) (pos : Nat) (k : FileKind) :
    let fh := encFile ⟨J ++ P ++ I, pos, k⟩
    let s := V.int (J.length : Int)
    let m := V.int (maxrange : Int)
    (∃ f', Gen.PyPe.find_mz_offset fh s m = .ok (.tuple [.int ((J.length + P.length : Nat) : Int), f'])) ∧
    (∃ f', Gen.PyPe.find_architecture fh s m = .ok (.tuple [PyU.lit (C18.Img.arch I).name, f'])) ∧
    (∃ f', Gen.PyPe.find_compile_stamps fh s m
        = .ok (.tuple [.tuple [.int (C18.Img.compileStamp I), encOptI (C18.Img.exportStamp I)], f'])) ∧
    (∃ f', Gen.PyPe.find_magic_mz fh s m = .ok (.tuple [encOptBytes (C18.Img.magicMz I), f'])) ∧
    (∃ f', Gen.PyPe.find_magic_pe fh s m = .ok (.tuple [.bytes (C18.Img.magicPe I), f'])) ∧
    (∃ f', Gen.PyPe.find_stage_prepend_append fh s m
        = .ok (.tuple [.tuple [encOptBytes (C18.prependOf (J ++ P)), encOptBytes (C18.Img.append I)], f'])) := by
  have key := fun op => gen_stage_call_at h hc pos k op
  refine ⟨⟨_, key .mz⟩, ⟨_, key .arch⟩, ⟨_, key .stamps⟩, ⟨_, key .mmz⟩, ⟨_, key .mpe⟩, ⟨_, key .ppa⟩⟩

/-- `pe_position_independent`: with an explicit `start_offset` the answer of a translated helper (value AND file afterwards, as soon
as `maxrange > 0`) does not depend on the position of the file object it is handed — for ARBITRARY content -/
theorem gen_pe_position_independent (op : C18.PeOp) (d : Bytes) (p q : Nat) (k : FileKind) (s maxrange : Nat) (hm : 0 < maxrange) :
    peCallG ⟨d, p, k⟩ (some s) maxrange op = peCallG ⟨d, q, k⟩ (some s) maxrange op := by
  rw [gen_pe_call, gen_pe_call, (C18.pe_position_independent op d p q k s maxrange).2 hm]

/-- `pe_start_none_is_tell`: `start_offset=None` is `start_offset=fh.tell()` -/
theorem gen_pe_start_none_is_tell (f : PyFile) (maxrange : Nat) (op : C18.PeOp) :
    peCallG f none maxrange op = peCallG f (some f.tell) maxrange op := by
  rw [gen_pe_call, gen_pe_call, C18.pe_start_none_is_tell]

/-- `pe_only_moves_position`: a translated helper that returns hands back the SAME bytes and kind of file object -/
theorem gen_pe_only_moves_position (f : PyFile) (start : Option Nat) (maxrange : Nat) (op : C18.PeOp) (x fv : V)
    (h : peCallG f start maxrange op = .ok (.tuple [x, fv])) :
    ∃ pos, fv = encFile ⟨f.data, pos, f.kind⟩ := by
  rw [gen_pe_call] at h
  obtain ⟨hd, hk⟩ := C18.pe_only_moves_position f start maxrange op
  refine ⟨(C18.peCall f start maxrange op).2.pos, ?_⟩
  rw [encOut_file _ x fv h, ← hd, ← hk]

/-! ## version deduction: `BeaconVersion.from_pe_export_stamp` / `from_max_setting_enum`, `BeaconConfig.version`

The constructor `BeaconVersion(text)` (regex + strptime) is the EXTERNAL function `bv` of the translated definitions: the theorems hold
for ANY `bv`; `beaconVersionM` instantiates it with the model's `C18.parseVersion`.  `self.max_setting_enum` (translated and proved in
C02's unit: `C02Gen.gen_max_setting_enum`) is the external function `mse`. -/

/-- `BeaconVersion.from_pe_export_stamp(k)` = `BeaconVersion(PE_EXPORT_STAMP_TO_VERSION.get(k, "Unknown"))`, the dict being the generated
table; for every int `k`, every constructor, whatever `cls` is -/
theorem gen_from_pe_export_stamp (bv : V → Py V) (cls : V) (k : Int) :
    Gen.PyPe.from_pe_export_stamp bv cls (.int k) = bv (.str (C18.lookup Gen.Version.peExportStampEntries k)) :=
  gen_from_pe_export_stamp_proof bv cls k

theorem gen_from_max_setting_enum (bv : V → Py V) (cls : V) (k : Int) :
    Gen.PyPe.from_max_setting_enum bv cls (.int k) = bv (.str (C18.lookup Gen.Version.maxEnumEntries k)) :=
  gen_from_max_setting_enum_proof bv cls k

/-- `BeaconConfig.version`, translated from its source = `BeaconVersion(C18.configVersion stamp enums)`: for ANY constructor `bv`, any
object `self` whose `pe_export_stamp` is `None` or an int, and any `max_setting_enum` getter that answers the maximum of the setting
indices (ValueError when there are none — only evaluated when the stamp is falsy) -/
theorem gen_config_version (bv : V → Py V) (mse : V → Py V) (self : V) (stamp : Option Int) (enums : List Nat)
    (hattr : PyU.getAttr self "pe_export_stamp" = .ok (encOptI stamp))
    (hmse : mse self = (C18.maxEnumOf enums).map fun (n : Nat) => V.int (n : Int)) :
    Gen.PyPe.config_version bv mse self = (C18.configVersion stamp enums).bind (fun t => bv (.str t)) :=
  gen_config_version_proof bv mse self stamp enums hattr hmse

/-- … instantiated with the model's constructor and getter -/
theorem gen_config_version_model (stamp : Option Int) (enums : List Nat) :
    configVersionG stamp enums = (C18.configVersion stamp enums).bind (fun t => beaconVersionM (.str t)) :=
  gen_config_version_proof _ _ _ stamp enums rfl rfl

/-- `version_precedence` for the translated property: a table export stamp decides alone; any other non-zero stamp is "Unknown" whatever
the settings say; `None` / `0` fall through to the highest setting index; an empty configuration with a falsy stamp raises ValueError -/
theorem gen_version_precedence :
    (∀ e ∈ Gen.Version.peExportStampEntries, ∀ enums, configVersionG (some (e.key : Int)) enums = beaconVersionM (.str e.text)) ∧
    (∀ s : Int, s ≠ 0 → (∀ e ∈ Gen.Version.peExportStampEntries, (e.key : Int) ≠ s) →
      ∀ enums, configVersionG (some s) enums = beaconVersionM (.str Gen.Version.unknownText)) ∧
    (∀ (x : Nat) (xs : List Nat), configVersionG none (x :: xs)
        = beaconVersionM (.str (C18.lookup Gen.Version.maxEnumEntries ((xs.foldl max x : Nat) : Int))) ∧
      configVersionG (some 0) (x :: xs) = configVersionG none (x :: xs)) ∧
    configVersionG none [] = .error .valueError ∧ configVersionG (some 0) [] = .error .valueError := by
  obtain ⟨_, _, nd, _, nz⟩ := C18.table_shape
  have hcv : ∀ (s : Int) enums, s ≠ 0 → C18.configVersion (some s) enums = .ok (C18.lookup Gen.Version.peExportStampEntries s) :=
    fun s enums hs => by simp only [C18.configVersion, hs, ne_eq, not_false_eq_true, if_true]
  refine ⟨?_, ?_, ?_, by rw [gen_config_version_model]; rfl, by rw [gen_config_version_model]; rfl⟩
  · intro e he enums
    rw [gen_config_version_model, hcv _ _ (by have := nz e he; omega), C18.lookup_mem _ nd e he]
    rfl
  · intro s hs habs enums
    rw [gen_config_version_model, hcv _ _ hs, C18.lookup_absent _ _ habs]
    rfl
  · intro x xs
    rw [gen_config_version_model, gen_config_version_model, C18.config_version, C18.config_version]
    exact ⟨rfl, rfl⟩

/-! ## the translated definitions evaluated on concrete inputs (non-vacuity; independent of the theorems above) -/

/-- the sample stage of `Props/C18.lean` (3 bytes in front of an x86 image with one section, an export directory and two appended
bytes), `io.BytesIO` at position 0, documented defaults: the values and the positions left behind (88 = `e_lfanew` 64 + 4 + the
20-byte file header; 420 = `SizeOfHeaders` 352 + 64 raw section bytes + the 4 appended bytes read) -/
example :
    let fh := encFile (PyFile.ofBytes (C18.samplePrepend ++ C18.sampleImage))
    Gen.PyPe.find_mz_offset_default2 fh = .ok (.tuple [.int 3, encFile ⟨C18.samplePrepend ++ C18.sampleImage, 3 + 88, .bytesIO⟩]) ∧
    Gen.PyPe.find_architecture_default2 fh = .ok (.tuple [PyU.lit "x86", encFile ⟨C18.samplePrepend ++ C18.sampleImage, 3 + 88, .bytesIO⟩]) ∧
    valOf (Gen.PyPe.find_compile_stamps_default2 fh) = some (.tuple [.int 0x5F94C216, .int 0x603E2D9D]) ∧
    valOf (Gen.PyPe.find_magic_mz_default2 fh) = some (.bytes [77, 90]) ∧
    valOf (Gen.PyPe.find_magic_pe_default2 fh) = some (.bytes [80, 69]) ∧
    valOf (Gen.PyPe.find_stage_prepend_append_default2 fh) = some (.tuple [.bytes [0x90, 0x90, 0xCC], .bytes [65, 66]]) ∧
    tellOf (Gen.PyPe.find_stage_prepend_append_default2 fh) = some (3 + 420) := by decide +kernel

/-- a regular file at position 7, a complete x64 image in front of `start_offset = 328`, `maxrange = 65` / `64` (`e_lfanew < maxrange`) -/
example :
    Gen.PyPe.find_mz_offset (encFile C18.sampleFileAt) (.int 328) (.int 65)
      = .ok (.tuple [.int 331, encFile ⟨C18.sampleFileAt.data, 331 + 88, .osFile⟩]) ∧
    valOf (Gen.PyPe.find_mz_offset (encFile C18.sampleFileAt) (.int 328) (.int 64)) = some .none ∧
    valOf (Gen.PyPe.find_architecture (encFile C18.sampleFileAt) (.int 0) (.int 65)) = some (PyU.lit "x64") := by decide +kernel

/-- truncated inside the optional header: the compile stamp that was read is reported, the export stamp is `None`; on an empty file
searched from `fh.tell()` every helper answers `None` and leaves the position where the last probe put it -/
example :
    valOf (Gen.PyPe.find_compile_stamps (encFile (PyFile.ofBytes ((C18.samplePrepend ++ C18.sampleImage).take 120))) (.int 0) (.int 1024))
      = some (.tuple [.int 0x5F94C216, .none]) ∧
    Gen.PyPe.find_stage_prepend_append (encFile (PyFile.ofBytes [])) V.none (.int 1024)
      = .ok (.tuple [.tuple [.none, .none], encFile ⟨[], 1023, .bytesIO⟩]) := by decide +kernel

/-- arguments of other kinds (only the translation can express them): a negative `start_offset` is the ValueError (BytesIO) / OSError
(file) of `fh.seek`, `maxrange=None` the TypeError of `range(None)`, a `str` where the file is expected has no `seek` -/
example :
    Gen.PyPe.find_mz_offset (encFile (PyFile.ofBytes [1, 2, 3])) (.int (-1)) (.int 8) = .error .valueError ∧
    Gen.PyPe.find_mz_offset (encFile ⟨[1, 2, 3], 0, .osFile⟩) (.int (-1)) (.int 8) = .error .osError ∧
    Gen.PyPe.find_architecture (encFile (PyFile.ofBytes [1, 2, 3])) (.int 0) V.none = .error .typeError ∧
    Gen.PyPe.find_magic_mz (PyU.lit "abc") (.int 0) (.int 8) = .error .attributeError ∧
    Gen.PyPe.find_magic_mz (PyU.lit "abc") (.int 0) (.int 0) = .ok (.tuple [V.none, PyU.lit "abc"]) := by decide +kernel

/-- the version of a configuration: export stamp in the table, stamp 0 / None (highest setting index 20), an unknown stamp -/
example :
    configVersionG (some 0x5F94C216) [20]
      = .ok (encVersion (C18.toTxt "Cobalt Strike 4.2 (Nov 06, 2020)") (some ⟨[4, 2], ⟨2020, 11, 6⟩⟩)) ∧
    configVersionG none [1, 20, 7]
      = .ok (encVersion (C18.toTxt "Cobalt Strike 3.4 (Jul 29, 2016)") (some ⟨[3, 4], ⟨2016, 7, 29⟩⟩)) ∧
    configVersionG (some 0) [78] = .ok (encVersion (C18.toTxt "Cobalt Strike 4.10 (Jul 16, 2024)") (some ⟨[4, 10], ⟨2024, 7, 16⟩⟩)) ∧
    configVersionG (some 12345) [78] = .ok (encVersion (C18.toTxt "Unknown") none) ∧
    configVersionG none [] = .error .valueError ∧
    -- arguments of other kinds: a `str` stamp is truthy and not a key (→ "Unknown"); a list is unhashable (TypeError of `dict.get`)
    Gen.PyPe.from_pe_export_stamp beaconVersionM V.none (PyU.lit "x") = .ok (encVersion (C18.toTxt "Unknown") none) ∧
    Gen.PyPe.from_pe_export_stamp beaconVersionM V.none (.list []) = .error .typeError := by decide +kernel

end C18Gen

import CsVerif.Lemmas.C14
/-! C14 property theorems: a parsed beacon configuration is an immutable value.

`runState true c State.init ops` is the state of one configuration object after the history `ops` executed by the
code as it is (`copies = true`: `HttpDataTransform.__init__` copies the step list it is given); `copies = false` is the
code before commit 9ab9399, for which the invariant is shown to fail. -/
namespace C14

/-- No history of uses changes the deep snapshot of the four views. -/
theorem config_invariant (c : Config) (ops : List Op) :
    snapshot c (runState true c State.init ops) = snapshot c State.init := by
  rw [snapshot_of_inv (reachable_inv c ops), snapshot_of_inv (Inv.init c)]

/-- The same, between any two points of a history. -/
theorem config_invariant_step (c : Config) (pre : List Op) (op : Op) :
    snapshot c (step true c (runState true c State.init pre) op).1 = snapshot c (runState true c State.init pre) := by
  rw [snapshot_of_inv (step_spec (reachable_inv c pre) op).1, snapshot_of_inv (reachable_inv c pre)]

/-- Every operation that does not name an earlier decoder returns (deep contents, exceptions included) the same
after any prefix as on a fresh configuration. -/
theorem history_independent (c : Config) (pre : List Op) (op : Op) (h : op.decoderFree = true) :
    obs true c (runState true c State.init pre) op = obs true c State.init op := by
  have hw := isWire_of_decoderFree op h
  rw [(step_spec (reachable_inv c pre) op).2.1 hw, (step_spec (Inv.init c) op).2.1 hw,
    specObs_decoderFree c _ op h, specObs_decoderFree c (State.init.decoders.length) op h]

/-- The step lists a decoder built at any point of a history uses in `transform` / `recover` are those of a decoder
built (with any key material) from a fresh configuration. -/
theorem history_independent_decoder (c : Config) (pre : List Op) (d : Nat) (w : Which) (rc : Bool)
    (k : KeyVariant) (hk : k ≠ .noKey)
    (hd : d < (runState true c State.init pre).decoders.length) :
    obs true c (runState true c State.init pre) (if rc then .recover d w else .transform d w) =
    obs true c (step true c State.init (.mkC2Http k)).1 (if rc then .recover 0 w else .transform 0 w) := by
  have hi := reachable_inv c pre
  obtain ⟨dd, hdd, -⟩ := hi.decs _ (List.getElem_mem hd)
  have hs1 := step_mkC2Http_state true c State.init k
  rcases hr : c2http true c State.init k (initKeyState k) with ⟨s1, e | d1⟩
  · obtain ⟨-, x, e1, -, -⟩ := c2http_spec (Inv.init c) k _ hk hr
    rw [hdd] at e1; cases e1
  obtain ⟨hi1, -, -, -, e3, -⟩ := c2http_spec (Inv.init c) k _ hk hr
  rw [hr] at hs1
  have hlen : 0 < s1.decoders.length := by rw [e3]; simp
  rw [hs1, (step_spec hi _).2.1 (by cases rc <;> rfl), (step_spec hi1 _).2.1 (by cases rc <;> rfl)]
  cases rc <;> simp [specObs, specSteps, hd, hlen]

/-- Item assignment / deletion on a view or on a `settings_map` result raises TypeError and leaves the
configuration as it was. -/
theorem mapping_rejects_mutation (c : Config) (pre : List Op) (t : MutTarget) :
    (step true c (runState true c State.init pre) (.mutateAttempt t)).2 = .exc .typeError ∧
    snapshot c (step true c (runState true c State.init pre) (.mutateAttempt t)).1 =
      snapshot c (runState true c State.init pre) :=
  ⟨(step_mutate (reachable_inv c pre) t).2.1, config_invariant_step c pre _⟩

/-- Decoders, clients, profiles and uncached `settings_map` results never share a list object with the cached
views of the configuration. -/
theorem views_alias_free (c : Config) (ops : List Op) :
    ∀ a ∈ extRefs (runState true c State.init ops), a ∉ cfgRefs (runState true c State.init ops) :=
  (reachable_inv c ops).sep

theorem views_alias_free_bool (c : Config) (ops : List Op) :
    aliased (runState true c State.init ops) = false := by
  have h := views_alias_free c ops
  unfold aliased
  rw [Bool.eq_false_iff]
  intro hany
  rw [List.any_eq_true] at hany
  obtain ⟨a, ha, hc⟩ := hany
  exact h a ha (by simpa using hc)

/-- Two different cached views (e.g. `settings` and `settings_by_index`) hold different list objects. -/
theorem cached_views_disjoint (c : Config) (ops : List Op) (v v' : View) (m m' : Mapping) (hne : v ≠ v')
    (h1 : (runState true c State.init ops).getCache v = some m)
    (h2 : (runState true c State.init ops).getCache v' = some m') :
    ∀ a ∈ refsOf m, a ∉ refsOf m' :=
  (reachable_inv c ops).disj v v' m m' hne h1 h2

/-- Every result is a function of the immutable settings tuple alone (`specObs` never looks at the heap). -/
theorem results_determined_by_config (c : Config) (pre : List Op) (op : Op) (hw : op.isWire = false) :
    obs true c (runState true c State.init pre) op =
      specObs c (runState true c State.init pre).decoders.length op :=
  (step_spec (reachable_inv c pre) op).2.1 hw

/-! ### traffic recovery (`iter_recover_http`): decoders built from one configuration are independent -/

/-- The result of `iter_recover_http` on decoder `d` is a function of `d`'s own key state (private key, session keys,
own metadata cache) — of nothing else in the state. -/
theorem wire_result_local (c : Config) (s : State) (d : Nat) (w : Wire) :
    obs true c s (.recoverWire d w) =
      match s.decoders[d]? with
      | none => .noDecoder
      | some dec => match wireRes dec.ks w with
        | .inl ps => .packets ps
        | .inr e => .exc e := by
  simp only [obs, step]
  cases s.decoders[d]? with
  | none => rfl
  | some dec =>
    dsimp only
    generalize wireRes dec.ks w = r
    cases r <;> rfl

/-- From any point of a history on, the key state of an existing decoder `j` is the fold of ITS OWN
`iter_recover_http` calls: constructing other decoders, recovering traffic with them, view accesses, profiles, …
do not touch it. -/
theorem decoders_independent (c : Config) (pre ops : List Op) (j : Nat)
    (hj : j < (runState true c State.init pre).decoders.length) :
    ((runState true c (runState true c State.init pre) ops).decoders[j]?).map Decoder.ks =
      ((runState true c State.init pre).decoders[j]?).map (fun d => (ownWires j ops).foldl wireStep d.ks) :=
  run_ks ops (reachable_inv c pre) j hj

/-- Hence what decoder `j` (built with key variant `k` after ANY prefix) returns for a recorded message depends only on
`k` and on the messages recovered with `j` itself — the same as on a fresh configuration. -/
theorem wire_history_independent (c : Config) (pre ops : List Op) (k : KeyVariant) (hk : k ≠ .noKey) (w : Wire)
    (hsucc : (step true c (runState true c State.init pre) (.mkC2Http k)).1.decoders.length =
      (runState true c State.init pre).decoders.length + 1) :
    obs true c (runState true c (step true c (runState true c State.init pre) (.mkC2Http k)).1 ops)
        (.recoverWire (runState true c State.init pre).decoders.length w) =
      match wireRes ((ownWires (runState true c State.init pre).decoders.length ops).foldl wireStep (initKeyState k)) w with
      | .inl ps => .packets ps
      | .inr e => .exc e := by
  have hi := reachable_inv c pre
  generalize runState true c State.init pre = s0 at *
  rw [step_mkC2Http_state] at hsucc ⊢
  rcases hr : c2http true c s0 k (initKeyState k) with ⟨s1, e | d⟩
  · obtain ⟨-, x, -, -, e3⟩ := c2http_spec hi k _ hk hr
    rw [hr, e3] at hsucc
    exact absurd hsucc (by omega)
  obtain ⟨hi1, -, -, -, e3, e4⟩ := c2http_spec hi k _ hk hr
  rw [hr] at hsucc
  have hks := run_ks ops hi1 s0.decoders.length (by rw [hsucc]; exact Nat.lt_succ_self _)
  rw [e3] at hks
  simp only [List.getElem?_append_right (Nat.le_refl _), Nat.sub_self, List.getElem?_cons_zero,
    Option.map_some, e4] at hks
  rw [wire_result_local]
  cases hd : (runState true c s1 ops).decoders[s0.decoders.length]? with
  | none => rw [hd] at hks; cases hks
  | some dec =>
    rw [hd] at hks
    simp only [Option.map_some, Option.some.injEq] at hks
    dsimp only
    rw [hks]

/-- decoders whose metadata cache is ONE flag on the configuration object, shared by all decoders built from it -/
def runSharedCache : Bool → List KeyState → List (Nat × Wire) → List (List Nat ⊕ PyExc)
  | _, _, [] => []
  | cache, ds, (j, w) :: rest =>
    match ds[j]? with
    | none => runSharedCache cache ds rest
    | some ks =>
      let ks' := wireStep { ks with cached := cache } w     -- the decoder sees the shared cache
      wireRes ks w :: runSharedCache (cache || (w == .checkin && ks.hasPriv)) (ds.set j { ks' with cached := false }) rest

/-- With the shared cache decoders are NOT independent: decoder 1 (RSA key only) recovering the check-in after decoder 0
did hits the shared cache, never derives the session keys, and fails on the task — where on its own it decodes it. -/
theorem shared_cache_variant_history_dependent :
    runSharedCache false [initKeyState .rsaPriv, initKeyState .rsaPriv] [(0, .checkin), (1, .checkin), (1, .task)] =
      [.inl [1], .inl [1], .inr .valueError] ∧
    wireRes ([Wire.checkin].foldl wireStep (initKeyState .rsaPriv)) .task = .inl [2] := by
  decide +kernel

/-- The setting names the constructors look up exist in the `BeaconSetting` enum of the tree (generated table). -/
theorem used_names_resolve :
    (["SETTING_SUBMITURI", "SETTING_C2_VERB_POST", "SETTING_C2_VERB_GET", "SETTING_C2_POSTREQ", "SETTING_C2_REQUEST",
      "SETTING_C2_RECOVER", "SETTING_SLEEPTIME", "SETTING_JITTER", "SETTING_USERAGENT", "SETTING_HOST_HEADER",
      "SETTING_DOMAINS"].all (fun n => (nameConst n).isSome)) = true := by
  decide +kernel

/-! ### concrete instances, and the code before 9ab9399 (`copies = false`) -/

/-- a small HTTP configuration: SUBMITURI, verbs, and the three transform programs (ids are interned steps) -/
def demoConfig : Config :=
  { tuple :=
      [⟨10, 10, 10, 100, 100, .scalar 101⟩, ⟨26, 26, 26, 102, 102, .scalar 103⟩, ⟨27, 27, 27, 104, 104, .scalar 105⟩,
       ⟨11, 11, 11, 106, 106, .list [7]⟩, ⟨12, 12, 12, 107, 107, .list [1, 2, 3]⟩, ⟨13, 13, 13, 108, 108, .list [4, 5]⟩],
    pubkeyOk := true, trial := false, protoHttp := true, hasDomains := true }

/-- on `demoConfig` decoder construction succeeds: the theorems are not only about exception paths -/
example : obs true demoConfig State.init (.mkC2Http .aesHmac) =
    .decoder (([4, 5], [5, 4]), ([1, 2, 3], [3, 2, 1]), ([buildOutput, 7], [7, buildOutput])) := by
  decide +kernel

example : (runState true demoConfig State.init [.mkC2Http .aesHmac, .mkProfile]).decoders.length = 1 := by
  decide +kernel

/-- The code before 9ab9399 (`self.tsteps = steps`) VIOLATES the invariant: after one `C2Http(cfg)` the cached
`SETTING_C2_RECOVER` list has grown by `("BUILD","output")`. -/
theorem aliasing_variant_violates :
    snapshot demoConfig (runState false demoConfig State.init [.mkC2Http .aesHmac]) ≠ snapshot demoConfig State.init := by
  decide +kernel

/-- … so a second decoder differs from the first (history dependence of the old code). -/
theorem aliasing_variant_history_dependent :
    obs false demoConfig (runState false demoConfig State.init [.mkC2Http .aesHmac]) (.mkC2Http .aesHmac) ≠
    obs false demoConfig State.init (.mkC2Http .aesHmac) := by
  decide +kernel

/-- … and its decoders share list objects with the configuration. -/
theorem aliasing_variant_shares_cells :
    aliased (runState false demoConfig State.init [.mkC2Http .aesHmac]) = true := by
  decide +kernel

end C14

import CsVerif.Gen.PyBeaconCfg
import CsVerif.Props.C02
import CsVerif.Lemmas.C02Gen
/-!
C02 — the tie between the source text and the model, by (untyped) translation.

`Gen/PyBeaconCfg.lean` is produced on every run by `tools/py2leanu.py` from the *source* of `beacon.iter_settings`,
`BeaconConfig.__init__`, `BeaconConfig.settings_map`, the property getters `setting_enums` / `max_setting_enum`, and the
uncached bodies of the four cached view properties (`self.settings_map(<keywords read from the getter>)`).  Every Python value is
a `PyU.V`; every Python operation one total function of `Model/PyU.lean` / `PyU_T15.lean` (`yield`) / `PyU_T02.lean`
(`BytesIO.seek`, `Setting(fobj)` following the introspected struct layout, attribute assignment, `try … except EOFError`, `str()`,
`str.replace`, `tuple()`, `MappingProxyType`, `max`).  `iter_settings` is a generator: the translated definition returns the list of
the yielded `Setting` objects; its two `while True` loops are run by `PyU.whileFuel` with the function's `fuel` argument.
CALLING a pretty function (a value of `SETTING_TO_PRETTYFUNC`) is EXTERNAL: the parameter `callv` of the translated
`settings_map`, instantiated here with `C02Gen.callX content` for an arbitrary `content` — exactly the abstraction of the
hand-written model (what the pretty functions compute is C03's subject).

The `gen_*` theorems state that the translated definitions compute, for every `bytes` argument / every `BeaconConfig` object whose
`settings_tuple` encodes a list of model settings / every value of `index_type`, `pretty`, `parse`, and for every fuel above the
length of the data, exactly the encoding (`Model/C02Gen.lean`) of what the hand-written model of `Model/C02.lean` computes —
including the `EOFError`-break, the clamped `seek(-2, SEEK_CUR)` after a short peek, the User-Agent continuation, the
`DeprecatedBeaconSetting` re-labelling, dict semantics for duplicate keys and exceptions raised by a pretty function.  So the
theorems of `Props/C02.lean` are theorems about the function texts in the repository's working tree (the corollaries below restate the central
ones for the translated definitions), and an edit of one of these functions that changes its meaning breaks the proof here.
Not translated: the per-instance cache of the four view properties (C14's subject; `Model/C02.lean` `access` / `runHistory` stay
hand-modelled and tied by the `hist` stream).  Helper lemmas: `Lemmas/C02Gen.lean`.
-/
namespace C02Gen
open PyU Gen.PyBeaconCfg

/-! ### the translated definitions equal the model -/

/-- `iter_settings(data)` for every `bytes` argument and every fuel above its length: the yielded `Setting` objects are the
encoding of what the model's `iterSettingsE` computes -/
theorem gen_iter_settings (fuel : Nat) (data : Bytes) (h : data.length < fuel) :
    iter_settings fuel (.bytes data) = (C02.iterSettingsE data).map encSettings := by
  obtain ⟨p, hp⟩ := gen_iter_settings_loop fuel fuel [] data [] h h
  have e : newBytesIO (.bytes data) = .ok (mk [] data) := rfl
  simp only [iter_settings, isInstance, isInst1, List.any_cons, List.any_nil, Bool.or_false, if_true, e, PyU.ok_bind, hp, pure_ok,
    List.nil_append, C02.iterSettingsE_parseSpec]
  rfl

/-- the same with the total model function (`C02.iterSettingsE_eq`): the translated generator never raises on `bytes` -/
theorem gen_iter_settings_ok (fuel : Nat) (data : Bytes) (h : data.length < fuel) :
    iter_settings fuel (.bytes data) = .ok (encSettings (C02.iterSettings data)) := by
  rw [gen_iter_settings fuel data h, C02.iterSettingsE_eq]; rfl

/-- an `io.BytesIO` argument (content `pre ++ rest`, positioned after `pre`) is decoded from its position -/
theorem gen_iter_settings_bytesio (fuel : Nat) (pre rest : Bytes) (h : rest.length < fuel) :
    iter_settings fuel (.bytesIO (pre ++ rest) pre.length) = .ok (encSettings (C02.iterSettings rest)) := by
  obtain ⟨p, hp⟩ := gen_iter_settings_loop fuel fuel pre rest [] h h
  simp only [iter_settings, isInstance, isInst1, List.any_cons, List.any_nil, Bool.or_false, Bool.false_eq_true, if_false, pure_ok,
    encSettings, C02.iterSettings_parseSpec]
  rw [show V.bytesIO (pre ++ rest) pre.length = mk pre rest from rfl, hp]
  rfl

/-- the constructor call `BeaconConfig(config_block)` for every `bytes` argument: the new object has `config_block`,
`settings_tuple = tuple(iter_settings(config_block))`, the metadata attributes `None` / `False` and four empty cache attributes -/
theorem gen_beacon_config_init (fuel : Nat) (data : Bytes) (h : data.length < fuel) :
    beacon_config_init fuel (.bytes data) = .ok (encConfig (.bytes data) (C02.iterSettings data)) := by
  simp only [beacon_config_init, gen_iter_settings_ok fuel data h, PyU.ok_bind, encSettings, tupleOf, iterList, Except.map, pure_ok,
    encConfig]

/-- `BeaconConfig.setting_enums`, for every object `self` whose `settings_tuple` is the encoding of a list of model settings -/
theorem gen_setting_enums (self : V) (ss : List C02.Setting)
    (h : getAttr self "settings_tuple" = .ok (.tuple (ss.map encSetting))) :
    setting_enums self = .ok (encNats (C02.settingEnums ss)) := by
  simp only [Gen.PyBeaconCfg.setting_enums, h, PyU.ok_bind, iterList, gen_setting_enums_loop, List.nil_append, C02.settingEnums,
    List.map_map, encNats]
  rfl

/-- `BeaconConfig.max_setting_enum` (`max([])` raises ValueError) -/
theorem gen_max_setting_enum (self : V) (ss : List C02.Setting)
    (h : getAttr self "settings_tuple" = .ok (.tuple (ss.map encSetting))) :
    max_setting_enum self = (C02.maxSettingEnum ss).map encNat := by
  simp only [Gen.PyBeaconCfg.max_setting_enum, gen_setting_enums self ss h, PyU.ok_bind, C02.maxSettingEnum]
  cases hs : C02.settingEnums ss with
  | nil => simp [maxOf]; rfl
  | cons x xs =>
    have hall : (List.map encNat (x :: xs)).all (fun v => (asInt v).isSome) = true := by
      simp [asInt, encNat]
    simp only [maxOf, encNats, List.map_cons] at hall ⊢
    simp only [hall, if_true, maxOf_ints]
    rfl

/-- `BeaconConfig.settings_map(index_type, pretty, parse)` for ARBITRARY argument values: `index_type` is read as `"name"` /
`"const"` / anything else (`itOf`), `pretty` and `parse` through their truth value; for every abstract content of the pretty
functions and every object `self` whose `settings_tuple` encodes `ss` -/
theorem gen_settings_map (content : Nat → C02.Val → Py C02.Val) (self : V) (ss : List C02.Setting)
    (h : getAttr self "settings_tuple" = .ok (.tuple (ss.map encSetting))) (index_type pretty parse : V) :
    settings_map (callX content) self index_type pretty parse
      = (C02.settingsMap content ss (itOf index_type) (truthy pretty) (truthy parse)).map encMap := by
  have e : (V.dict [] [] : V) = encMap [] := rfl
  simp only [Gen.PyBeaconCfg.settings_map, h, PyU.ok_bind, iterList, e, gen_settings_map_loop, C02.settingsMap, C02.settingsMapG]
  cases C02.buildDict (C02.keyOf (itOf index_type)) (C02.valueOf (C02.dispatch content) (truthy pretty) (truthy parse)) ss [] with
  | error e => rfl
  | ok m => rfl

/-- the calls with defaulted arguments: `settings_map()` is the enum view with `pretty=False, parse=True` -/
theorem gen_settings_map_defaults (content : Nat → C02.Val → Py C02.Val) (self : V) (ss : List C02.Setting)
    (h : getAttr self "settings_tuple" = .ok (.tuple (ss.map encSetting))) :
    settings_map_default3 (callX content) self = (C02.settingsMap content ss .enum false true).map encMap := by
  rw [settings_map_default3, gen_settings_map content self ss h]; rfl

/-- the uncached bodies of the four view properties (arguments read from the getters' source) are the model's views -/
theorem gen_views (content : Nat → C02.Val → Py C02.Val) (self : V) (ss : List C02.Setting)
    (h : getAttr self "settings_tuple" = .ok (.tuple (ss.map encSetting))) :
    raw_settings (callX content) self = (C02.rawSettings content ss).map encMap ∧
    raw_settings_by_index (callX content) self = (C02.rawSettingsByIndex content ss).map encMap ∧
    Gen.PyBeaconCfg.settings (callX content) self = (C02.settings content ss).map encMap ∧
    settings_by_index (callX content) self = (C02.settingsByIndex content ss).map encMap := by
  refine ⟨?_, ?_, ?_, ?_⟩
  · rw [raw_settings, gen_settings_map content self ss h]; rfl
  · rw [raw_settings_by_index, gen_settings_map content self ss h]; rfl
  · rw [Gen.PyBeaconCfg.settings, gen_settings_map content self ss h]; rfl
  · rw [settings_by_index, gen_settings_map content self ss h]; rfl

/-- the object `BeaconConfig(data)` constructs satisfies the hypothesis of the theorems above -/
theorem config_settings_tuple (cb : V) (ss : List C02.Setting) :
    getAttr (encConfig cb ss) "settings_tuple" = .ok (.tuple (ss.map encSetting)) := by
  simp [encConfig, getAttr, lookupField, Gen.PyBeaconCfg.BeaconConfig]

/-- end to end: `BeaconConfig(data).settings_map(index_type, pretty, parse)` from the two source texts -/
theorem gen_config_settings_map (content : Nat → C02.Val → Py C02.Val) (fuel : Nat) (data : Bytes) (h : data.length < fuel)
    (index_type pretty parse : V) :
    (beacon_config_init fuel (.bytes data) >>= fun cfg => settings_map (callX content) cfg index_type pretty parse)
      = (C02.settingsMap content (C02.iterSettings data) (itOf index_type) (truthy pretty) (truthy parse)).map encMap := by
  rw [gen_beacon_config_init fuel data h]
  exact gen_settings_map content (encConfig (.bytes data) (C02.iterSettings data)) (C02.iterSettings data)
    (config_settings_tuple _ _) index_type pretty parse

/-! ### the property theorems, restated for the translated definitions -/

/-- **parse ∘ serialize = id** for the source text: a serialized well-formed list followed by the `00 00` terminator and arbitrary
bytes, or by the end of the data, is decoded to exactly that list -/
theorem gen_parse_serialize (ss : List C02.Setting) (hw : C02.WellFormedList ss) (tail : Bytes) (fuel : Nat)
    (h : (C02.serialize ss ++ [0, 0] ++ tail).length < fuel) :
    iter_settings fuel (.bytes (C02.serialize ss ++ [0, 0] ++ tail)) = .ok (encSettings ss) ∧
    iter_settings fuel (.bytes (C02.serialize ss)) = .ok (encSettings ss) := by
  have hp := C02.parse_serialize ss hw tail
  have h2 : (C02.serialize ss).length < fuel := by
    simp only [List.length_append] at h; omega
  exact ⟨by rw [gen_iter_settings_ok _ _ h, hp.1], by rw [gen_iter_settings_ok _ _ h2, hp.2]⟩

/-- a record cut anywhere before its end is dropped, the records before it are kept -/
theorem gen_truncated_drops_partial (ss : List C02.Setting) (hw : C02.WellFormedList ss) (s : C02.Setting) (hs : s.Encodable)
    (p : Bytes) (hp : p <+: C02.serializeOne s) (hlt : p.length < (C02.serializeOne s).length) (fuel : Nat)
    (h : (C02.serialize ss ++ p).length < fuel) :
    iter_settings fuel (.bytes (C02.serialize ss ++ p)) = .ok (encSettings ss) := by
  rw [gen_iter_settings_ok _ _ h, C02.truncated_drops_partial ss hw s hs p hp hlt]

/-- everything the source text yields is a prefix of the data read back: `data = serialize(yielded) ++ rest`, where `rest`
starts with the terminator or holds no complete record -/
theorem gen_parse_sound (data : Bytes) (fuel : Nat) (h : data.length < fuel) :
    ∃ ss rest, iter_settings fuel (.bytes data) = .ok (encSettings ss) ∧ data = C02.serialize ss ++ rest ∧
      (rest.take 2 = [0, 0] ∨ C02.decodeOne rest = none) := by
  obtain ⟨rest, h1, h2⟩ := C02.parse_sound data
  exact ⟨C02.iterSettings data, rest, gen_iter_settings_ok fuel data h, h1, h2⟩

/-- **User-Agent continuation**: an over-long User-Agent takes the bytes up to the next NUL, decoding resumes at that NUL -/
theorem gen_useragent_continuation (pre : List C02.Setting) (hpre : C02.WellFormedList pre) (ua : C02.Setting)
    (hua : ua.Encodable) (hov : ua.uaOverlong) (ext rest : Bytes) (hext : ∀ b ∈ ext, b ≠ 0) (fuel : Nat)
    (h : (C02.serialize pre ++ (C02.serializeOne ua ++ (ext ++ 0 :: rest))).length < fuel) :
    iter_settings fuel (.bytes (C02.serialize pre ++ (C02.serializeOne ua ++ (ext ++ 0 :: rest)))) =
      .ok (encSettings (pre ++ { ua with value := ua.value ++ ext, deprecated := false } :: C02.iterSettings (0 :: rest))) := by
  rw [gen_iter_settings_ok _ _ h, C02.useragent_continuation pre hpre ua hua hov ext rest hext]

/-- **the views agree**, for the source text: when no index occurs under both enum identities, the name- and const-keyed
translated mappings are the encodings of the re-keyed enum-keyed mapping — which is what the translated enum view returns;
in particular the four view properties -/
theorem gen_views_agree (content : Nat → C02.Val → Py C02.Val) (self : V) (ss : List C02.Setting)
    (h : getAttr self "settings_tuple" = .ok (.tuple (ss.map encSetting))) (hmix : C02.NoMixedIdentity ss) (pretty parse : V) :
    settings_map (callX content) self (lit "enum") pretty parse
      = (C02.settingsMap content ss .enum (truthy pretty) (truthy parse)).map encMap ∧
    settings_map (callX content) self (lit "name") pretty parse
      = ((C02.settingsMap content ss .enum (truthy pretty) (truthy parse)).map (C02.rekey C02.Key.toName)).map encMap ∧
    settings_map (callX content) self (lit "const") pretty parse
      = ((C02.settingsMap content ss .enum (truthy pretty) (truthy parse)).map (C02.rekey C02.Key.toConst)).map encMap ∧
    raw_settings (callX content) self
      = ((C02.settingsMap content ss .enum false true).map (C02.rekey C02.Key.toName)).map encMap ∧
    raw_settings_by_index (callX content) self
      = ((C02.settingsMap content ss .enum false true).map (C02.rekey C02.Key.toConst)).map encMap ∧
    Gen.PyBeaconCfg.settings (callX content) self
      = ((C02.settingsMap content ss .enum true true).map (C02.rekey C02.Key.toName)).map encMap ∧
    settings_by_index (callX content) self
      = ((C02.settingsMap content ss .enum true true).map (C02.rekey C02.Key.toConst)).map encMap := by
  obtain ⟨v1, v2, v3, v4⟩ := gen_views content self ss h
  obtain ⟨a1, a2, a3, a4⟩ := C02.views_agree content ss hmix
  refine ⟨?_, ?_, ?_, ?_, ?_, ?_, ?_⟩
  · rw [gen_settings_map content self ss h]; rfl
  · rw [gen_settings_map content self ss h]
    have e : itOf (lit "name") = .name := by decide
    rw [e]
    exact congrArg (·.map encMap) (C02.views_agree_name (C02.dispatch content) ss (truthy pretty) (truthy parse))
  · rw [gen_settings_map content self ss h]
    have e : itOf (lit "const") = .const := by decide
    rw [e]
    exact congrArg (·.map encMap) (C02.views_agree_const (C02.dispatch content) ss (truthy pretty) (truthy parse) hmix)
  · rw [v1, a1]
  · rw [v2, a2]
  · rw [v3, a3]
  · rw [v4, a4]

/-! ### Non-vacuity: the translated definitions evaluated on concrete inputs -/

/-- the tagging stub of the driver: pretty function number `i` returns `opaque i arg` -/
def tag (i : Nat) (v : C02.Val) : Py C02.Val := .ok (.opaque i v)

/- Proofs by evaluation.  Where the result holds an enum member the two sides are compared by `rfl`: deciding the equation would
compare the member tables of the two `V.enum` values entry by entry. -/

-- SETTING_PROTOCOL (SHORT) 8, index 36 as TYPE_SHORT (re-labelled DeprecatedBeaconSetting), terminator, junk
example : iter_settings 20 (.bytes [0, 1, 0, 1, 0, 2, 0, 8, 0, 36, 0, 1, 0, 2, 0, 255, 0, 0, 7]) =
    .ok (.list [encSetting { index := 1, type := 1, length := 2, value := [0, 8] },
                encSetting { index := 36, type := 1, length := 2, value := [0, 255], deprecated := true }]) := rfl
-- a record whose value is cut: EOFError inside `try`, the loop ends
example : iter_settings 20 (.bytes [0, 1, 0, 1, 0, 2, 0, 8, 0, 2, 0, 1, 0, 2, 9]) =
    .ok (.list [encSetting { index := 1, type := 1, length := 2, value := [0, 8] }]) := rfl
-- a short peek (one byte left): `seek(-2, SEEK_CUR)` is clamped, the struct read raises EOFError
example : iter_settings 20 (.bytes [7]) = .ok (.list []) := by decide +kernel
-- too little fuel is reported, not hidden
example : iter_settings 1 (.bytes [0, 1, 0, 1, 0, 2, 0, 8, 0, 0]) = .error .timeoutDiverge := by decide +kernel
-- an `io.BytesIO` argument is read from its position
example : iter_settings 20 (.bytesIO [9, 9, 0, 1, 0, 1, 0, 2, 0, 8] 2) =
    .ok (.list [encSetting { index := 1, type := 1, length := 2, value := [0, 8] }]) := rfl
-- `None.read` / `int.read`: AttributeError
example : iter_settings 20 .none = .error .attributeError := by decide +kernel
example : iter_settings 20 (.int 5) = .error .attributeError := by decide +kernel
-- settings_map: name view with pretty functions (index 9 has one, index 1 has none, index 200 has no name)
example : (beacon_config_init 40 (.bytes [0, 1, 0, 1, 0, 2, 0, 8, 0, 9, 0, 3, 0, 2, 65, 66, 0, 200, 0, 2, 0, 4, 0, 0, 1, 0]) >>= fun cfg =>
      settings_map (callX tag) cfg (lit "name") (.bool true) (.bool true)) =
    .ok (encMap [(.name (C02.ascii "SETTING_PROTOCOL"), .int 8), (.name (C02.ascii "SETTING_USERAGENT"), .opaque 9 (.bytes [65, 66])),
                 (.name (C02.ascii "BeaconSetting_200"), .int 256)]) := by decide +kernel
-- any value of `index_type` other than "name" / "const" is the enum view; `pretty=0, parse=""` leaves the raw bytes
example : (beacon_config_init 40 (.bytes [0, 1, 0, 1, 0, 2, 0, 8]) >>= fun cfg =>
      settings_map (callX tag) cfg (.int 3) (.int 0) (lit "")) =
    .ok (encMap [(.enum false 1, .bytes [0, 8])]) := rfl
-- a raising pretty function propagates
example : (beacon_config_init 40 (.bytes [0, 9, 0, 3, 0, 1, 65]) >>= fun cfg =>
      settings_map (callX fun _ _ => .error .valueError) cfg (lit "const") (.bool true) (.bool true)) = .error .valueError := by
  decide +kernel
-- max_setting_enum of an empty configuration: ValueError
example : (beacon_config_init 40 (.bytes []) >>= max_setting_enum) = .error .valueError := by decide +kernel
example : (beacon_config_init 40 (.bytes [0, 5, 0, 1, 0, 0, 0, 78, 0, 1, 0, 0]) >>= max_setting_enum) = .ok (.int 78) := by decide +kernel

end C02Gen

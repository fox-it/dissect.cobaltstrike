import CsVerif.Lemmas.C18
/-!
C18 property theorems — PE artifacts and the deduced Cobalt Strike version.

Generated-table obligations (`table_*`) are re-checked by `decide +kernel` against `Gen/Version.lean`, i.e. against
the dictionaries of the imported `dissect.cobaltstrike.version` and the values the real `BeaconVersion` computes.
-/
namespace C18
open Gen.Version Gen.PeStruct

/-! ## generated tables -/

/-- the model's parser is written for exactly this regular expression -/
theorem table_regex_unchanged :
    regexVersion = [67, 111, 98, 97, 108, 116, 32, 83, 116, 114, 105, 107, 101, 32, 40, 63, 80, 60, 109, 97, 106, 111, 114,
      62, 92, 100, 43, 41, 92, 46, 40, 63, 80, 60, 109, 105, 110, 111, 114, 62, 92, 100, 43, 41, 40, 92, 46, 40, 63, 80, 60,
      112, 97, 116, 99, 104, 62, 92, 100, 43, 41, 41, 63, 32, 92, 40, 40, 63, 80, 60, 100, 97, 116, 101, 62, 46, 42, 41, 92, 41]
    ∧ unknownText = unknownTxt := by decide +kernel

/-- for every entry the model's own parse of the text equals the `(tuple, date)` the code computed -/
theorem table_parse_agrees_export : ∀ e ∈ peExportStampEntries,
    ∃ v, parseVersion e.text = .ok (some v) ∧ e.tuple = some v.tuple ∧ e.date = some (v.date.y, v.date.m, v.date.d) :=
  agrees_of_check _ (by decide +kernel)

theorem table_parse_agrees_enum : ∀ e ∈ maxEnumEntries,
    ∃ v, parseVersion e.text = .ok (some v) ∧ e.tuple = some v.tuple ∧ e.date = some (v.date.y, v.date.m, v.date.d) :=
  agrees_of_check _ (by decide +kernel)

/-- later export timestamps never map to earlier releases (version tuple and release date, as parsed from the text) -/
theorem table_monotone_export : ∀ a ∈ peExportStampEntries, ∀ b ∈ peExportStampEntries, a.key < b.key →
    ∃ va vb, parseVersion a.text = .ok (some va) ∧ parseVersion b.text = .ok (some vb) ∧
      tupleLe va.tuple vb.tuple = true ∧ dateLe va.date vb.date = true :=
  monotone_of_checks _ table_parse_agrees_export (by decide +kernel)

/-- higher setting indices never map to earlier releases -/
theorem table_monotone_enum : ∀ a ∈ maxEnumEntries, ∀ b ∈ maxEnumEntries, a.key < b.key →
    ∃ va vb, parseVersion a.text = .ok (some va) ∧ parseVersion b.text = .ok (some vb) ∧
      tupleLe va.tuple vb.tuple = true ∧ dateLe va.date vb.date = true :=
  monotone_of_checks _ table_parse_agrees_enum (by decide +kernel)

/-- every table text has exactly the documented shape `Cobalt Strike M.m[.p] (Mon DD, YYYY)` with a valid date;
keys are distinct, and export-stamp keys are non-zero (so a table hit is never shadowed by the `if self.pe_export_stamp:` test).
That the `String` tables list the same keys and texts is `table_strings_agree_*` below. -/
theorem table_shape :
    (∀ e ∈ peExportStampEntries, ∃ major minor patch d, validDate d.y d.m d.d = true ∧ e.text = formatVersion major minor patch d) ∧
    (∀ e ∈ maxEnumEntries, ∃ major minor patch d, validDate d.y d.m d.d = true ∧ e.text = formatVersion major minor patch d) ∧
    keysNodup peExportStampEntries = true ∧ keysNodup maxEnumEntries = true ∧
    (∀ e ∈ peExportStampEntries, e.key ≠ 0) := by
  refine ⟨shape_of_check _ (by decide +kernel), shape_of_check _ (by decide +kernel), by decide +kernel, by decide +kernel, ?_⟩
  have h : peExportStampEntries.all (fun e => e.key != 0) = true := by decide +kernel
  intro e he
  simpa using List.all_eq_true.mp h e he

/-- the same fact in the executable form the driver evaluates (`mono` stream of the correspondence) -/
theorem table_monotone_at :
    (∀ a ∈ peExportStampEntries, ∀ b ∈ peExportStampEntries, monotoneAt peExportStampEntries (a.key : Int) (b.key : Int) = true) ∧
    (∀ a ∈ maxEnumEntries, ∀ b ∈ maxEnumEntries, monotoneAt maxEnumEntries (a.key : Int) (b.key : Int) = true) :=
  ⟨monotoneAt_of _ table_shape.2.2.1 table_monotone_export, monotoneAt_of _ table_shape.2.2.2.1 table_monotone_enum⟩

/-- the `String` tables list the same keys and texts (as code points) as the entry tables -/
theorem table_strings_agree_enum :
    maxEnumToVersion.map (fun p => (p.1, toTxt p.2)) = maxEnumEntries.map (fun e => (e.key, e.text)) :=
  strings_agree _ _ (by decide +kernel) (by decide +kernel)

/-- the export table in two parts, entries 0–26 and the rest (both are cut from `strings_agree_export`, the whole table) -/
theorem table_strings_agree_export_head :
    (peExportStampToVersion.take 27).map (fun p => (p.1, toTxt p.2))
      = (peExportStampEntries.take 27).map (fun e => (e.key, e.text)) := by
  rw [List.map_take, List.map_take, strings_agree_export]

theorem table_strings_agree_export_tail :
    (peExportStampToVersion.drop 27).map (fun p => (p.1, toTxt p.2))
      = (peExportStampEntries.drop 27).map (fun e => (e.key, e.text)) := by
  rw [List.map_drop, List.map_drop, strings_agree_export]

/-! ## BeaconVersion parsing and precedence -/

/-- every string of the documented shape parses back to the fields it was formatted from (`re.match` + `strptime`) -/
theorem version_parse_format (major minor : Nat) (patch : Option Nat) (d : Date) (h : validDate d.y d.m d.d = true) :
    parseVersion (formatVersion major minor patch d) = .ok (some ⟨major :: minor :: patch.toList, d⟩) := by
  rw [formatVersion_eq, parseVersion, matchVersion_shape _ _ _ _ (dateTxt_no_newline d h)]
  simp only [strptimeDate_dateTxt d h]
  cases patch <;> simp [(natDigits_spec _).2.2]

example : validDate 2022 9 16 = true ∧
    formatVersion 4 7 (some 1) ⟨2022, 9, 16⟩ = toTxt "Cobalt Strike 4.7.1 (Sep 16, 2022)" := by decide +kernel

/-- `version_only` of a parsed version is the dotted tuple, e.g. `4.7.1` -/
example : versionOnly (some ⟨[4, 7, 1], ⟨2022, 9, 16⟩⟩) = toTxt "4.7.1" := by decide +kernel

/-- `BeaconConfig.version`: a non-zero export stamp decides alone (table text or "Unknown", the setting index is not
consulted); `None` and `0` fall through to the highest setting index; absent keys give "Unknown", whose tuple and
date are `None`. -/
theorem version_precedence :
    (∀ e ∈ peExportStampEntries, ∀ maxEnum, versionFor (some (e.key : Int)) maxEnum = e.text) ∧
    (∀ s : Int, s ≠ 0 → (∀ e ∈ peExportStampEntries, (e.key : Int) ≠ s) → ∀ maxEnum, versionFor (some s) maxEnum = unknownText) ∧
    (∀ e ∈ maxEnumEntries, versionFor none (e.key : Int) = e.text ∧ versionFor (some 0) (e.key : Int) = e.text) ∧
    (∀ m : Int, (∀ e ∈ maxEnumEntries, (e.key : Int) ≠ m) → versionFor none m = unknownText ∧ versionFor (some 0) m = unknownText) ∧
    parseVersion unknownText = .ok none := by
  obtain ⟨_, _, nd1, nd2, nz⟩ := table_shape
  refine ⟨?_, ?_, ?_, ?_, by decide +kernel⟩
  · intro e he m
    have : ((e.key : Int) ≠ 0) := by have := nz e he; omega
    simp only [versionFor, this, ne_eq, not_false_eq_true, ↓reduceIte]
    exact lookup_mem _ nd1 e he
  · intro s hs habs m
    simp only [versionFor, hs, ne_eq, not_false_eq_true, ↓reduceIte]
    exact lookup_absent _ _ habs
  · intro e he
    simp only [versionFor, ne_eq, not_true_eq_false, ↓reduceIte]
    exact ⟨lookup_mem _ nd2 e he, lookup_mem _ nd2 e he⟩
  · intro m habs
    simp only [versionFor, ne_eq, not_true_eq_false, ↓reduceIte]
    exact ⟨lookup_absent _ _ habs, lookup_absent _ _ habs⟩

/-- the property as a whole for a configuration: with setting indices `enums ≠ []` the reported text is
`versionFor stamp (max enums)`.  (The empty configuration with a falsy stamp raises, Python `max([])`: that case is
`configVersion none [] = .error .valueError`, by evaluation; it is not part of this statement.) -/
theorem config_version (stamp : Option Int) (x : Nat) (xs : List Nat) :
    configVersion stamp (x :: xs) = .ok (versionFor stamp ((xs.foldl max x : Nat) : Int)) := by
  unfold configVersion versionFor enumVersion maxEnumOf
  cases stamp with
  | none => rfl
  | some s => by_cases h : s ≠ 0 <;> simp [h]

example : versionFor (some 0x5F94C216) 20 = toTxt "Cobalt Strike 4.2 (Nov 06, 2020)" ∧
    versionFor none 20 = toTxt "Cobalt Strike 3.4 (Jul 29, 2016)" ∧
    versionFor (some 0) 78 = toTxt "Cobalt Strike 4.10 (Jul 16, 2024)" ∧
    versionFor (some 12345) 78 = toTxt "Unknown" := by decide +kernel

/-! ## histories on one `BeaconConfig` object -/

/-- a `.version` read after ANY history returns the stateless value for the export stamp in force at that moment:
earlier reads, earlier stamps, and assignments of the other attributes have no influence. -/
theorem version_history_independent (enums : List Nat) (s : CfgState) (ops : List CfgOp) :
    cfgRun enums s (ops ++ [.readVersion]) =
      cfgRun enums s ops ++ [.version (configVersion (lastStamp s.exportStamp ops) enums)] := by
  rw [cfgRun_append, ← cfgAfter_stamp]
  simp [cfgRun, cfgRead]


/-- assignments of `pe_compile_stamp` / `architecture` never influence any read -/
theorem version_history_ignores_other_attrs (enums : List Nat) (s : CfgState) (ops : List CfgOp) :
    cfgRun enums s ops = cfgRun enums ⟨s.exportStamp, none, none⟩ (ops.filter (fun op => !op.isOtherAttr)) := by
  induction ops generalizing s with
  | nil => rfl
  | cons op ops ih => cases op <;> simp [cfgRun, cfgRead, cfgNext, CfgOp.isOtherAttr, ih]

example : cfgRun [20] {} [.readVersion, .setExportStamp (some 0x5F94C216), .setArch (some .x64), .readVersion,
      .setExportStamp (some 0), .readVersion] =
    [.version (.ok (toTxt "Cobalt Strike 3.4 (Jul 29, 2016)")), .version (.ok (toTxt "Cobalt Strike 4.2 (Nov 06, 2020)")),
     .version (.ok (toTxt "Cobalt Strike 3.4 (Jul 29, 2016)"))] := by decide +kernel

/-! ## PE artifacts of a stage, for every `start_offset` and every `maxrange`

The file is `J ++ P ++ I` and the helper is called with `start_offset = |J|` and `maxrange = m`:
`J` = the bytes in front of the start offset (arbitrary; the scan never looks at them — they may even contain a complete
image), `P` = the bytes between the start offset and the image, `I` = the image.
`StageAt J P I m` (Lemmas): `I` starts with a DOS header whose signed `e_lfanew` lies in `(0, m)`, the `IMAGE_FILE_HEADER`
at `e_lfanew + 4` is inside `I` and names machine 0x8664 or 0x14c, `|P| < m`, and
`NoEarlierCandidate (J ++ P ++ I) |J| m |P|` (no offset `|J| + o`, `o < |P|`, passes the e_lfanew + Machine test).
`Img.*` are the fields of the image at their offsets inside the image.

What the code does (pe.py 193-205, 346-348), and what is therefore stated:
* the reported offset is ABSOLUTE: `return start_offset + offset`, i.e. `|J| + |P|`;
* `maxrange` bounds both the scanned window (`|P| < m`) and `e_lfanew` (`e_lfanew < m`);
* `find_stage_prepend_append` reads the prepend with `fh.seek(0); fh.read(mz_offset)`: with a non-zero start offset the
  reported prepend is `J ++ P` — everything in front of the image, including the bytes BEFORE `start_offset`;
* no helper restores the file position: each leaves it where its last read ended (`Img.endPos`), independent of the
  position it found (`pe_position_independent`).
Every statement holds for any initial file position and for both file kinds (BytesIO / OS file). -/

/-- every helper on a stage: the reported value AND the file it leaves behind -/
theorem stage_call_at {J P I : Bytes} {maxrange : Nat} (h : StageAt J P I maxrange)
    (hc : Img.headersEnd I ≤ I.length) (pos : Nat) (k : FileKind) (op : PeOp) :
    peCall ⟨J ++ P ++ I, pos, k⟩ (some J.length) maxrange op
      = (stageAnswerAt J P I op, ⟨J ++ P ++ I, J.length + P.length + Img.endPos I op, k⟩) := by
  have hlen : J.length + P.length = (J ++ P).length := List.length_append.symm
  have hmz := findMzOffset_at h pos k
  cases op
  · simp only [peCall, hmz, stageAnswerAt, Img.endPos]
  · simp only [peCall, findArchitecture_at h pos k, stageAnswerAt, Img.endPos]
  · simp only [peCall, findCompileStamps, hmz, stageAnswerAt, Img.endPos]
    rw [hlen, compileStampsAt_image (J ++ P) h.image hc]
  · simp only [peCall, findMagicMz, hmz, stageAnswerAt, Img.endPos]
    rw [hlen, magicMzAt_image (J ++ P) I]
  · simp only [peCall, findMagicPe, hmz, stageAnswerAt, Img.endPos]
    rw [hlen, magicPeAt_image (J ++ P) h.image]
  · simp only [peCall, findStagePrependAppend, hmz, stageAnswerAt, Img.endPos]
    rw [hlen, prependAppendAt_image (J ++ P) h.image hc, Nat.add_assoc]

/-- `find_mz_offset(fh, start_offset=s, maxrange=m)` returns the absolute offset `s + |P|` of the image -/
theorem mz_offset_found_at {J P I : Bytes} {maxrange : Nat} (h : StageAt J P I maxrange) (pos : Nat) (k : FileKind) :
    (findMzOffset ⟨J ++ P ++ I, pos, k⟩ (some J.length) maxrange).1 = some (J.length + P.length) := by
  rw [findMzOffset_at h pos k]

/-- … and leaves the position at the end of the image's `IMAGE_FILE_HEADER` (it is not restored) -/
theorem mz_offset_position_at {J P I : Bytes} {maxrange : Nat} (h : StageAt J P I maxrange) (pos : Nat) (k : FileKind) :
    (findMzOffset ⟨J ++ P ++ I, pos, k⟩ (some J.length) maxrange).2.tell = J.length + P.length + Img.optOff I := by
  rw [findMzOffset_at h pos k]; rfl

theorem architecture_found_at {J P I : Bytes} {maxrange : Nat} (h : StageAt J P I maxrange) (pos : Nat) (k : FileKind) :
    (findArchitecture ⟨J ++ P ++ I, pos, k⟩ (some J.length) maxrange).1 = some (Img.arch I) := by
  rw [findArchitecture_at h pos k]

theorem compile_stamps_found_at {J P I : Bytes} {maxrange : Nat} (h : StageAt J P I maxrange)
    (hc : Img.headersEnd I ≤ I.length) (pos : Nat) (k : FileKind) :
    (findCompileStamps ⟨J ++ P ++ I, pos, k⟩ (some J.length) maxrange).1
      = .ok (some (Img.compileStamp I), Img.exportStamp I) :=
  congrArg (fun r => match r.1 with | .stamps x => x | _ => .ok (none, none)) (stage_call_at h hc pos k .stamps)

theorem compile_stamp_truncated_at {J P I : Bytes} {maxrange : Nat} (h : StageAt J P I maxrange)
    (hc : I.length < Img.optOff I + optSize (Img.is64 I)) (pos : Nat) (k : FileKind) :
    (findCompileStamps ⟨J ++ P ++ I, pos, k⟩ (some J.length) maxrange).1 = .ok (some (Img.compileStamp I), none) := by
  simp only [findCompileStamps, findMzOffset_at h pos k, ← List.length_append, compileStampsAt_image_truncated (J ++ P) h.image hc]

theorem magic_mz_found_at {J P I : Bytes} {maxrange : Nat} (h : StageAt J P I maxrange) (pos : Nat) (k : FileKind) :
    (findMagicMz ⟨J ++ P ++ I, pos, k⟩ (some J.length) maxrange).1 = Img.magicMz I := by
  simp only [findMagicMz, findMzOffset_at h pos k, ← List.length_append, magicMzAt_image (J ++ P) I]

theorem magic_pe_found_at {J P I : Bytes} {maxrange : Nat} (h : StageAt J P I maxrange) (pos : Nat) (k : FileKind) :
    (findMagicPe ⟨J ++ P ++ I, pos, k⟩ (some J.length) maxrange).1 = .ok (some (Img.magicPe I)) := by
  simp only [findMagicPe, findMzOffset_at h pos k, ← List.length_append, magicPeAt_image (J ++ P) h.image]

/-- prepend = `J ++ P`, EVERYTHING in front of the image (`None` when empty) — the code reads it from offset 0, not from
`start_offset`; append = the bytes after `SizeOfHeaders + Σ SizeOfRawData` -/
theorem prepend_append_found_at {J P I : Bytes} {maxrange : Nat} (h : StageAt J P I maxrange)
    (hc : Img.headersEnd I ≤ I.length) (pos : Nat) (k : FileKind) :
    (findStagePrependAppend ⟨J ++ P ++ I, pos, k⟩ (some J.length) maxrange).1
      = .ok (prependOf (J ++ P), Img.append I) :=
  congrArg (fun r => match r.1 with | .ppa x => x | _ => .ok (none, none)) (stage_call_at h hc pos k .ppa)

/-- DESIGN §C18 `mz_found` for every start offset and every maxrange -/
theorem mz_found_at {J P I : Bytes} {maxrange : Nat} (h : StageAt J P I maxrange)
    (hc : Img.headersEnd I ≤ I.length) (pos : Nat) (k : FileKind) :
    let f : PyFile := ⟨J ++ P ++ I, pos, k⟩
    let s := some J.length
    (findMzOffset f s maxrange).1 = some (J.length + P.length) ∧
    (findArchitecture f s maxrange).1 = some (Img.arch I) ∧
    (findCompileStamps f s maxrange).1 = .ok (some (Img.compileStamp I), Img.exportStamp I) ∧
    (findMagicMz f s maxrange).1 = Img.magicMz I ∧
    (findMagicPe f s maxrange).1 = .ok (some (Img.magicPe I)) ∧
    (findStagePrependAppend f s maxrange).1 = .ok (prependOf (J ++ P), Img.append I) :=
  ⟨mz_offset_found_at h pos k, architecture_found_at h pos k, compile_stamps_found_at h hc pos k, magic_mz_found_at h pos k,
    magic_pe_found_at h pos k, prepend_append_found_at h hc pos k⟩

/-! ### file position: what the helpers depend on and what they leave behind -/

/-- with an explicit `start_offset` no helper depends on the position of the file object it is handed: the reported value is
the same from any position, and (as soon as the loop runs at all, `maxrange > 0`) so is the file left behind.
This holds for ARBITRARY content, not only for stages. (`maxrange = 0`: nothing is read and the position is untouched.) -/
theorem pe_position_independent (op : PeOp) (d : Bytes) (p q : Nat) (k : FileKind) (s maxrange : Nat) :
    (peCall ⟨d, p, k⟩ (some s) maxrange op).1 = (peCall ⟨d, q, k⟩ (some s) maxrange op).1 ∧
    (0 < maxrange → peCall ⟨d, p, k⟩ (some s) maxrange op = peCall ⟨d, q, k⟩ (some s) maxrange op) := by
  by_cases hm : 0 < maxrange
  · have hne : List.range maxrange ≠ [] := by simp; omega
    have : peCall ⟨d, p, k⟩ (some s) maxrange op = peCall ⟨d, q, k⟩ (some s) maxrange op := by
      cases op <;> simp only [peCall, findCompileStamps, findMagicMz, findMagicPe, findStagePrependAppend, findMzOffset,
        findArchitecture, startOf, scanLoop_pos_indep _ s maxrange _ hne d p q k]
    exact ⟨by rw [this], fun _ => this⟩
  · have : maxrange = 0 := by omega
    subst this
    cases op <;> exact ⟨rfl, fun h => absurd h (by omega)⟩

/-- `start_offset=None` means "from `fh.tell()`" — the only way the initial position enters a result -/
theorem pe_start_none_is_tell (f : PyFile) (maxrange : Nat) (op : PeOp) :
    peCall f none maxrange op = peCall f (some f.tell) maxrange op := by
  cases op <;> rfl

/-- no helper changes the bytes or the kind of the file object; the position is the only side effect -/
theorem pe_only_moves_position (f : PyFile) (start : Option Nat) (maxrange : Nat) (op : PeOp) :
    (peCall f start maxrange op).2.data = f.data ∧ (peCall f start maxrange op).2.kind = f.kind := by
  cases op
  · exact same_findMzOffset f start maxrange
  · exact same_findArchitecture f start maxrange
  · exact same_findCompileStamps f start maxrange
  · exact (findMagicMz_agree f start maxrange).2
  · exact (findMagicPe_agree f start maxrange).2
  · exact (findStagePrependAppend_agree f start maxrange).2

/-! ### the `start_offset = 0` instances (the statements of DESIGN §C18) -/

/-- `find_mz_offset` returns the length of the prepended data -/
theorem mz_offset_found {P I : Bytes} {maxrange : Nat} (h : Stage P I maxrange) (pos : Nat) (k : FileKind) :
    (findMzOffset ⟨P ++ I, pos, k⟩ (some 0) maxrange).1 = some P.length := by
  simpa using mz_offset_found_at h.at pos k

/-- with `start_offset=None` the search starts at `fh.tell()`; at position 0 this is the same search -/
theorem mz_offset_found_from_tell {P I : Bytes} {maxrange : Nat} (h : Stage P I maxrange) (k : FileKind) :
    (findMzOffset ⟨P ++ I, 0, k⟩ none maxrange).1 = some P.length :=
  mz_offset_found h 0 k

/-- no offset in range passes the test ⇒ `None` (any start offset, any maxrange, any content) -/
theorem mz_offset_none (f : PyFile) (start maxrange : Nat)
    (h : NoEarlierCandidate f.data start maxrange maxrange) : (findMzOffset f (some start) maxrange).1 = none := by
  have s1 := (scanLoop_spec classifyMz start maxrange (List.range maxrange) f).1
  rw [firstHit_none _ _ _ _ _ fun o ho => h o (List.mem_range.mp ho)] at s1
  unfold findMzOffset startOf
  simp only
  rcases hr : scanLoop classifyMz start maxrange (List.range maxrange) f with ⟨r, f1⟩
  rw [hr] at s1
  simp only at s1
  subst s1
  rfl

/-- `find_architecture` reports the machine encoded in the image -/
theorem architecture_found {P I : Bytes} {maxrange : Nat} (h : Stage P I maxrange) (pos : Nat) (k : FileKind) :
    (findArchitecture ⟨P ++ I, pos, k⟩ (some 0) maxrange).1 = some (Img.arch I) :=
  architecture_found_at h.at pos k

/-- compile stamp = `IMAGE_FILE_HEADER.TimeDateStamp`; export stamp = `IMAGE_EXPORT_DIRECTORY.TimeDateStamp` found through
the first section containing the export RVA, `None` when no section contains it (or the directory is cut off) -/
theorem compile_stamps_found {P I : Bytes} {maxrange : Nat} (h : Stage P I maxrange)
    (hc : Img.headersEnd I ≤ I.length) (pos : Nat) (k : FileKind) :
    (findCompileStamps ⟨P ++ I, pos, k⟩ (some 0) maxrange).1 = .ok (some (Img.compileStamp I), Img.exportStamp I) :=
  compile_stamps_found_at h.at hc pos k

/-- truncated image (optional header cut off): the compile stamp that was read is still reported, the export stamp is
`None` (the behaviour introduced by fix 5e250e6; before it EOFError escaped) -/
theorem compile_stamp_truncated {P I : Bytes} {maxrange : Nat} (h : Stage P I maxrange)
    (hc : I.length < Img.optOff I + optSize (Img.is64 I)) (pos : Nat) (k : FileKind) :
    (findCompileStamps ⟨P ++ I, pos, k⟩ (some 0) maxrange).1 = .ok (some (Img.compileStamp I), none) :=
  compile_stamp_truncated_at h.at hc pos k

theorem magic_mz_found {P I : Bytes} {maxrange : Nat} (h : Stage P I maxrange) (pos : Nat) (k : FileKind) :
    (findMagicMz ⟨P ++ I, pos, k⟩ (some 0) maxrange).1 = Img.magicMz I :=
  magic_mz_found_at h.at pos k

theorem magic_pe_found {P I : Bytes} {maxrange : Nat} (h : Stage P I maxrange) (pos : Nat) (k : FileKind) :
    (findMagicPe ⟨P ++ I, pos, k⟩ (some 0) maxrange).1 = .ok (some (Img.magicPe I)) :=
  magic_pe_found_at h.at pos k

/-- prepend = exactly `P` (`None` when empty); append = the bytes after `SizeOfHeaders + Σ SizeOfRawData` -/
theorem prepend_append_found {P I : Bytes} {maxrange : Nat} (h : Stage P I maxrange)
    (hc : Img.headersEnd I ≤ I.length) (pos : Nat) (k : FileKind) :
    (findStagePrependAppend ⟨P ++ I, pos, k⟩ (some 0) maxrange).1 = .ok (prependOf P, Img.append I) :=
  prepend_append_found_at h.at hc pos k

/-- DESIGN §C18 `mz_found`: all reported artifacts of a stage equal those of the image, irrespective of `P`. -/
theorem mz_found {P I : Bytes} {maxrange : Nat} (h : Stage P I maxrange)
    (hc : Img.headersEnd I ≤ I.length) (pos : Nat) (k : FileKind) :
    let f : PyFile := ⟨P ++ I, pos, k⟩
    (findMzOffset f (some 0) maxrange).1 = some P.length ∧
    (findArchitecture f (some 0) maxrange).1 = some (Img.arch I) ∧
    (findCompileStamps f (some 0) maxrange).1 = .ok (some (Img.compileStamp I), Img.exportStamp I) ∧
    (findMagicMz f (some 0) maxrange).1 = Img.magicMz I ∧
    (findMagicPe f (some 0) maxrange).1 = .ok (some (Img.magicPe I)) ∧
    (findStagePrependAppend f (some 0) maxrange).1 = .ok (prependOf P, Img.append I) :=
  ⟨mz_offset_found h pos k, architecture_found h pos k, compile_stamps_found h hc pos k, magic_mz_found h pos k,
    magic_pe_found h pos k, prepend_append_found h hc pos k⟩

/-- several calls on ONE file object (any order, any `fh.seek` in between, any position left behind by earlier calls), each
with `start_offset = |J|`: every call reports the image's artifacts and leaves the position at its own `Img.endPos` — no
result and no final position depends on call order or on the previous position -/
theorem pe_history_independent_at {J P I : Bytes} {maxrange : Nat} (h : StageAt J P I maxrange)
    (hc : Img.headersEnd I ≤ I.length)
    (calls : List PeCall) (hs : ∀ c ∈ calls, c.start = some J.length) (f : PyFile) (hf : f.data = J ++ P ++ I) :
    peRun maxrange f calls
      = calls.map (fun c => (stageAnswerAt J P I c.op, J.length + P.length + Img.endPos I c.op)) := by
  induction calls generalizing f with
  | nil => rfl
  | cons c cs ih =>
    have hstart : c.start = some J.length := hs c (by simp)
    unfold peRun
    simp only [List.map_cons]
    have hf0 : ∃ pos k, seekOpt f c.seekTo = ⟨J ++ P ++ I, pos, k⟩ := by
      obtain ⟨d, p, k⟩ := f
      simp only at hf
      subst hf
      cases c.seekTo with
      | none => exact ⟨p, k, rfl⟩
      | some q => exact ⟨q, k, rfl⟩
    obtain ⟨pos, k, hf0⟩ := hf0
    rw [hf0, hstart, stage_call_at h hc pos k c.op]
    simp only
    rw [ih (fun c' hc' => hs c' (by simp [hc'])) _ rfl]
    rfl

/-- the `start_offset = 0` instance (values only) -/
theorem pe_history_independent {P I : Bytes} {maxrange : Nat} (h : Stage P I maxrange) (hc : Img.headersEnd I ≤ I.length)
    (calls : List PeCall) (hs : ∀ c ∈ calls, c.start = some 0) (f : PyFile) (hf : f.data = P ++ I) :
    (peRun maxrange f calls).map (·.1) = calls.map (fun c => stageAnswer P I c.op) := by
  rw [pe_history_independent_at h.at hc calls hs f hf, List.map_map]
  apply List.map_congr_left
  intro c _
  exact stageAnswerAt_nil P I c.op


/-! ## the file-like-generic functions (used over the XorEncoded view by C01/C09) coincide with the PyFile models -/

theorem generic_agrees (f : PyFile) (start : Option Nat) (maxrange : Nat) :
    Generic.findMzOffset pyFileLike f (start.map Int.ofNat) maxrange
      = .ok ((findMzOffset f start maxrange).1.map Int.ofNat, (findMzOffset f start maxrange).2) ∧
    Generic.findArchitecture pyFileLike f (start.map Int.ofNat) maxrange = .ok (findArchitecture f start maxrange) ∧
    Generic.findCompileStamps pyFileLike f (start.map Int.ofNat) maxrange = liftPy (findCompileStamps f start maxrange) ∧
    Generic.findMagicMz pyFileLike f (start.map Int.ofNat) maxrange = .ok (findMagicMz f start maxrange) ∧
    Generic.findMagicPe pyFileLike f (start.map Int.ofNat) maxrange = liftPy (findMagicPe f start maxrange) ∧
    Generic.findStagePrependAppend pyFileLike f (start.map Int.ofNat) maxrange
      = liftPy (findStagePrependAppend f start maxrange) :=
  ⟨generic_findMzOffset f start maxrange, generic_findArchitecture f start maxrange,
    generic_findCompileStamps f start maxrange, generic_findMagicMz f start maxrange,
    generic_findMagicPe f start maxrange, generic_findStagePrependAppend f start maxrange⟩

/-- the second seek of the loop body, `fh.seek(start_offset + offset + 4 + mz.e_lfanew)`, is only reached with `e_lfanew > 0`:
its argument is non-negative, so on a Python file object it does not raise and is `seekNat` (the first seek is
`PyFile.seekSet_ok`) -/
theorem scan_seek_faithful (f : PyFile) (base : Nat) (e : Int) (h : 0 < e) :
    f.seekSet ((base : Int) + 4 + e) = .ok (base + 4 + e.toNat, seekNat f (base + 4 + e.toNat)) :=
  seekNat_faithful f base e h

/-! ### the hypotheses are satisfiable: a concrete x86 image with one section, an export directory and appended bytes -/

example : Stage samplePrepend sampleImage 1024 :=
  ⟨by decide +kernel, by decide +kernel, by decide +kernel, by decide +kernel, by decide +kernel, by decide +kernel,
    by decide +kernel⟩

example : Img.headersEnd sampleImage ≤ sampleImage.length := by decide +kernel

example : Img.arch sampleImage = .x86 ∧ Img.compileStamp sampleImage = 0x5F94C216 ∧
    Img.exportStamp sampleImage = some 0x603E2D9D ∧ Img.magicMz sampleImage = some [77, 90] ∧
    Img.magicPe sampleImage = [80, 69] ∧ Img.append sampleImage = some [65, 66] ∧
    prependOf samplePrepend = some [0x90, 0x90, 0xCC] := by decide +kernel

/-- the executable model on the same bytes (independent of the theorems above) -/
example : (findCompileStamps (PyFile.ofBytes (samplePrepend ++ sampleImage)) (some 0) 1024).1
    = .ok (some 0x5F94C216, some 0x603E2D9D) := by decide +kernel


/-- a non-zero start offset and a non-default maxrange: a COMPLETE x64 image in front of the start offset (328 bytes, never
inspected), then 3 bytes, then the x86 image; `maxrange = 65` (`e_lfanew = 64` is the largest value it admits) -/
example : StageAt sampleImage64 samplePrepend sampleImage 65 :=
  ⟨⟨by decide +kernel, by decide +kernel, by decide +kernel, by decide +kernel, by decide +kernel⟩, by decide +kernel,
    by decide +kernel⟩

/-- the executable model on those bytes (OS file, initial position 7): absolute offset 328 + 3, x86 (not the x64 image in
front), prepend = all 331 bytes in front of the image, position left at the end of the file header / after the append read -/
example :
    (findMzOffset sampleFileAt (some 328) 65).1 = some 331 ∧
    (findMzOffset sampleFileAt (some 328) 65).2.pos = 331 + 88 ∧
    (findArchitecture sampleFileAt (some 328) 65).1 = some .x86 ∧
    (findStagePrependAppend sampleFileAt (some 328) 65).1 = .ok (some (sampleImage64 ++ samplePrepend), some [65, 66]) ∧
    (findStagePrependAppend sampleFileAt (some 328) 65).2.pos = 331 + 420 ∧
    -- one less of maxrange and the image is no longer accepted (`e_lfanew < maxrange`)
    (findMzOffset sampleFileAt (some 328) 64).1 = none ∧
    -- from start offset 0 the x64 image in front is found instead
    (findArchitecture sampleFileAt (some 0) 65).1 = some .x64 := by decide +kernel

/-- x64, no section contains the export RVA ⇒ export stamp `None`; nothing prepended ⇒ prepend `None`; nothing appended ⇒ `None` -/
example : Stage [] sampleImage64 1024 :=
  ⟨by decide +kernel, by decide +kernel, by decide +kernel, by decide +kernel, by decide +kernel, by decide +kernel,
    by decide +kernel⟩

example : Img.headersEnd sampleImage64 ≤ sampleImage64.length ∧ Img.arch sampleImage64 = .x64 ∧
    Img.compileStamp sampleImage64 = 0x674E0D02 ∧ Img.exportStamp sampleImage64 = none ∧
    Img.magicMz sampleImage64 = some [77, 90, 65, 82] ∧ Img.append sampleImage64 = none ∧ prependOf [] = none := by
  decide +kernel

end C18

import CsVerif.Lemmas.C10U
/-! C10 property theorems: regenerated profile text preserves every token of the parsed profile. -/
namespace C10
open Grammar (Item Form)

set_option maxRecDepth 100000

/-! ### Obligations on the generated table (`decide +kernel`) -/

theorem gen_idsOK : IdsOK gen = true := by decide +kernel

/-- greedy matching is deterministic for every form, and two forms with the same tree label either print the
same keywords/punctuation or can never match the same children.  (Evaluated on buckets of labels modulo 16: any
modulus gives a sound check, 16 leaves about ten forms in a bucket.) -/
theorem gen_printWF : PrintWF gen = true := printWF_of_buckets gen 16 (by decide +kernel) (by decide +kernel)

/-- inside one rule, alternatives that build the same tree label are written with the same keywords
(every statement form is printed under its own keyword) -/
theorem gen_aliasesDistinctPerKeyword : AliasesDistinctPerKeyword gen = true :=
  aliasesDistinct_of_buckets gen (by decide +kernel)

/-- every alternative of a `?rule` has an alias, so the `?` never inlines anything -/
theorem gen_expand1Aliased : Expand1Aliased gen Grammar.expand1 = true := by decide +kernel

/-- no keyword / option word contains a blank, a line feed, or a `;` (other than `;` itself) -/
theorem gen_kwClean : KwClean gen.words = true := by decide +kernel

/-- the only keyword that does not lex back to itself is `#` (it starts a comment) -/
theorem gen_unlexable_keywords : gen.keywords.filter (fun k => !lexableTok gen.words k) = [[35]] := by
  rw [unlexable_keywords_eq]
  decide +kernel

/-- within one rule the alternatives are distinguishable by keyword prefix + one token of lookahead, and every
repetition / option is decided on one token, token classes being compared by the texts they accept (`spawnto_x86`,
`pipename`, … are keywords inside `post-ex` / `dns-beacon` AND words of the terminal OPTION): keywords are pairwise
different, and wherever one token decides, no text fits both sides -/
theorem gen_parseWFT : ParseWFT gen = true := by
  have hk : KwsDistinct gen = true := distinctTexts_of_buckets (·.length) (by decide +kernel)
  have hp : parseWFWith gen (disjointTexts gen) = true :=
    parseWFWith_of_buckets gen (by decide +kernel) (by decide +kernel)
  rw [ParseWFT, hk, hp]
  rfl

/-- the same with token classes compared by identity -/
theorem gen_parseWF : ParseWF gen = true := parseWF_of_parseWFT gen gen_parseWFT

/-- the grammar is not recursive; the nesting budget of the model parser covers it -/
theorem gen_depthOK : DepthOK gen = true := by decide +kernel

/-- every statement and block ends with `;` or `}`: `postproc` never drops a trailing partial line -/
theorem gen_terminatedWF : TerminatedWF gen = true := by
  -- every nonterminal but `start`, `steps`, `string`, `variant`; the pruning removes nothing after its second round
  have hc : closedOrigins gen = [1, 2, 3, 4, 5, 7, 8, 9, 10, 11, 12, 13, 14, 15, 16, 17, 18, 19, 20, 21, 22] :=
    closedOrigins_of_stable gen 2 (by decide) (by decide +kernel) (by decide +kernel)
  rw [TerminatedWF, hc]
  decide +kernel

/-- Every tree label is the lower-cased keyword of its statement (`-` → `_`), except for this pinned list:
`set OPTION …` → `option`, the certificate fields, the two `…Thread "x";` forms and the `# dns_resolver` comment.
(A swapped or misspelt alias — `"set" "module_x64" … -> module_x86` — shows up here.) -/
theorem gen_labelNaming : namingExceptions gen =
    [([], [111, 112, 116, 105, 111, 110]),
     ([[67]], [99, 111, 117, 110, 116, 114, 121]),
     ([[67, 78]], [99, 111, 109, 109, 111, 110, 95, 110, 97, 109, 101]),
     ([[76]], [108, 111, 99, 97, 108, 105, 116, 121]),
     ([[79, 85]], [111, 114, 103, 95, 117, 110, 105, 116]),
     ([[79]], [111, 114, 103]),
     ([[83, 84]], [115, 116, 97, 116, 101]),
     ([[67, 114, 101, 97, 116, 101, 84, 104, 114, 101, 97, 100]],
      [99, 114, 101, 97, 116, 101, 116, 104, 114, 101, 97, 100, 95, 115, 112, 101, 99, 105, 97, 108]),
     ([[67, 114, 101, 97, 116, 101, 82, 101, 109, 111, 116, 101, 84, 104, 114, 101, 97, 100]],
      [99, 114, 101, 97, 116, 101, 114, 101, 109, 111, 116, 101, 116, 104, 114, 101, 97, 100, 95, 115, 112, 101,
       99, 105, 97, 108]),
     ([[100, 110, 115, 95, 114, 101, 115, 111, 108, 118, 101, 114]],
      [99, 111, 109, 109, 101, 110, 116, 95, 100, 110, 115, 95, 114, 101, 115, 111, 108, 118, 101, 114])] := by
  decide +kernel

/-- the lexer model was written for exactly these regular expressions -/
theorem gen_stringPattern : Grammar.stringPattern = "\"(.|\n)*?(?<!\\\\)(\\\\\\\\)*?\"" := by decide

theorem gen_ignored :
    Grammar.ignored = [("WS", "(?:[ \t\x0c\r\n])+"), ("SH_COMMENT", "#[^\n]*"), ("NEWLINE", "(?:(?:\r)?\n)+")] := by
  decide

/-! ### The Reconstructor prints the source tokens -/

/-- Central theorem: for any table satisfying `PrintWF` and any derivation of it, printing the Lark tree of the
derivation gives back exactly the token sequence the derivation was parsed from. -/
theorem print_eq_source (G : Table) (h : PrintWF G = true) (d : Deriv) (hd : d.WF G = true) :
    printTree G (toTree d) = some d.yield := by
  unfold Deriv.WF at hd
  simp only [Bool.and_eq_true] at hd
  unfold printTree toTree Deriv.yield
  simp only [printKids_parts G h hd.2]
  exact printNode_self G h hd.1 hd.2

/-- The same without committing to the matcher's strategy: whichever production with the right label and
whichever split of the children Lark's Earley-based tree matcher chooses, at every node, the output is the
token sequence of the source. -/
theorem print_any_choice (G : Table) (h : PrintWF G = true) (d : Deriv) (hd : d.WF G = true)
    (out : List Tok) (hr : ReconsTree G (toTree d) out) : out = d.yield := by
  unfold Deriv.WF at hd
  simp only [Bool.and_eq_true] at hd
  obtain ⟨ko, g, hk, hg, hl, hw⟩ := hr
  have e := recons_parts G h hd.2 hk
  subst e
  exact weaves_any_form G h hd.1 hd.2 hg hl hw

theorem print_eq_source_gen (d : Deriv) (hd : d.WF gen = true) : printTree gen (toTree d) = some d.yield :=
  print_eq_source gen gen_printWF d hd

/-! ### The whitespace post-processor keeps the tokens -/

/-- `Reconstructor.reconstruct` never inserts a blank of its own into `postproc`'s output -/
theorem join_eq_concat (idc : Nat → Bool) (h : IdcOK idc) (ts : List Text) :
    joinItems idc (postproc ts) = (postproc ts).flatten :=
  joinItems_postproc h ts

/-- Lexing the text produced by `as_text`'s post-processor gives the item list back, for item lists made of
lexable tokens (well-formed STRING literals, keywords/options other than `#`) that end with `;`, `{` or `}`. -/
theorem postproc_tokens (kws : List Text) (hk : KwClean kws = true) (idc : Nat → Bool) (hi : IdcOK idc)
    (ts : List Text) (hl : ∀ t ∈ ts, lexableTok kws t = true) (ht : terminated ts = true) :
    lexProfile kws (joinItems idc (postproc ts)) = some ts := by
  rw [joinItems_postproc hi]
  exact lex_postproc hk ts hl ht

/-- `as_text` re-lexes to the source tokens. -/
theorem as_text_relex (G : Table) (h : PrintWF G = true) (hk : KwClean G.words = true)
    (idc : Nat → Bool) (hi : IdcOK idc) (d : Deriv) (hd : d.WF G = true)
    (hl : ∀ t ∈ d.yield, lexableTok G.words (G.tokText t) = true)
    (ht : terminated (d.yield.map G.tokText) = true) :
    (asText G idc (toTree d)).bind (lexProfile G.words) = some (d.yield.map G.tokText) := by
  unfold asText asTextOf
  rw [print_eq_source G h d hd]
  simp only [Option.map_some, Option.bind_some]
  exact postproc_tokens G.words hk idc hi _ (by simpa using hl) ht

/-! ### `from_text` (model parser) and the round trip on text -/

/-- The model parser only returns well-formed derivations from the start symbol whose yield is the token list it
was given (soundness; ordered choice and greedy repetition cannot invent or lose tokens). -/
theorem parse_sound (G : Table) (hi : IdsOK G = true) (toks : List Text) (d : Deriv)
    (h : parseToks G toks = .ok d) :
    d.WF G = true ∧ d.form.origin = G.start ∧ d.yield.map G.tokText = toks := by
  unfold parseToks at h
  split at h
  · rename_i f p hp
    cases h
    obtain ⟨h1, h2, h3, h4⟩ := (parseNt_sound G hi _).1 _ _ _ _ _ hp
    exact ⟨by simp [Deriv.WF, h1, h3], h2, by simpa [Deriv.yield, texts] using h4.symm⟩
  all_goals cases h

/-- Round trip on text, inside the model: if the source parses to `d`, then the text regenerated from the tree
of `d` lexes to exactly the tokens of the source (comments and white space aside). -/
theorem roundtrip_tokens (G : Table) (hp : PrintWF G = true) (hi : IdsOK G = true)
    (hk : KwClean G.words = true) (ht : TerminatedWF G = true) (idc : Nat → Bool) (hc : IdcOK idc)
    (src : Text) (d : Deriv) (h : parseText G src = .ok d) :
    (asText G idc (toTree d)).bind (lexProfile G.words) = lexProfile G.words src := by
  obtain ⟨toks, hlex, h⟩ := parseText_ok G h
  obtain ⟨hwf, hstart, rfl⟩ := parse_sound G hi _ _ h
  rw [hlex]
  exact as_text_relex G hp hk idc hc d hwf
    (fun t htm => lex_lexable G.words hlex _ (List.mem_map_of_mem htm)) (yield_terminated G ht hwf hstart)

theorem roundtrip_tokens_gen (idc : Nat → Bool) (hc : IdcOK idc) (src : Text) (d : Deriv)
    (h : parseText gen src = .ok d) :
    (asText gen idc (toTree d)).bind (lexProfile gen.words) = lexProfile gen.words src :=
  roundtrip_tokens gen gen_printWF gen_idsOK gen_kwClean gen_terminatedWF idc hc src d h

/-- Second half of the property, inside the model: the regenerated text exists and parses back to the very same
derivation, hence to an identical tree.  (The model parser is a function of the token list, and the token list is
preserved by `roundtrip_tokens`.) -/
theorem reparse_same_tree (G : Table) (hp : PrintWF G = true) (hi : IdsOK G = true)
    (hk : KwClean G.words = true) (ht : TerminatedWF G = true) (idc : Nat → Bool) (hc : IdcOK idc)
    (src : Text) (d : Deriv) (h : parseText G src = .ok d) :
    ∃ text, asText G idc (toTree d) = some text ∧ parseText G text = .ok d := by
  have hrt := roundtrip_tokens G hp hi hk ht idc hc src d h
  have hwf : d.WF G = true := (parseText_ok G h).elim fun _ ht' => (parse_sound G hi _ _ ht'.2).1
  have hprint := print_eq_source G hp d hwf
  refine ⟨asTextOf G idc d.yield, by simp [asText, hprint], ?_⟩
  simp only [asText, hprint, Option.map_some, Option.bind_some] at hrt
  unfold parseText at h ⊢
  rw [hrt]
  exact h

/-- The specification has no memory: whatever was parsed, printed or edited before (`pre`, starting from any
object state `st`), the answer to `from_text(src)` is the answer it has on its own — in particular it depends on
every character of `src`, white space inside literals and the line feed ending a comment included.  (True by
construction of the model; stated because the implementation is compared against it step by step in the
harness stream `hist`.) -/
theorem parse_history_independent (G : Table) (st : Option Tree) (pre : List HStep) (src : Text) :
    (runHistory G st (pre ++ [HStep.parse src])).getLast? = (runHistory G none [HStep.parse src]).getLast? := by
  rw [runHistory_append]
  have h : ∀ s : Option Tree, runHistory G s [HStep.parse src] = [(hstep G none (HStep.parse src)).2] := by
    intro s
    simp only [runHistory, hstep]
    cases parseText G src <;> rfl
  rw [h, h, List.getLast?_append]
  simp

/-! ### A sentence has one tree; the model parser finds it -/

/-- Derivations are determined by their sentence: under `ParseWF`, two well-formed derivations of the same
nonterminal with the same token sequence are EQUAL (same forms everywhere, not only the same tree). -/
theorem derivation_unique (G : Table) (hp : ParseWF G = true) (d₁ d₂ : Deriv) (h₁ : d₁.WF G = true)
    (h₂ : d₂.WF G = true) (ho : d₁.form.origin = d₂.form.origin) (hy : d₁.yield = d₂.yield) : d₁ = d₂ := by
  obtain ⟨f, b⟩ := d₁
  obtain ⟨g, b'⟩ := d₂
  simp only [Deriv.WF, Bool.and_eq_true] at h₁ h₂
  simp only [Deriv.yield] at hy
  have hs := ntFirst_sound G 12
  have hy' : b.yield ++ [] = b'.yield ++ [] := by simpa using hy
  obtain ⟨hA, hR⟩ := parseWFWith_spec G hp
  have hfg : f = g := form_unique G hs hA h₁.1 h₂.1 ho h₁.2 h₂.2 hy'
  subst hfg
  obtain ⟨e, _⟩ := parts_unique G hs hA hR b f.items b' [] [] f []
    (mem_of_has G h₁.1) (by simp) h₁.2 h₂.2 hy' (Or.inl rfl) (Or.inl rfl)
  subst e
  rfl

/-- Unique readability: a token sequence has at most one tree.  The three conditions in which `ParseWF` is stronger than
the plain FIRST/FOLLOW test `ParseWF0` are all needed, see `parseWF0_too_weak` below.  (`IdsOK` is not needed.) -/
theorem unique_readability (G : Table) (hp : ParseWF G = true) (_hi : IdsOK G = true) (d₁ d₂ : Deriv)
    (h₁ : d₁.WF G = true) (h₂ : d₂.WF G = true) (s₁ : d₁.form.origin = G.start) (s₂ : d₂.form.origin = G.start)
    (hy : d₁.yield = d₂.yield) : toTree d₁ = toTree d₂ := by
  rw [derivation_unique G hp d₁ d₂ h₁ h₂ (s₁.trans s₂.symm) hy]

/-- no hypothesis on the table is left -/
theorem unique_readability_gen (d₁ d₂ : Deriv) (h₁ : d₁.WF gen = true) (h₂ : d₂.WF gen = true)
    (s₁ : d₁.form.origin = gen.start) (s₂ : d₂.form.origin = gen.start) (hy : d₁.yield = d₂.yield) :
    toTree d₁ = toTree d₂ :=
  unique_readability gen gen_parseWF gen_idsOK d₁ d₂ h₁ h₂ s₁ s₂ hy

/-- The statement is FALSE for the weaker lookahead check `ParseWF0` (Lemmas/C10U.lean, part 9):
three small tables pass it and are ambiguous —
`cex1` (`S → A*`, `A → "a" | "(" S A* ")"`): the start symbol was assumed never to be followed by anything;
`cex2` (`S → B? ";"`, `B → C*`): an optional part that can be empty;
`cex3` (`S → M* ";"`, `M → "m" N*`, `N → "m"`): after one `M` of `M*` another `M` can follow.
`ParseWF` rejects all three. -/
theorem parseWF0_ambiguous :
    (ParseWF0 cex1 = true ∧ Ambiguous cex1 cex1_d1 cex1_d2 ∧ ParseWF cex1 = false) ∧
    (ParseWF0 cex2 = true ∧ Ambiguous cex2 cex2_d1 cex2_d2 ∧ ParseWF cex2 = false) ∧
    (ParseWF0 cex3 = true ∧ Ambiguous cex3 cex3_d1 cex3_d2 ∧ ParseWF cex3 = false) := by decide

theorem parseWF0_too_weak :
    ¬ ∀ (G : Table), ParseWF0 G = true → IdsOK G = true → ∀ d₁ d₂ : Deriv, d₁.WF G = true → d₂.WF G = true →
      d₁.form.origin = G.start → d₂.form.origin = G.start → d₁.yield = d₂.yield → toTree d₁ = toTree d₂ := by
  intro h
  obtain ⟨hw, ⟨hi, a1, a2, a3, a4, a5, a6⟩, _⟩ := parseWF0_ambiguous.2.1
  exact a6 (h cex2 hw hi _ _ a1 a2 a3 a4 a5)

/-- Completeness of the model parser: under `ParseWFT` (lookahead on token texts) and `DepthOK` (no recursion), the
token texts of ANY well-formed derivation from the start symbol whose tokens are `tokOK` (keyword ids of the table,
named tokens whose text matches their terminal) parse back to that very derivation — ordered choice never takes a
wrong alternative, greedy repetition stops where the sentence does, the fuel never runs out. -/
theorem parse_complete (G : Table) (hp : ParseWFT G = true) (hi : IdsOK G = true) (hdep : DepthOK G = true)
    (d : Deriv) (hd : d.WF G = true) (hstart : d.form.origin = G.start)
    (hok : ∀ t ∈ d.yield, tokOK G t = true) : parseToks G (d.yield.map G.tokText) = .ok d := by
  obtain ⟨f, b⟩ := d
  simp only [Deriv.WF, Bool.and_eq_true] at hd
  have := parseNt_complete G hp hi (G.forms.length + 1) G.start hdep f b hd.1 hstart hd.2 hok [] (Or.inl rfl)
  simp only [List.append_nil, texts] at this
  simp [parseToks, Deriv.yield, this]

/-- The model parser computes exactly "the derivation of the token list": it answers `d` iff `d` is a well-formed
derivation from the start symbol with `tokOK` tokens whose texts are the input (and by `parse_complete` /
`derivation_unique` there is at most one such `d`). -/
theorem parse_spec (G : Table) (hp : ParseWFT G = true) (hi : IdsOK G = true) (hdep : DepthOK G = true)
    (toks : List Text) (d : Deriv) :
    parseToks G toks = .ok d ↔
      d.WF G = true ∧ d.form.origin = G.start ∧ (∀ t ∈ d.yield, tokOK G t = true) ∧ d.yield.map G.tokText = toks := by
  constructor
  · intro h
    obtain ⟨h1, h2, h3⟩ := parse_sound G hi _ _ h
    exact ⟨h1, h2, parseToks_tokOK G hi h, h3⟩
  · rintro ⟨h1, h2, h3, rfl⟩
    exact parse_complete G hp hi hdep _ h1 h2 h3

theorem parse_complete_gen (d : Deriv) (hd : d.WF gen = true) (hstart : d.form.origin = gen.start)
    (hok : ∀ t ∈ d.yield, tokOK gen t = true) : parseToks gen (d.yield.map gen.tokText) = .ok d :=
  parse_complete gen gen_parseWFT gen_idsOK gen_depthOK d hd hstart hok

/-- The parse-back direction for trees that did NOT come from the parser (builder-made trees, C11): for any
well-formed derivation `d` from the start symbol with `tokOK`, lexable tokens, `as_text` of its tree exists and
`from_text` of that text is `d` again — hence the very same tree. -/
theorem text_of_derivation_parses (G : Table) (hw : PrintWF G = true) (hp : ParseWFT G = true) (hi : IdsOK G = true)
    (hdep : DepthOK G = true) (hk : KwClean G.words = true) (ht : TerminatedWF G = true) (idc : Nat → Bool)
    (hc : IdcOK idc) (d : Deriv) (hd : d.WF G = true) (hstart : d.form.origin = G.start)
    (hok : ∀ t ∈ d.yield, tokOK G t = true) (hl : ∀ t ∈ d.yield, lexableTok G.words (G.tokText t) = true) :
    ∃ text, asText G idc (toTree d) = some text ∧ parseText G text = .ok d := by
  have hrl := as_text_relex G hw hk idc hc d hd hl (yield_terminated G ht hd hstart)
  have hprint := print_eq_source G hw d hd
  refine ⟨asTextOf G idc d.yield, by simp [asText, hprint], ?_⟩
  simp only [asText, hprint, Option.map_some, Option.bind_some] at hrl
  unfold parseText
  rw [hrl]
  exact parse_complete G hp hi hdep d hd hstart hok

theorem text_of_derivation_parses_gen (idc : Nat → Bool) (hc : IdcOK idc) (d : Deriv) (hd : d.WF gen = true)
    (hstart : d.form.origin = gen.start) (hok : ∀ t ∈ d.yield, tokOK gen t = true)
    (hl : ∀ t ∈ d.yield, lexableTok gen.words (gen.tokText t) = true) :
    ∃ text, asText gen idc (toTree d) = some text ∧ parseText gen text = .ok d :=
  text_of_derivation_parses gen gen_printWF gen_parseWFT gen_idsOK gen_depthOK gen_kwClean gen_terminatedWF idc hc d hd
    hstart hok hl

/-! ### Non-vacuity (stated through the source text, so that it does not depend on how names are interned) -/

/-- `set sleeptime"5";#x` -/
def exampleSrc : Text := [115, 101, 116, 32, 115, 108, 101, 101, 112, 116, 105, 109, 101, 34, 53, 34, 59, 35, 120]

/-- the hypotheses of the theorems above hold for the derivation of `exampleSrc`, and it is not the empty profile -/
def exampleHolds : Bool :=
  match parseText gen exampleSrc with
  | .ok d =>
    d.WF gen && d.form.origin == gen.start && d.yield.length == 4 &&
    d.yield.map gen.tokText == [[115, 101, 116], [115, 108, 101, 101, 112, 116, 105, 109, 101], [34, 53, 34], [59]] &&
    printTree gen (toTree d) == some d.yield &&
    d.yield.all (fun t => lexableTok gen.words (gen.tokText t)) &&
    d.yield.all (fun t => tokOK gen t) &&
    terminated (d.yield.map gen.tokText)
  | _ => false

example : exampleHolds = true := by decide +kernel
example : IdcOK (fun c => c == 95 || (48 ≤ c && c ≤ 57) || (65 ≤ c && c ≤ 90) || (97 ≤ c && c ≤ 122)) :=
  ⟨by decide, by decide, by decide⟩

end C10

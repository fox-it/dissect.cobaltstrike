import CsVerif.Lemmas.C15
/-! C15 property theorems: pattern scanners report exactly the true occurrences. -/
namespace C15

/-! ### the specification `occ` says what it should, and `bytes.find` finds the first occurrence -/

theorem occ_iff (hay needle : Bytes) (i : Nat) :
    i ∈ occ hay needle ↔ i + needle.length ≤ hay.length ∧ (hay.drop i).take needle.length = needle :=
  mem_occ

theorem occ_ascending (hay needle : Bytes) : (occ hay needle).Pairwise (· < ·) := occ_sorted hay needle

theorem find_first (hay needle : Bytes) (s r : Nat) (h : bytesFind? hay needle s = some r) :
    r ∈ occ hay needle ∧ s ≤ r ∧ ∀ j ∈ occ hay needle, s ≤ j → r ≤ j := bytesFind?_some h

theorem find_none (hay needle : Bytes) (s : Nat) (h : bytesFind? hay needle s = none) :
    ∀ j ∈ occ hay needle, j < s := bytesFind?_none h

/-- the inner `find` loop enumerates all occurrences in the buffer `d`, ascending
(up to the buffer-index cut `p > max_offset` when a limit is given). -/
theorem find_enumerates (d needle : Bytes) (maxOff pos savedLen : Nat) :
    findLoop d needle maxOff pos savedLen 0
      = ((occ d needle).filter (fun p => maxOff = 0 ∨ p ≤ maxOff)).map
          (fun (p : Nat) => (pos : Int) + (p : Int) - (savedLen : Int)) := by
  rw [findLoop_eq]
  congr 1
  apply List.filter_congr
  intro p _
  simp

/-! ### `iter_find_needle` without a limit -/

/-- **Central theorem.** For every content, every non-empty needle, every buffer size `B ≥ 1`, every file
kind and every start (explicit non-negative `start_offset` or the current position), the scan without a
limit returns exactly the occurrences at or after the start, in ascending order, and leaves the file
at `max(start, EOF)`. -/
theorem needle_exact (B : Nat) (hB : 1 ≤ B) (f : PyFile) (needle : Bytes) (hn : needle ≠ [])
    (start : Option Int) (hs : ∀ s, start = some s → 0 ≤ s) :
    iterFindNeedle B f needle start 0
      = .ok (((occ f.data needle).filter (fun i => startPos f start ≤ i)).map Int.ofNat,
             { f with pos := max (startPos f start) f.data.length }) := by
  rw [iterFindNeedle_eq 0 hs, needleLoop_start B hB needle hn]

/-- A negative `start_offset` raises (`ValueError` on BytesIO, `OSError` on an OS file); nothing is reported. -/
theorem needle_negative_start (B : Nat) (f : PyFile) (needle : Bytes) (s : Int) (hs : s < 0) (maxOff : Nat) :
    iterFindNeedle B f needle (some s) maxOff = .error f.negSeekExc := by
  simp [iterFindNeedle, PyFile.seekSet, hs]

/-- The answer does not depend on the read-buffer size. -/
theorem needle_buffer_independent (B B' : Nat) (hB : 1 ≤ B) (hB' : 1 ≤ B') (f : PyFile) (needle : Bytes)
    (hn : needle ≠ []) (start : Option Int) :
    iterFindNeedle B f needle start 0 = iterFindNeedle B' f needle start 0 := by
  cases start with
  | none => rw [needle_exact B hB f needle hn none (by intro s h; cases h),
               needle_exact B' hB' f needle hn none (by intro s h; cases h)]
  | some s =>
    by_cases hs : s < 0
    · rw [needle_negative_start B f needle s hs, needle_negative_start B' f needle s hs]
    · rw [needle_exact B hB f needle hn (some s) (by intro t h; cases h; omega),
          needle_exact B' hB' f needle hn (some s) (by intro t h; cases h; omega)]

/-- the list alone, for an `io.BytesIO` at position 0 and an explicit start -/
theorem needle_exact_bytesIO (B : Nat) (hB : 1 ≤ B) (hay needle : Bytes) (hn : needle ≠ []) (start : Nat) :
    (iterFindNeedle B ⟨hay, 0, .bytesIO⟩ needle (some start) 0).map (·.1)
      = .ok (((occ hay needle).filter (start ≤ ·)).map Int.ofNat) := by
  rw [needle_exact B hB _ needle hn (some (start : Int)) (by intro s h; cases h; omega)]
  simp only [startPos, Except.map, Int.toNat_natCast]
  rfl

/-! ### corollaries: ascending, no duplicates, non-negative -- with or without a limit -/

/-- whatever the limit, the reported list is a sublist of the exact no-limit answer. -/
theorem needle_limit_sublist (B : Nat) (hB : 1 ≤ B) (f : PyFile) (needle : Bytes) (hn : needle ≠ [])
    (start : Option Int) (maxOff : Nat) (r : List Int) (f' : PyFile)
    (h : iterFindNeedle B f needle start maxOff = .ok (r, f')) :
    List.Sublist r (((occ f.data needle).filter (fun i => startPos f start ≤ i)).map Int.ofNat) := by
  have h1 := iterFindNeedle_ok h
  rw [needleLoop_scan B hB needle hn] at h1
  injection h1 with h1 _
  rw [← h1]
  exact List.filter_sublist.map _

theorem needle_ascending (B : Nat) (hB : 1 ≤ B) (f : PyFile) (needle : Bytes) (hn : needle ≠ [])
    (start : Option Int) (maxOff : Nat) (r : List Int) (f' : PyFile)
    (h : iterFindNeedle B f needle start maxOff = .ok (r, f')) : r.Pairwise (· < ·) :=
  (occ_from_ascending _ _ _).sublist (needle_limit_sublist B hB f needle hn start maxOff r f' h)

theorem needle_no_duplicates (B : Nat) (hB : 1 ≤ B) (f : PyFile) (needle : Bytes) (hn : needle ≠ [])
    (start : Option Int) (maxOff : Nat) (r : List Int) (f' : PyFile)
    (h : iterFindNeedle B f needle start maxOff = .ok (r, f')) : r.Nodup :=
  (needle_ascending B hB f needle hn start maxOff r f' h).imp (fun h => Int.ne_of_lt h)

/-- **Soundness under a limit** (and without): every reported offset is non-negative, is a true occurrence
of the needle in the file, and is not before the start. -/
theorem needle_limit_sound (B : Nat) (hB : 1 ≤ B) (f : PyFile) (needle : Bytes) (hn : needle ≠ [])
    (start : Option Int) (maxOff : Nat) (r : List Int) (f' : PyFile)
    (h : iterFindNeedle B f needle start maxOff = .ok (r, f')) :
    ∀ off ∈ r, 0 ≤ off ∧ off.toNat ∈ occ f.data needle ∧ startPos f start ≤ off.toNat := by
  intro off hoff
  have := (needle_limit_sublist B hB f needle hn start maxOff r f' h).subset hoff
  simp only [List.mem_map, List.mem_filter, decide_eq_true_eq] at this
  obtain ⟨i, ⟨hi, hsi⟩, rfl⟩ := this
  exact ⟨Int.natCast_nonneg i, by simpa using hi, by simpa using hsi⟩

theorem needle_nonneg (B : Nat) (hB : 1 ≤ B) (f : PyFile) (needle : Bytes) (hn : needle ≠ [])
    (start : Option Int) (maxOff : Nat) (r : List Int) (f' : PyFile)
    (h : iterFindNeedle B f needle start maxOff = .ok (r, f')) : ∀ off ∈ r, 0 ≤ off :=
  fun off hoff => (needle_limit_sound B hB f needle hn start maxOff r f' h off hoff).1

/-- **Completeness under a limit**: every occurrence at or after the start that lies entirely before the
limit (`i + |needle| ≤ max_offset`) is reported. -/
theorem needle_limit_complete (B : Nat) (hB : 1 ≤ B) (f : PyFile) (needle : Bytes) (hn : needle ≠ [])
    (start : Option Int) (maxOff : Nat) (r : List Int) (f' : PyFile)
    (h : iterFindNeedle B f needle start maxOff = .ok (r, f')) :
    ∀ i ∈ occ f.data needle, startPos f start ≤ i → i + needle.length ≤ maxOff → (i : Int) ∈ r := by
  intro i hi hsi hlim
  have h1 := iterFindNeedle_ok h
  rw [needleLoop_scan B hB needle hn] at h1
  injection h1 with h1 _
  rw [← h1]
  exact List.mem_map_of_mem (List.mem_filter.2
    ⟨List.mem_filter.2 ⟨hi, decide_eq_true hsi⟩, reported_before (List.length_pos_iff.mpr hn) hsi hlim⟩)

/-! ### the EXACT result under a limit, as a function of the buffer size

`max_offset` is compared with two different quantities (utils.py 178 and 187): the file offset `pos` of a block START
(`pos > max_offset` ends the scan before the block is read) and the index `p` of a hit in the search buffer
`saved + block` (`p > max_offset` ends the scan of that buffer) — `p` is NOT a file offset. With `s0` the start position,
`n = |needle|`, `B = io.DEFAULT_BUFFER_SIZE`, an occurrence at file offset `o ≥ s0` is looked for in block
`j = blockOf B n s0 o = (o + n - 1 - s0) / B` (the block holding its last byte), whose buffer begins at file offset
`bufStart B n s0 j = s0 + (j*B - (n-1))`; it is reported iff `s0 + j*B ≤ max_offset` and `o - bufStart … ≤ max_offset`
(`limitKeeps`). -/

/-- **Exact result under a limit.** For every buffer size `B ≥ 1`, content, file kind, non-empty needle, start and
`max_offset > 0`: the reported list is exactly the occurrences `o ≥ start` with `limitKeeps B |needle| start max_offset o`,
ascending, and the file is left at `limitEnd` (the end of the last block that was read). -/
theorem needle_limit_exact (B : Nat) (hB : 1 ≤ B) (f : PyFile) (needle : Bytes) (hn : needle ≠ [])
    (start : Option Int) (hs : ∀ s, start = some s → 0 ≤ s) (maxOff : Nat) (hm : 0 < maxOff) :
    iterFindNeedle B f needle start maxOff
      = .ok ((((occ f.data needle).filter (fun o => startPos f start ≤ o)).filter
                (limitKeeps B needle.length (startPos f start) maxOff)).map Int.ofNat,
             { f with pos := limitEnd B maxOff f.data.length (startPos f start) }) := by
  have hk : limitKeeps B needle.length (startPos f start) maxOff
      = reported B needle.length (startPos f start) maxOff (startPos f start) :=
    funext fun o => limitKeeps_eq_reported B _ _ _ o hm
  rw [iterFindNeedle_eq maxOff hs, needleLoop_scan B hB needle hn, if_neg (Nat.ne_of_gt hm), hk]

/-- which offsets are reported under a limit (membership form of `needle_limit_exact`) -/
theorem needle_limit_reported_iff (B : Nat) (hB : 1 ≤ B) (f : PyFile) (needle : Bytes) (hn : needle ≠ [])
    (start : Option Int) (hs : ∀ s, start = some s → 0 ≤ s) (maxOff : Nat) (hm : 0 < maxOff) (r : List Int) (f' : PyFile)
    (h : iterFindNeedle B f needle start maxOff = .ok (r, f')) (o : Nat) :
    (o : Int) ∈ r ↔
      o ∈ occ f.data needle ∧ startPos f start ≤ o ∧
      startPos f start + blockOf B needle.length (startPos f start) o * B ≤ maxOff ∧
      o - bufStart B needle.length (startPos f start) (blockOf B needle.length (startPos f start) o) ≤ maxOff := by
  rw [needle_limit_exact B hB f needle hn start hs maxOff hm] at h
  injection h with h
  injection h with h _
  subst h
  simp only [List.mem_map, List.mem_filter, decide_eq_true_eq, limitKeeps, Bool.and_eq_true]
  constructor
  · rintro ⟨i, ⟨⟨hi, hsi⟩, hb, hp⟩, hio⟩
    have : i = o := Int.ofNat.inj hio
    subst this
    exact ⟨hi, hsi, hb, hp⟩
  · rintro ⟨hi, hsi, hb, hp⟩
    exact ⟨o, ⟨⟨hi, hsi⟩, hb, hp⟩, rfl⟩

/-- an occurrence lying entirely before the limit passes both tests, whatever `B` (so `needle_limit_complete` is a
corollary of `needle_limit_exact`) -/
theorem limitKeeps_before (B n s0 m o : Nat) (hs : s0 ≤ o) (hlim : o + n ≤ m) (hn : 0 < n) :
    limitKeeps B n s0 m o = true := by
  rw [limitKeeps_eq_reported B n s0 m o (by omega)]
  exact reported_before hn hs hlim

/-- a limit beyond `B + |needle|` never cuts inside a buffer: then ONLY the block start is tested, and every occurrence
whose last byte lies in a block that starts at or before `max_offset` is reported — up to `B - 1` bytes past the limit -/
theorem limitKeeps_large (B n s0 m o : Nat) (hB : 1 ≤ B) (hn : 0 < n) (hs : s0 ≤ o) (hbig : B + n ≤ m + 2) :
    limitKeeps B n s0 m o = decide (s0 + blockOf B n s0 o * B ≤ m) := by
  unfold limitKeeps bufStart blockOf
  have h1 := Nat.div_mul_le_self (o + n - 1 - s0) B
  have h2 := Nat.lt_div_mul_add (a := o + n - 1 - s0) (b := B) (by omega)
  generalize (o + n - 1 - s0) / B * B = t at *
  have : o - (s0 + (t - (n - 1))) ≤ m := by omega
  simp only [this, decide_true, Bool.and_true]

/-! ### ArtifactKit scanner -/

/-- `iter_artifactkit_payloads` reports exactly the records of `artifactHits`: the offsets `pos ≥ start`
(`≤ maxrange`) with four readable bytes whose little-endian value is `pos + 16`, ascending, each with
size / key / hints read from the fixed layout and the payload decoded by the 4-byte key. -/
theorem artifact_exact (f : PyFile) (start : Option Int) (hs : ∀ s, start = some s → 0 ≤ s)
    (maxrange : Option Nat) :
    ∃ f', iterArtifactkit f start maxrange = .ok (artifactHits f.data (startPos f start) maxrange, f')
      ∧ f'.data = f.data := by
  unfold iterArtifactkit
  cases start with
  | none => exact artLoop_spec maxrange f f.tell
  | some s =>
    have h0 := hs s rfl
    obtain ⟨n, rfl⟩ : ∃ n : Nat, s = n := ⟨s.toNat, by omega⟩
    simp only [PyFile.seekSet_ok, startPos, Int.toNat_natCast]
    exact artLoop_spec maxrange { f with pos := n } n

theorem artifact_negative_start (f : PyFile) (s : Int) (hs : s < 0) (maxrange : Option Nat) :
    iterArtifactkit f (some s) maxrange = .error f.negSeekExc := by
  simp [iterArtifactkit, PyFile.seekSet, hs]

theorem artifact_offsets_iff (hay : Bytes) (start : Nat) (maxrange : Option Nat) (pos : Nat) :
    pos ∈ (artifactHits hay start maxrange).map (·.offset) ↔
      pos + 4 ≤ hay.length ∧ start ≤ pos ∧ (∀ m, maxrange = some m → pos ≤ m) ∧
      C20.fromLE ((hay.drop pos).take 4) = pos + 16 := by
  rw [artifactHits_offsets, mem_artifactOffsets]
  unfold pastRange u32le
  cases maxrange with
  | none => simp
  | some m => simp

/-- what is reported for each offset: fixed layout, payload = xor of the data slice with the 4-byte key. -/
theorem artifact_payload (hay : Bytes) (start : Nat) (maxrange : Option Nat) :
    ∀ h ∈ artifactHits hay start maxrange,
      h.size = C20.fromLE ((hay.drop (h.offset + 4)).take 4) ∧
      h.xorkey = (hay.drop (h.offset + 8)).take 4 ∧
      h.hints = (hay.drop (h.offset + 12)).take 8 ∧
      h.payload = C20.xor ((hay.drop (h.offset + 20)).take h.size) h.xorkey := by
  intro h hh
  unfold artifactHits at hh
  simp only [List.mem_map] at hh
  obtain ⟨pos, _, rfl⟩ := hh
  exact ⟨rfl, rfl, rfl, rfl⟩

/-- offsets of the reported records are strictly ascending (hence no duplicates). -/
theorem artifact_ascending (hay : Bytes) (start : Nat) (maxrange : Option Nat) :
    ((artifactHits hay start maxrange).map (·.offset)).Pairwise (· < ·) := by
  rw [artifactHits_offsets]
  exact artifactOffsets_sorted hay start maxrange

/-! ### concrete instances (hypotheses are satisfiable; boundary-straddling occurrences) -/

/-- needle `01 00` in `00 01 00 01 00` read in blocks of 2: both occurrences straddle a block boundary. -/
example : iterFindNeedle 2 ⟨[0, 1, 0, 1, 0], 0, .bytesIO⟩ [1, 0] (some 0) 0
    = .ok ([1, 3], ⟨[0, 1, 0, 1, 0], 5, .bytesIO⟩) := by
  rw [needle_exact 2 (by omega) _ _ (by simp) (some 0) (by intro s h; cases h; omega)]
  rfl

/-- the input of the repaired defect (fc7bca0): no fabricated offset `-1`. -/
example : iterFindNeedle 8192 ⟨[1, 0x61, 0x62, 0x63], 0, .osFile⟩ [0, 1] none 0
    = .ok ([], ⟨[1, 0x61, 0x62, 0x63], 4, .osFile⟩) := by
  rw [needle_exact 8192 (by omega) _ _ (by simp) none (by intro s h; cases h)]
  rfl

/-- self-overlapping needle, buffer size 1, start offset 1. -/
example : iterFindNeedle 1 ⟨[7, 7, 7, 7], 0, .bytesIO⟩ [7, 7] (some 1) 0
    = .ok ([1, 2], ⟨[7, 7, 7, 7], 4, .bytesIO⟩) := by
  rw [needle_exact 1 (by omega) _ _ (by simp) (some 1) (by intro s h; cases h; omega)]
  rfl

/-- the limit depends on the buffer size: five `01` bytes, `max_offset = 2`. With `B = 4` offsets 0..2 are reported; with
`B = 2` the block that starts at 2 is read completely and offset 3 (beyond the limit) is reported as well. -/
example : iterFindNeedle 4 ⟨[1, 1, 1, 1, 1], 0, .bytesIO⟩ [1] (some 0) 2 = .ok ([0, 1, 2], ⟨[1, 1, 1, 1, 1], 4, .bytesIO⟩) := by
  rw [needle_limit_exact 4 (by omega) _ _ (by simp) (some 0) (by intro s h; cases h; omega) 2 (by omega)]
  rfl

example : iterFindNeedle 2 ⟨[1, 1, 1, 1, 1], 0, .bytesIO⟩ [1] (some 0) 2 = .ok ([0, 1, 2, 3], ⟨[1, 1, 1, 1, 1], 4, .bytesIO⟩) := by
  rw [needle_limit_exact 2 (by omega) _ _ (by simp) (some 0) (by intro s h; cases h; omega) 2 (by omega)]
  rfl

/-- the buffer-index test is relative to the start: from `start_offset = 3` with `max_offset = 3` the occurrences at file
offsets 4 and 6 (both beyond 3) are reported (indices 1 and 3 in the buffer), while from `start_offset = 4` (`> max_offset`)
nothing is. -/
example : iterFindNeedle 8192 ⟨[1, 0, 0, 0, 1, 0, 1, 1], 0, .bytesIO⟩ [1] (some 3) 3
    = .ok ([4, 6], ⟨[1, 0, 0, 0, 1, 0, 1, 1], 8, .bytesIO⟩) := by
  rw [needle_limit_exact 8192 (by omega) _ _ (by simp) (some 3) (by intro s h; cases h; omega) 3 (by omega)]
  rfl

example : iterFindNeedle 8192 ⟨[1, 0, 0, 0, 1, 0, 1, 1], 0, .bytesIO⟩ [1] (some 4) 3
    = .ok ([], ⟨[1, 0, 0, 0, 1, 0, 1, 1], 4, .bytesIO⟩) := by
  rw [needle_limit_exact 8192 (by omega) _ _ (by simp) (some 4) (by intro s h; cases h; omega) 3 (by omega)]
  rfl

/-- an occurrence that STARTS before the limit but ends in a block starting after it is not reported (`B = 4`, needle
`01 01` at offset 3, `max_offset = 3`); with `B = 5` the same occurrence is reported. -/
example : iterFindNeedle 4 ⟨[0, 0, 0, 1, 1, 0], 0, .bytesIO⟩ [1, 1] (some 0) 3 = .ok ([], ⟨[0, 0, 0, 1, 1, 0], 4, .bytesIO⟩) := by
  rw [needle_limit_exact 4 (by omega) _ _ (by simp) (some 0) (by intro s h; cases h; omega) 3 (by omega)]
  rfl

example : iterFindNeedle 5 ⟨[0, 0, 0, 1, 1, 0], 0, .bytesIO⟩ [1, 1] (some 0) 3 = .ok ([3], ⟨[0, 0, 0, 1, 1, 0], 5, .bytesIO⟩) := by
  rw [needle_limit_exact 5 (by omega) _ _ (by simp) (some 0) (by intro s h; cases h; omega) 3 (by omega)]
  rfl

example : occ [0, 1, 0, 1, 0] [1, 0] = [1, 3] := by decide

/-- an ArtifactKit header at offset 2 (`18 = 2 + 16`), size 3, key `01 02 03 04`. -/
example : artifactHits [9, 9, 18, 0, 0, 0, 3, 0, 0, 0, 1, 2, 3, 4, 1, 2, 3, 4, 5, 6, 7, 8, 0x11, 0x22, 0x33, 0x44] 0 none
    = [{ offset := 2, size := 3, xorkey := [1, 2, 3, 4], hints := [1, 2, 3, 4, 5, 6, 7, 8],
         payload := [0x10, 0x20, 0x30] }] := by
  decide +kernel

end C15

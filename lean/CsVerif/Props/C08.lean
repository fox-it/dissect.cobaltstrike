import CsVerif.Lemmas.C08
/-! C08 property theorems: untrusted input never crashes or hangs the parsers.

For every entry point that accepts untrusted bytes, every input and both kinds of file object (`io.BytesIO`, OS file):
the model returns its documented result or `ValueError` — never EOFError / OSError / IndexError / OverflowError /
`timeoutDiverge`.  Termination itself is the fact that Lean accepted every model function (see the header of
`Model/C08.lean` for the two guarded loops and the theorems that discharge their guards).

`OkOrValueError r` = "returns, or raises the documented ValueError"; `NeverRaises r` = "returns" (the PE helpers and the
ArtifactKit scanner document no exception at all). -/
namespace C08

def OkOrValueError {α : Type} (r : Py α) : Prop := (∃ a, r = .ok a) ∨ r = .error .valueError

def NeverRaises {α : Type} (r : Py α) : Prop := ∃ a, r = .ok a

theorem NeverRaises.okOrValueError {α : Type} {r : Py α} (h : NeverRaises r) : OkOrValueError r := Or.inl h

theorem okOrValueError_of_error {α : Type} (r : Py α) (h : ∀ e, r = .error e → e = .valueError) : OkOrValueError r := by
  cases hr : r with
  | ok a => exact Or.inl ⟨a, rfl⟩
  | error e => rw [h e hr]; exact Or.inr rfl

/-! ### `only_value_error_<entry>` -/

/-- `parse_raw_http(data)`: a request, a response, or ValueError (C16 `only_valueError`) -/
theorem only_value_error_parseRawHttp (data : Bytes) : OkOrValueError (parseRawHttp data) :=
  okOrValueError_of_error _ (fun e h => C16.only_valueError data e h)

/-- `list(iter_artifactkit_payloads(fobj))` never raises (C15 `artifact_exact`: the only exception of the scanner is a
negative `start_offset`, which the entry point does not pass) -/
theorem only_value_error_iterArtifactkitPayloads (f : PyFile) : NeverRaises (iterArtifactkitPayloads f) :=
  ⟨_, iterArtifactkitPayloads_eq f⟩

theorem only_value_error_peFindMzOffset (f : PyFile) : NeverRaises (peFindMzOffset f) := ⟨_, rfl⟩

theorem only_value_error_peFindArchitecture (f : PyFile) : NeverRaises (peFindArchitecture f) := ⟨_, rfl⟩

theorem only_value_error_peFindMagicMz (f : PyFile) : NeverRaises (peFindMagicMz f) := ⟨_, rfl⟩

/-- `find_compile_stamps`: the seeks `fh.seek(mz.e_lfanew + mz_offset)` and
`fh.seek(export_rva - section.VirtualAddress + section.PointerToRawData + mz_offset)` are never negative (so neither
ValueError on BytesIO nor OSError on a real file), every EOFError is caught -/
theorem only_value_error_peFindCompileStamps (f : PyFile) : NeverRaises (peFindCompileStamps f) :=
  findCompileStamps_ok f (some 0) MAXRANGE

/-- `find_magic_pe` has no `try`: the EOFError of its struct read is unreachable because `find_mz_offset` has just read
the same 64 bytes -/
theorem only_value_error_peFindMagicPe (f : PyFile) : NeverRaises (peFindMagicPe f) :=
  findMagicPe_ok f (some 0) MAXRANGE

/-- the PE helpers for EVERY `start_offset` (explicit or `None` = current position) and every `maxrange`, not only the
defaults the entry points above use -/
theorem only_value_error_pe_anyStart (f : PyFile) (start : Option Nat) (maxrange : Nat) :
    NeverRaises (C18.findCompileStamps f start maxrange).1 ∧ NeverRaises (C18.findMagicPe f start maxrange).1 ∧
    NeverRaises (C18.findStagePrependAppend f start maxrange).1 :=
  ⟨findCompileStamps_ok f start maxrange, findMagicPe_ok f start maxrange, findStagePrependAppend_ok f start maxrange⟩

/-- `find_stage_prepend_append` on a file object whose `seek` accepts every non-negative offset (the `PyFile` model;
io.BytesIO up to 2^63): `fh.seek(mz_offset + SizeOfHeaders + Σ SizeOfRawData)` is a sum of unsigned fields, far beyond
the end of the data is allowed (the read returns `b""`).  For file objects with a largest offset see `…_full` below. -/
theorem only_value_error_peFindStagePrependAppend_unlimited (f : PyFile) : NeverRaises (peFindStagePrependAppend f) :=
  findStagePrependAppend_ok f (some 0) MAXRANGE

/-- **Full statement** (holds since fix ce8ae1d): for every largest offset `L` the file object's `seek` accepts
(OS file: the file system's limit, EINVAL → OSError above it, e.g. `2^44 - 4096` on ext4 with 4 KiB blocks; io.BytesIO:
`2^63 - 1`, OverflowError above it), every content, position and file kind, `find_stage_prepend_append` returns.
No lower bound on `L` is needed: whatever the final `fh.seek(mz_offset + size)` raises is caught. -/
theorem only_value_error_peFindStagePrependAppend_full (L : Nat) (f : PyFile) :
    NeverRaises (peFindStagePrependAppendL L f) :=
  findStagePrependAppendG_ok (seekL L) f (fun g t e h => seekL_errors_caught L g t e h)

/-- … and for ANY behaviour of the file object's final `seek` that stays inside the `except` clause
`(OSError, OverflowError, ValueError)` (e.g. a negative-offset rejection, were it reachable) -/
theorem only_value_error_peFindStagePrependAppend_anySeek (sk : PyFile → Int → Py (Nat × PyFile)) (f : PyFile)
    (hsk : ∀ g t e, sk g t = .error e → seekCaught e = true) :
    NeverRaises (peFindStagePrependAppendG true sk f) :=
  findStagePrependAppendG_ok sk f hsk

/-- the limit is not observable in the result: as long as the file itself fits below `L`, the limited model returns
exactly what the unlimited (C18) model returns — a rejected seek and an accepted seek beyond the end of the data both
give `(prepend, None)` -/
theorem peFindStagePrependAppend_limit_irrelevant (L : Nat) (f : PyFile) (hL : f.data.length ≤ L) :
    peFindStagePrependAppendL L f = peFindStagePrependAppend f := by
  unfold peFindStagePrependAppendL peFindStagePrependAppendG peFindStagePrependAppend C18.findStagePrependAppend
  rcases hm : C18.findMzOffset f (some 0) MAXRANGE with ⟨_ | o, f1⟩
  · rfl
  · have hd := (C18.same_findMzOffset f (some 0) MAXRANGE).1
    rw [hm] at hd
    simp only
    rw [prependAppendAtG_limit_irrelevant L f1 o (by rw [hd]; exact hL), prependAppendAtG_seekSet]

/-! #### the code before fix ce8ae1d (bare `fh.seek(mz_offset + size)`) -/

/-- the statement for the OLD code — refuted below -/
def only_value_error_peFindStagePrependAppend_old : Prop :=
  ∀ (L : Nat) (f : PyFile), 2 ^ 34 ≤ L → NeverRaises (peFindStagePrependAppendLOld L f)

/-- a 512-byte image: DOS header (`e_lfanew = 64`), `PE\0\0`, i386 file header with 5 sections, zeroed optional header,
5 section headers with `SizeOfRawData = 0xFFFFFFFF` -/
def ppaWitness : Bytes :=
  [0x4d, 0x5a] ++ List.replicate 58 0 ++ [64, 0, 0, 0] ++ [0x50, 0x45, 0, 0] ++
  [0x4c, 0x01, 5, 0] ++ List.replicate 12 0 ++ [224, 0, 0x02, 0x21] ++ List.replicate 224 0 ++
  (List.replicate 5 (List.replicate 16 0 ++ [0xff, 0xff, 0xff, 0xff] ++ List.replicate 20 0)).flatten

/-- the witness: on an OS file whose file system ends at 16 GiB the final `fh.seek(mz_offset + size)` is rejected; the
old code let `OSError` escape, the current code returns `(None, None)` (as it does on io.BytesIO).  The real library on
the sandbox's ext4 needed 4096 sections for the same effect (finding `C08-ppa-seek-beyond-fs-limit`, repaired). -/
theorem ppaWitness_old_raises_new_returns :
    peFindStagePrependAppendLOld (2 ^ 34) ⟨ppaWitness, 0, .osFile⟩ = .error .osError ∧
    peFindStagePrependAppendL (2 ^ 34) ⟨ppaWitness, 0, .osFile⟩ = .ok (none, none) ∧
    peFindStagePrependAppend ⟨ppaWitness, 0, .bytesIO⟩ = .ok (none, none) := by decide +kernel

theorem only_value_error_peFindStagePrependAppend_refutes_old : ¬ only_value_error_peFindStagePrependAppend_old := by
  intro h
  obtain ⟨r, hr⟩ := h (2 ^ 34) ⟨ppaWitness, 0, .osFile⟩ (Nat.le_refl _)
  rw [ppaWitness_old_raises_new_returns.1] at hr
  cases hr

/-- the refined model with an unlimited seek is the C18 model, with or without the `try` (so the copy in
`Model/C08.lean` cannot drift) -/
theorem prependAppendAtG_is_C18 (guarded : Bool) (f : PyFile) (o : Nat) :
    prependAppendAtG guarded PyFile.seekSet f o = C18.prependAppendAt f o :=
  prependAppendAtG_seekSet guarded f o

/-- `XorEncodedFile.from_file`: a view, or the documented ValueError -/
theorem only_value_error_xorEncodedFromFile (B : Nat) (f : PyFile) : OkOrValueError (xorEncodedFromFile B f) :=
  okOrValueError_of_error _ (xorEncodedFromFile_error B f)

/-- the Guardrails fallback inside `from_file` (marker scan over the whole file, guard-settings loop, key recovery):
the first record with a recovered configuration, or the documented ValueError — for every content and file kind
(negative seek from a marker in the first 6138 bytes and EOFError of an unterminated guard configuration are dead) -/
theorem only_value_error_guardrailsFallback (B : Nat) (f : PyFile) : OkOrValueError (C17.fromFileFallback f B) :=
  okOrValueError_of_error _ (fun e h => C17.fallback_errors_only_valueError f B e h)

/-- `BeaconConfig.from_file(fobj, xor_keys, all_xor_keys)` for every content, file kind, initial position, key list and
both values of `all_xor_keys`: a `BeaconConfig`, or the documented ValueError -/
theorem only_value_error_fromFile (B : Nat) (hB : 1 ≤ B) (f : PyFile) (ks : List Bytes) (allKeys : Bool) :
    OkOrValueError (fromFile B f ks allKeys) :=
  okOrValueError_of_error _ (fromFile_error B hB f ks allKeys)

theorem only_value_error_fromBytes (B : Nat) (hB : 1 ≤ B) (data : Bytes) (ks : List Bytes) (allKeys : Bool) :
    OkOrValueError (fromBytes B data ks allKeys) :=
  only_value_error_fromFile B hB _ ks allKeys

theorem only_value_error_fromPath (B : Nat) (hB : 1 ≤ B) (data : Bytes) (ks : List Bytes) (allKeys : Bool) :
    OkOrValueError (fromPath B data ks allKeys) :=
  only_value_error_fromFile B hB _ ks allKeys

/-- in particular no guarded loop ever reports divergence -/
theorem never_diverges_fromFile (B : Nat) (hB : 1 ≤ B) (f : PyFile) (ks : List Bytes) (allKeys : Bool) :
    fromFile B f ks allKeys ≠ .error .timeoutDiverge := by
  intro h
  have := fromFile_error B hB f ks allKeys _ h
  cases this

/-! ### `not_found_values`: the documented "nothing found" results -/

/-- no offset below `maxrange` carries a DOS header with `0 < e_lfanew < maxrange` and an x86/x64 file header: every
PE helper returns its documented not-found value (`None`, `(None, None)`) -/
theorem not_found_values_pe (f : PyFile) (h : C18.NoEarlierCandidate f.data 0 MAXRANGE MAXRANGE) :
    peFindMzOffset f = .ok none ∧ peFindArchitecture f = .ok none ∧ peFindCompileStamps f = .ok (none, none) ∧
    peFindMagicMz f = .ok none ∧ peFindMagicPe f = .ok none ∧ peFindStagePrependAppend f = .ok (none, none) ∧
    (∀ L, peFindStagePrependAppendL L f = .ok (none, none)) := by
  have hmz := C18.mz_offset_none f 0 MAXRANGE h
  have harch := findArchitecture_none f 0 MAXRANGE h
  rcases hr : C18.findMzOffset f (some 0) MAXRANGE with ⟨r, f1⟩
  rw [hr] at hmz
  simp only at hmz
  subst hmz
  refine ⟨?_, ?_, ?_, ?_, ?_, ?_, ?_⟩
  · simp only [peFindMzOffset, hr]
  · simp only [peFindArchitecture, harch]
  · simp only [peFindCompileStamps, C18.findCompileStamps, hr]
  · simp only [peFindMagicMz, C18.findMagicMz, hr]
  · simp only [peFindMagicPe, C18.findMagicPe, hr]
  · simp only [peFindStagePrependAppend, C18.findStagePrependAppend, hr]
  · intro L; unfold peFindStagePrependAppendL peFindStagePrependAppendG; rw [hr]

/-- the ArtifactKit scanner on a file without a matching header yields nothing (an empty iterator, no exception) -/
theorem not_found_values_artifactkit (f : PyFile) (h : C15.artifactOffsets f.data 0 none = []) :
    iterArtifactkitPayloads f = .ok [] := by
  rw [iterArtifactkitPayloads_eq]
  simp only [C15.artifactHits, h, List.map_nil]

/-- a view returned by the detector has its nonce and size dwords inside the data; in particular data of at most
8 bytes is never taken for an XorEncoded stage: `ValueError` -/
theorem not_found_values_xorEncoded (B : Nat) (f : PyFile) :
    (∀ c, xorEncodedFromFile B f = .ok c → c + 8 ≤ f.data.length) ∧
    (f.data.length ≤ 8 → xorEncodedFromFile B f = .error .valueError) := by
  obtain ⟨dx, fFail, hdet, _, _, hb⟩ := detectRun_ok B f
  unfold xorEncodedFromFile
  rw [hdet]
  cases dx with
  | none => exact ⟨fun c hc => (by cases hc), fun _ => rfl⟩
  | some xf =>
    have := hb xf.nonceOff rfl
    refine ⟨?_, fun hl => by omega⟩
    intro c hc
    injection hc with hc
    omega

/-- `from_file` when the block search yields nothing and the Guardrails fallback recovers nothing: exactly the
documented `ValueError("No valid Beacon configuration found")`.  (`hc`: no `CONFIG_HEADER ⊕ key` occurrence under a
tried key in the decoded view or in the file itself — C01's candidate list; `hg`: no scanned Guardrails record has a
key candidate with a matching checksum — C17's `NoMatch`.) -/
theorem not_found_values_fromFile (B : Nat) (hB : 1 ≤ B) (f : PyFile) (ks : List Bytes)
    (dx : Option C09.XorFile) (fFail : PyFile) (hdet : C01.detectRun B f = .ok (dx, fFail))
    (hc : C01.candidates (C01.views f.data (dx.map (·.nonceOff))) (C01.effKeys ks) = [])
    (hg : ∀ ms, C17.iterGuardrailConfigs (fhFor f (dx.map (·.nonceOff))) = .ok ms → ∀ m ∈ ms, C17.NoMatch B m) :
    fromFile B f ks false = .error .valueError := by
  obtain ⟨dx', fFail', hdet', _, _, hb⟩ := detectRun_ok B f
  cases hdet.symm.trans hdet'
  obtain ⟨p1, p2⟩ := C01.pass_spec B hB f (C01.effKeys ks) (dx.map (·.nonceOff)) (fun c hc' => Nat.le_of_lt (hb c hc'))
  rw [hc] at p1
  have hnil := List.head?_eq_none_iff.mp p1
  have hnone := p2 hnil
  have hs : search B f ks false (dx.map (·.nonceOff)) fFail.pos = .ok none := by
    unfold search
    simp only [hnil, hnone]
    rfl
  unfold fromFile
  rw [hdet]
  simp only [hs]
  rw [C17.no_match_valueError _ B hg]

/-- **not_found_values** (DESIGN §C08): the documented "nothing found" result of every scanning entry point
(`from_file`: `not_found_values_fromFile`; `parse_raw_http` has no such value, see C16 `malformed_rejected`) -/
theorem not_found_values (B : Nat) (f : PyFile) :
    (C18.NoEarlierCandidate f.data 0 MAXRANGE MAXRANGE →
      peFindMzOffset f = .ok none ∧ peFindArchitecture f = .ok none ∧ peFindCompileStamps f = .ok (none, none) ∧
      peFindMagicMz f = .ok none ∧ peFindMagicPe f = .ok none ∧ peFindStagePrependAppend f = .ok (none, none) ∧
      (∀ L, peFindStagePrependAppendL L f = .ok (none, none))) ∧
    (C15.artifactOffsets f.data 0 none = [] → iterArtifactkitPayloads f = .ok []) ∧
    (f.data.length ≤ 8 → xorEncodedFromFile B f = .error .valueError) :=
  ⟨not_found_values_pe f, not_found_values_artifactkit f, (not_found_values_xorEncoded B f).2⟩

/-! ### no unbounded looping: sizes of what the scanning loops can produce

Every loop of the composed models is either a structural recursion over `List.range maxrange` (the 1024-step scans of
`find_mz_offset`, `find_architecture`, `iter_nonce_offsets`), over a list computed before (candidates, keys, sections,
settings of a fixed-size area), or a recursion on the measure `|data| - position` that Lean checked to decrease with
every iteration (`iter_find_needle`, the ArtifactKit scan, the Guardrails marker scan, `XorEncodedFile.read`, the
4-gram counter): at most `|data| + 1` iterations each.  The theorems below state the consequences that are visible in
the results.  Wall-clock time is not a Lean notion (DESIGN §C08: partial). -/

/-- the Guardrails marker scan reports at most one record per byte offset -/
theorem guard_scan_bound (f : PyFile) (xorkey : Bytes) (ms : List C17.Meta)
    (h : C17.iterGuardrailConfigs f xorkey = .ok ms) : ms.length ≤ f.data.length := by
  rw [C17.iterGuardrailConfigs_eq] at h
  injection h with h
  rw [← h]
  exact Nat.le_trans (List.length_filterMap_le _ _) (by simp)

/-- the ArtifactKit scan reports at most one payload per byte offset -/
theorem artifact_scan_bound (f : PyFile) (hits : List C15.Hit) (h : iterArtifactkitPayloads f = .ok hits) :
    hits.length ≤ f.data.length := by
  rw [iterArtifactkitPayloads_eq] at h
  injection h with h
  rw [← h]
  simp only [C15.artifactHits, List.length_map, C15.artifactOffsets]
  exact Nat.le_trans (List.length_filter_le _ _) (by simp)

/-- the XorEncoded detector tries at most one nonce-offset candidate per `ff ff ff` marker hit and per size-consistent
offset, and there are at most `maxrange` of the latter; each candidate costs one bounded (`maxrange`-step) MZ search.
(This is the measured worst case of the real library: ~1000 markers in the first KiB ⇒ ~10^6 struct reads, ≈ 20 s per
`XorEncodedFile.from_file` call, independent of the file size.) -/
theorem detector_candidates_bound (f : PyFile) (maxrange : Nat) (hits l : List Nat) (f1 : PyFile)
    (h : C09.iterNonceOffsets f none maxrange = .ok (l, f1)) :
    (C09.candidates hits l).length ≤ hits.length + maxrange := by
  have h1 := candidates_length hits l
  have h2 : l.length ≤ maxrange := by
    obtain ⟨f', he, _⟩ := C09.iterNonceOffsets_eq f maxrange
    rw [he] at h
    cases h
    exact Nat.le_trans (List.length_filter_le _ _) (by simp)
  omega

/-- **step bound of the XorEncoded detector** (`XorEncodedFile.from_file`, run up to three times per `from_file`): the
candidate loop tries at most `|data| + 1024` nonce offsets — one per `ff ff ff` occurrence reported by the marker scan
(at most one per byte of the file) and one per size-consistent offset below `maxrange = 1024` — and each candidate costs
one `find_mz_offset` on the view, a structural recursion over `range(1024)` (`C09.mzLoop`, counter `k = maxrange`) with
two bounded struct reads per step.  Hence at most `(|data| + 1024) · 1024` loop iterations per detector run. -/
theorem detector_step_bound (B : Nat) (hB : 1 ≤ B) (f : PyFile) (offs : List Nat) (f1 : PyFile) (hits : List Int) (f2 : PyFile)
    (h1 : C09.iterNonceOffsets f none 1024 = .ok (offs, f1))
    (h2 : C15.iterFindNeedle B f1 [0xff, 0xff, 0xff] (some 0) 1024 = .ok (hits, f2)) :
    (C09.candidates (hits.map Int.toNat) offs).length ≤ f.data.length + 1024 := by
  have hc := detector_candidates_bound f 1024 (hits.map Int.toNat) offs f1 h1
  obtain ⟨l', f1', h1', hd1, _⟩ := C09.iterNonceOffsets_ok f 1024
  cases h1.symm.trans h1'
  have hsub := C15.needle_limit_sublist B hB f1 [0xff, 0xff, 0xff] (by decide) (some 0) 1024 hits f2 h2
  have hlen := hsub.length_le
  simp only [List.length_map] at hlen hc
  have hocc : ((C15.occ f1.data [0xff, 0xff, 0xff]).filter (fun i => C15.startPos f1 (some 0) ≤ i)).length ≤ f1.data.length := by
    refine Nat.le_trans (List.length_filter_le _ _) ?_
    unfold C15.occ
    refine Nat.le_trans (List.length_filter_le _ _) ?_
    simp
  have hl : f1.data.length = f.data.length := by rw [hd1]
  omega

/-- settings decoding consumes at least 6 bytes per setting: at most `|block| / 6` settings (C02 `parse_sound` gives the
exact characterisation; here only the count) -/
theorem settings_terminate (block : Bytes) : ∃ ss, C02.iterSettingsE block = .ok ss :=
  ⟨_, C02.iterSettingsE_eq block⟩

/-! ### the XorEncoded view handed to the PE helpers and to the Guardrails scan

`from_file` passes the *view* to `pe.find_compile_stamps`, `pe.find_architecture` and
`iter_guardrail_configs_with_beacon`; the model runs them on `viewFile`.  This is C09's refinement theorem, restated
for the object `from_file` holds: every history of `seek` / `read` / `tell` whose seeks land at logical positions ≥ 0
(the three clients only perform absolute seeks to non-negative offsets: their PyFile models have an explicit error
branch for a negative one, proved dead above) gives on the view exactly the outputs it gives on `viewFile`. -/
theorem view_refines (f : PyFile) (c : Nat) (hc : c + 8 ≤ f.data.length) (ops : List C09.Op)
    (hops : C09.seeksNonneg (f.data.length - (c + 8)) 0 ops = true) :
    ∃ x outs pf' x', C01.openView f c = .ok x ∧
      C09.plainRun (viewFile f c) ops = .ok (outs, pf') ∧
      C09.run x ops = .ok (outs.map (C09.Out.shift (c + 8)), x') := by
  obtain ⟨x, hx, hA⟩ := C01.openView_spec f c hc
  have hlen : (f.data.drop (c + 8)).length = f.data.length - (c + 8) := by simp
  have htake : (f.data.take c).length = c := by simp; omega
  obtain ⟨outs, pf', h1, h2, _⟩ := C09.history_refines hA.layout 0 hA.pos f.kind ops (by rw [hlen]; exact hops)
  rw [htake] at h2
  exact ⟨x, outs, pf', _, hx, h1, h2⟩

/-! ### the hypotheses are satisfiable / concrete instances (evaluated by the kernel) -/

/-- a raw block under key 0x2e behind one byte of filler -/
def exRaw : Bytes := [0x41] ++ C20.xor [0, 1, 0, 1, 0, 2, 0, 8, 0, 0] [0x2e]

set_option maxRecDepth 100000 in
example : (fromBytes 8192 exRaw [] false).toOption.map
    (fun x => (x.guardrails, x.xorkey, x.xorencoded, x.settings.length)) = some (false, [0x2e], false, 1) ∧
    (fromBytes 8192 exRaw [] false).toOption.map (fun x => (x.compileStamp, x.exportStamp, x.arch)) = some (none, none, none) := by
  -- evaluated directly, the second PE scan runs on the unevaluated chain of 1024 probes the first leaves behind
  simp only [fromBytes, fromFile, finish, peArtifacts_eq]
  decide +kernel

-- PE-embedded (C18's sample image with a prepended stub): the artifacts are attached
set_option maxRecDepth 100000 in
example : (fromPath 8192 (C18.samplePrepend ++ C18.sampleImage ++ exRaw) [] false).toOption.map
    (fun x => (x.xorkey, x.compileStamp, x.exportStamp, x.arch))
    = some ([0x2e], some 0x5F94C216, some 0x603E2D9D, some .x86) := by
  -- the modelled `iter_nonce_offsets` takes `data[i:][:4]` afresh for each offset; `detectRun_eq` walks the bytes once
  rw [fromPath, fromFile, detectRun_eq]
  decide +kernel

set_option maxRecDepth 100000 in
example : fromBytes 8192 [] [] false = .error .valueError ∧ fromPath 8192 [0x4d, 0x5a, 0xff, 0xff, 0xff] [] true = .error .valueError := by
  constructor
  · decide +kernel
  -- the one candidate (offset 5) has no payload behind it: `tryCands_eof` stands for its 1024 failing probes
  · rw [fromPath, fromFile, detectRun_eq, tryCands_eof]
    · decide +kernel
    · decide +kernel

set_option maxRecDepth 100000 in
example : C18.NoEarlierCandidate (PyFile.ofBytes [0x4d, 0x5a]).data 0 MAXRANGE MAXRANGE :=
  noEarlier_of_short _ (by decide) _ _ _

example : C15.artifactOffsets (PyFile.ofBytes [16, 0, 0]).data 0 none = [] := by decide +kernel

example : parseRawHttp [0x47] = .error .valueError := by decide +kernel

/-- a history with non-negative seeks on the view of C01's sample stage -/
example : C09.seeksNonneg (C01.exStage.length - (1 + 8)) 0 [.seek 3 0, .read (some 4), .tell, .seek 0 2, .read none] = true := by
  decide

end C08

import CsVerif.Gen.PyClient
import CsVerif.Props.C19
import CsVerif.Lemmas.C19Gen
/-!
C19 — the tie between the source text of dissect/cobaltstrike/client.py and the model, by (untyped) translation.

`Gen/PyClient.lean` is produced on every run by `tools/py2leanu.py` (plug-in `tools/gen/py_client.py`) from the *source*:

  * three SLICES of the long method `HttpBeaconClient.run`, located in its AST by what they assign and wrapped into synthetic
    functions: `normalise_beacon_id` (the two assignments of `self.beacon_id` + the range check), `session_keys`
    (`random.seed(…)` … `self.hmac_key = …`) and `make_info` (the two assignments of `info` + the value stored in
    `self.metadata.info`);
  * `register_task`, the inner functions of the decorators `handle` / `catch_all`, `get_handlers`, and the dispatch part of the
    body of `_beacon_loop` (`command_id = …` to the end of the `for` over the handlers), with the client object threaded as a value.

EXTERNAL (parameters of the translated definitions): `random.getrandbits`, `random.seed` + `getrandbits(128)` as one function of
the seed, `hashlib.sha256(·).digest()`, `getattr(self, name, None)`, `callable`, and the `try` statement around the call of ONE
handler (`invoke_handler`).  They are instantiated in `Model/C19Gen.lean` with the primitives of the hand-written model.
Handler objects are opaque: every theorem below holds for ANY representation `enc : Handler → V` of handler objects as values that
respects `bool(h)`.

Each `gen_*` theorem states that a translated definition computes exactly the encoding of what the hand-written model of
`Model/C19.lean` computes, raising branches included; the property theorems of `Props/C19.lean` are restated for the translated
definitions.  So they are theorems about the source text, and an edit that changes the meaning of one of these
pieces breaks the proof here.  Helper lemmas: `Lemmas/C19Gen.lean`.
-/
namespace C19Gen
open PyU C19 C19.Client

/-! ### the beacon id -/

/-- for EVERY int argument (whatever `random.getrandbits` is) the translated slice equals the model, `ValueError` included -/
theorem gen_normalise_beacon_id (getrandbits : V → Py V) (id : Int) :
    Gen.PyClient.normalise_beacon_id getrandbits (.int id) = (normaliseId id).map .int :=
  gen_normalise_beacon_id_proof getrandbits id

/-- `beacon_id=None`: the model's `defaultId` of the value `random.getrandbits(32)` returns -/
theorem gen_normalise_beacon_id_none (getrandbits : V → Py V) (r : Int) (h : getrandbits (.int 32) = .ok (.int r)) :
    Gen.PyClient.normalise_beacon_id getrandbits .none = (defaultId r).map .int := by
  have e0 := band_int r 2147483647
  rw [defaultId, ← gen_normalise_beacon_id_proof getrandbits]
  unfold Gen.PyClient.normalise_beacon_id
  simp only [PyU.isNone, Bool.not_true, Bool.not_false, Bool.false_eq_true, ↓reduceIte, h, PyU.ok_bind]
  erw [e0]
  rfl

theorem gen_beacon_id_range (g : V → Py V) (id : Int) :
    Gen.PyClient.normalise_beacon_id g (.int id) = .error .valueError ∨
    ∃ r, Gen.PyClient.normalise_beacon_id g (.int id) = .ok (.int r) ∧ r % 2 = 0 ∧ 0 ≤ r ∧ r < 2147483648 := by
  rw [gen_normalise_beacon_id]
  rcases beacon_id_range id with h | ⟨r, h, h1, h2, h3⟩
  · left; rw [h]; rfl
  · right; exact ⟨r, by rw [h]; rfl, h1, h2, h3⟩

theorem gen_beacon_id_rejected_iff (g : V → Py V) (id : Int) :
    Gen.PyClient.normalise_beacon_id g (.int id) = .error .valueError ↔ 2147483648 ≤ id % 4294967296 := by
  rw [gen_normalise_beacon_id, ← beacon_id_rejected_iff]
  cases normaliseId id with
  | error e => simp [Except.map]
  | ok r => simp [Except.map]

/-- the presented id is a fixed point -/
theorem gen_beacon_id_stable (g : V → Py V) (id r : Int) (h : Gen.PyClient.normalise_beacon_id g (.int id) = .ok (.int r)) :
    Gen.PyClient.normalise_beacon_id g (.int r) = .ok (.int r) := by
  rw [gen_normalise_beacon_id] at h ⊢
  obtain ⟨r', hn, e⟩ := map_eq_ok h
  cases e
  rw [beacon_id_stable id r hn]; rfl

/-- `default_id_accepted` for the source text: without a requested id the draw is never rejected -/
theorem gen_default_id_accepted (g : V → Py V) (r : Int) (h : g (.int 32) = .ok (.int r)) :
    Gen.PyClient.normalise_beacon_id g .none = .ok (.int (r % 2147483648 - r % 2)) := by
  rw [gen_normalise_beacon_id_none g r h, (default_id_accepted r).1]; rfl

/-! ### the session keys -/

/-- for every int id and every stand-in `mt` for the Mersenne Twister (`mt seed 128` a 128-bit value) and `sha` for sha256: the
translated slice computes the model's `deriveKeys` for the primitives made of the two stand-ins -/
theorem gen_session_keys (mt : Int → Int → Int) (sha : Bytes → Bytes) (bid : Int)
    (hmt : ∀ s, 0 ≤ mt s 128 ∧ mt s 128 < 340282366920938463463374607431768211456) :
    Gen.PyClient.session_keys (seededX mt) (shaX sha) (.int bid) = .ok (encKeys (deriveKeys (primsOf mt sha) bid)) := by
  -- `2899203565` is `0xACCE55ED`
  have e1 : PyU.bxor (.int bid) (.int 2899203565) = .ok (.int (PyRt.bxor bid 2899203565)) := rfl
  unfold Gen.PyClient.session_keys
  simp only [e1, PyU.ok_bind, seededX, toBytes16 _ (hmt _).1 (hmt _).2, shaX, pure_ok]
  erw [slice_to_nat _ 16, slice_from_nat _ 16]
  rfl

/-! ### info -/

/-- for all names (any code points, any length): the translated slice equals the model's `mkInfo`, including the
`UnicodeEncodeError` of a lone surrogate -/
theorem gen_info (computer user process : Txt) :
    Gen.PyClient.make_info (.str computer) (.str user) (.str process) = (mkInfo computer user process).map .bytes := by
  have hf (t : Txt) : PyU.fmt (.str t) "" = .ok t := rfl
  have ht : PyU.cps "\u0009" = [9] := by decide
  unfold Gen.PyClient.make_info
  simp only [hf, PyU.ok_bind, ht, encodeUtf8, utf8Enc_eq, mkInfo]
  cases henc : utf8Encode (computer ++ [9] ++ user ++ [9] ++ process) with
  | error e => rfl
  | ok enc =>
    simp only [Except.map, PyU.ok_bind]
    erw [slice_to_nat enc 51]
    simp only [PyU.ok_bind, decodeUtf8Ignore, utf8IgnoreGo_eq, utf8DecodeIgnore]

theorem gen_info_fits (computer user process : Txt) (info : Bytes)
    (h : Gen.PyClient.make_info (.str computer) (.str user) (.str process) = .ok (.bytes info)) : info.length ≤ 51 := by
  rw [gen_info] at h
  obtain ⟨i, hm, e⟩ := map_eq_ok h
  cases e
  exact info_fits computer user process info hm

/-- `info_exact` for the source text: the encoding of the longest prefix of whole characters that fits in 51 bytes -/
theorem gen_info_exact (computer user process : Txt) (enc : Bytes)
    (he : utf8Encode (computer ++ [9] ++ user ++ [9] ++ process) = .ok enc) :
    Gen.PyClient.make_info (.str computer) (.str user) (.str process)
      = (utf8Encode (fitPrefix (computer ++ [9] ++ user ++ [9] ++ process) 51)).map .bytes := by
  rw [gen_info, (info_exact computer user process enc he).1]

/-! ### `run`: the three slices in the order of the method -/

/-- the identity part of `run(dry_run=True, beacon_id=id, …)` made of the three translated slices equals the model's `run` -/
theorem gen_run (g : V → Py V) (mt : Int → Int → Int) (sha : Bytes → Bytes)
    (hmt : ∀ s, 0 ≤ mt s 128 ∧ mt s 128 < 340282366920938463463374607431768211456)
    (id : Int) (c u q : Txt) :
    runG g (seededX mt) (shaX sha) (.int id) (.str c) (.str u) (.str q) = (run (primsOf mt sha) id c u q).map encIdentity := by
  simp only [runG, gen_normalise_beacon_id, run]
  cases normaliseId id with
  | error e => rfl
  | ok bid =>
    simp only [Except.map, PyU.ok_bind, gen_session_keys mt sha bid hmt, gen_info]
    cases mkInfo c u q <;> rfl

/-- `keys_function_of_id` for the source text: two runs that present the same beacon id use the same `aes_rand`, AES key and
HMAC key, whatever the requested ids and names were -/
theorem gen_keys_function_of_id (g : V → Py V) (mt : Int → Int → Int) (sha : Bytes → Bytes)
    (hmt : ∀ s, 0 ≤ mt s 128 ∧ mt s 128 < 340282366920938463463374607431768211456)
    (id₁ id₂ : Int) (c₁ u₁ q₁ c₂ u₂ q₂ : Txt) (bid k₁ k₂ i₁ i₂ : V)
    (h₁ : runG g (seededX mt) (shaX sha) (.int id₁) (.str c₁) (.str u₁) (.str q₁) = .ok (.tuple [bid, k₁, i₁]))
    (h₂ : runG g (seededX mt) (shaX sha) (.int id₂) (.str c₂) (.str u₂) (.str q₂) = .ok (.tuple [bid, k₂, i₂])) :
    k₁ = k₂ := by
  rw [gen_run g mt sha hmt] at h₁ h₂
  obtain ⟨a, ha, ea⟩ := map_eq_ok h₁
  obtain ⟨b, hb, eb⟩ := map_eq_ok h₂
  simp only [encIdentity, V.tuple.injEq, List.cons.injEq, and_true] at ea eb
  have hid : a.beaconId = b.beaconId := V.int.inj (ea.1.trans eb.1.symm)
  rw [← ea.2.1, ← eb.2.1, keys_function_of_id (primsOf mt sha) id₁ id₂ c₁ u₁ q₁ c₂ u₂ q₂ a b ha hb hid]

/-! ### the registry -/

/-- `register_task(k, h)` on a client whose `task_map` is the model's dict: the model's `registerTask`, for every key (`None` or
an int) and every handler -/
theorem gen_register_task (enc : Handler → V) (c : Client) (hw : WF c) (k : Key) (h : Handler) :
    Gen.PyClient.register_task (encClient enc c) (encKey k) (enc h) = .ok (encClient enc (c.registerTask k h)) :=
  gen_register_task_proof enc c hw k h

/-- `handle(command)(h)`: `None`, ints (IntEnum members included), truthy objects with `.value`, and the `AttributeError` for a
truthy non-int without `.value` -/
theorem gen_handle_decorator (enc : Handler → V) (c : Client) (hw : WF c) (a : CmdArg) (h : Handler) :
    Gen.PyClient.handle_decorator (encClient enc c) (encArg a) (enc h)
      = (handleKey a).map fun k => .tuple [enc h, encClient enc (c.registerTask k h)] :=
  gen_handle_decorator_proof enc c hw a h

/-- `catch_all()(h)` registers `h` under the key −1 -/
theorem gen_catch_all_decorator (enc : Handler → V) (c : Client) (hw : WF c) (h : Handler) :
    Gen.PyClient.catch_all_decorator (encClient enc c) (enc h)
      = .ok (.tuple [enc h, encClient enc (c.registerTask (some (-1)) h)]) :=
  gen_catch_all_decorator_proof enc c hw h

/-- a whole registration script run through the translated registration code builds the model's registry (with the same
outcome for every registration) -/
theorem gen_build (enc : Handler → V) (regs : List Reg) :
    applyRegsG enc newClientG regs = (encClient enc (build regs), (applyRegs {} regs).2) := by
  rw [newClientG_eq enc, gen_applyRegs_proof enc regs {} wf_empty]; rfl

/-- `get_handlers(k)` for every key (`None`, a `BeaconCommand` value, any other int): the list the model's `getHandlers`
returns -/
theorem gen_get_handlers (enc : Handler → V) (henc : ∀ h, truthy (enc h) = h.truthy) (c : Client) (hw : WF c) (k : Key) :
    Gen.PyClient.get_handlers (getattrX enc c) (encClient enc c) (encKey k)
      = .ok (.list (((getHandlers c k).1.readList (getHandlers c k).2).map enc)) := by
  rw [gen_get_handlers_proof enc henc, (getHandlers_spec c hw k).2]

/-- `task_map_content` + `dispatch_own_handlers` / `dispatch_catch_all` for the source text: after any registration script,
`get_handlers(k)` returns exactly the handlers the registrations prescribe -/
theorem gen_get_handlers_spec (enc : Handler → V) (henc : ∀ h, truthy (enc h) = h.truthy) (regs : List Reg) (k : Key) :
    Gen.PyClient.get_handlers (getattrX enc (build regs)) (encClient enc (build regs)) (encKey k)
      = .ok (.list ((specHandlers regs k).map enc)) := by
  rw [gen_get_handlers_proof enc henc, specListC_build]

/-! ### dispatch -/

/-- the dispatch part of one loop iteration: for every task (`None` or any command id) the value is, per CALLABLE handler of
`get_handlers(command_id)` and in that order, what the `try` statement around its call did -/
theorem gen_dispatch (enc : Handler → V) (henc : ∀ h, truthy (enc h) = h.truthy) (callableX : V → Py V) (invokeX : V → V → Py V)
    (c : Client) (hw : WF c) (t : Option Int)
    (hc : ∀ h, callableX (enc h) = .ok (.bool h.callable))
    (hi : ∀ h, h.callable = true → invokeX (enc h) (encTask t) = .ok (encEvents (invokeOne h))) :
    Gen.PyClient.dispatch (getattrX enc c) callableX invokeX (encClient enc c) (encTask t)
      = .ok (.list ((((getHandlers c t).1.readList (getHandlers c t).2).filter (·.callable)).map fun h => encEvents (invokeOne h))) := by
  rw [gen_dispatch_proof enc henc callableX invokeX c t hc hi, (getHandlers_spec c hw t).2]

/-- `dispatch_exact` for the source text: for every registration script (run through the translated registration code) and
every task, the events of the translated dispatch code are exactly `invoke (specHandlers regs task)` — each prescribed handler
once per occurrence, in order -/
theorem gen_dispatch_exact (enc : Handler → V) (henc : ∀ h, truthy (enc h) = h.truthy) (callableX : V → Py V) (invokeX : V → V → Py V)
    (regs : List Reg) (t : Option Int)
    (hc : ∀ h, callableX (enc h) = .ok (.bool h.callable))
    (hi : ∀ h, h.callable = true → invokeX (enc h) (encTask t) = .ok (encEvents (invokeOne h))) :
    ∃ r, Gen.PyClient.dispatch (getattrX enc (build regs)) callableX invokeX (applyRegsG enc newClientG regs).1 (encTask t) = .ok r ∧
      flattenEvents r = some ((invoke (specHandlers regs t)).map encEvent) := by
  rw [gen_build enc regs]
  refine ⟨_, gen_dispatch_proof enc henc callableX invokeX (build regs) t hc hi, ?_⟩
  rw [flattenEvents_map, specListC_build, invoke_filter]

/-! ### Non-vacuity: the concrete handler representation satisfies the hypotheses; the translated definitions evaluated on concrete inputs -/

theorem encH_truthy (h : Handler) : truthy (encH h) = h.truthy := by
  unfold encH; cases h.truthy <;> rfl

theorem decH_encH (h : Handler) : decH (encH h) = some h := by
  obtain ⟨i, c, t, r, s⟩ := h
  cases t <;> cases c <;> cases r <;> cases s <;> simp [encH, decH, falsyCls, HandlerCls]

theorem callableH_spec (h : Handler) : callableH (encH h) = .ok (.bool h.callable) := by
  simp only [callableH, decH_encH]

theorem invokeH_spec (h : Handler) (t : V) : invokeH (encH h) t = .ok (encEvents (invokeOne h)) := by
  simp only [invokeH, decH_encH]

example : Gen.PyClient.normalise_beacon_id (getrandbitsX 0) (.int 2147483647) = .ok (.int 2147483646) := by decide +kernel
example : Gen.PyClient.normalise_beacon_id (getrandbitsX 0) (.int (-1)) = .error .valueError := by decide +kernel
example : Gen.PyClient.normalise_beacon_id (getrandbitsX 0) (.int (4294967296 + 5)) = .ok (.int 4) := by decide +kernel
example : Gen.PyClient.normalise_beacon_id (getrandbitsX 4294967295) .none = .ok (.int 2147483646) := by decide +kernel
-- `"7" % 2` is string formatting (not modelled: TypeError, as CPython answers for this operand); `b"7" - …` likewise
example : Gen.PyClient.normalise_beacon_id (getrandbitsX 0) (lit "7") = .error .typeError := by decide +kernel
example : Gen.PyClient.normalise_beacon_id (getrandbitsX 0) (.bool true) = .ok (.int 0) := by decide +kernel
example : Gen.PyClient.session_keys (seededX fun s _ => s) (shaX fun b => b ++ b) (.int 4)
    = .ok (.tuple [.bytes [0, 0, 0, 0, 0, 0, 0, 0, 0, 0, 0, 0, 172, 206, 85, 233], .bytes [0, 0, 0, 0, 0, 0, 0, 0, 0, 0, 0, 0, 172, 206, 85, 233],
        .bytes [0, 0, 0, 0, 0, 0, 0, 0, 0, 0, 0, 0, 172, 206, 85, 233]]) := by decide +kernel
-- a negative draw cannot be written as 16 unsigned bytes
example : Gen.PyClient.session_keys (seededX fun _ _ => -1) (shaX id) (.int 4) = .error .overflowError := by decide +kernel
example : Gen.PyClient.make_info (.str (List.replicate 30 0x20AC)) (.str [0x75]) (.str [0x70])
    = .ok (.bytes ((List.replicate 17 [0xE2, 0x82, 0xAC]).flatten)) := by decide +kernel
example : Gen.PyClient.make_info (.str [0xD800]) (.str []) (.str []) = .error .valueError := by decide +kernel
-- `f"{None}"` is "None"; `bytes` names are a TypeError here (CPython formats their repr: not modelled)
example : Gen.PyClient.make_info .none (.str [0x75]) (.str [0x70]) = .ok (.bytes [78, 111, 110, 101, 9, 117, 9, 112]) := by decide +kernel
-- COMMAND_DIE = 3: a handler registered by the decorator, then the attribute `on_die`; COMMAND 4 goes to the catch-all handler
example :
    let regs : List Reg := [.handle (.int 3) ⟨1, true, true, false, true⟩, .classAttr [111, 110, 95, 100, 105, 101] ⟨2, true, true, false, false⟩,
      .catchAll ⟨9, true, true, false, false⟩]
    (Gen.PyClient.dispatch (getattrX encH (build regs)) callableH invokeH (applyRegsG encH newClientG regs).1 (encTask (some 3))).map flattenEvents
      = .ok (some ([.call 1, .send 1, .call 2].map encEvent)) ∧
    (Gen.PyClient.dispatch (getattrX encH (build regs)) callableH invokeH (applyRegsG encH newClientG regs).1 (encTask (some 4))).map flattenEvents
      = .ok (some ([.call 9].map encEvent)) ∧
    (Gen.PyClient.dispatch (getattrX encH (build regs)) callableH invokeH (applyRegsG encH newClientG regs).1 (encTask (some 9999))).map flattenEvents
      = .ok (some ([.call 9].map encEvent)) := by decide +kernel
-- `handle("sleep")`: AttributeError; `register_task` on something that is not a client: AttributeError
example : Gen.PyClient.handle_decorator newClientG (encArg .plainObj) (encH ⟨1, true, true, false, false⟩) = .error .attributeError := by
  decide +kernel
example : Gen.PyClient.register_task .none (.int 3) (encH ⟨1, true, true, false, false⟩) = .error .attributeError := by decide +kernel
-- an unhashable command id: TypeError from the `in` test
example : Gen.PyClient.register_task newClientG (.list []) (encH ⟨1, true, true, false, false⟩) = .error .typeError := by decide +kernel

end C19Gen

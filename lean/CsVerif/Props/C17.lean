import CsVerif.Lemmas.C17
/-! C17 — Guardrails: what the marker scan reports; only_if_checksum; when the key is a candidate and recovered; why not always. -/
namespace C17
open Gen.Guardrails

/-! ### generated tables -/

theorem starts_length : ∀ s ∈ GUARD_CONFIG_STARTS, s.length = 6 := starts_length_model

/-- every known start is the header (option, type, length — big-endian uint16 each) of a guard setting -/
theorem starts_are_headers :
    GUARD_CONFIG_STARTS =
      [(GUARD_USER, TYPE_SHORT, 2), (GUARD_COMPUTER, TYPE_SHORT, 2), (GUARD_DOMAIN, TYPE_SHORT, 2), (GUARD_LOCAL_IP, TYPE_INT, 4)].map
        (fun (o, t, l) => C20.toBytesU .big 2 o ++ C20.toBytesU .big 2 t ++ C20.toBytesU .big 2 l) := by decide +kernel

theorem layout_ok : settingHeaderWidths = [2, 2, 2] ∧ metaBeaconXorKey = beaconXorKey := by decide

theorem options_distinct : (GuardOption.map Prod.snd).Nodup ∧ ("GUARD_PAYLOAD_CHECKSUM", GUARD_PAYLOAD_CHECKSUM) ∈ GuardOption := by decide +kernel

/-- The scan never raises (BytesIO or OS file, any mask key) and reports, in increasing offset order, exactly the
offsets where the marker relation holds and a 6144-byte area fits in front.  (Proved next to the model because the
compiled driver's linear-time scan is justified by it, see `iterGuardrailConfigs_eq_probe`.) -/
theorem iterGuardrailConfigs_eq (f : PyFile) (xorkey : Bytes) :
    iterGuardrailConfigs f xorkey =
      .ok ((List.range f.data.length).filterMap (probeAt f.data (maskedStarts xorkey) 6 xorkey)) :=
  iterGuardrailConfigs_eq_probe f xorkey

theorem iterGuardrailConfigs_total (f : PyFile) (xorkey : Bytes) :
    ∃ ms, iterGuardrailConfigs f xorkey = .ok ms := ⟨_, iterGuardrailConfigs_eq f xorkey⟩

/-- Everything the scan can report (chance matches included): a record is reported iff it is the record built at some
offset `off` with the marker relation `xor(reverse(data[off:off+6]), data[off+6:off+12]) ∈ masked starts` and `off + 6 ≥ 6144`. -/
theorem scan_reports_iff (f : PyFile) (xorkey : Bytes) (ms : List Meta) (h : iterGuardrailConfigs f xorkey = .ok ms) (m : Meta) :
    m ∈ ms ↔ ∃ off, off < f.data.length ∧ markerAt f.data (maskedStarts xorkey) 6 off ∧ BEACON_CONFIG_PATCH_SIZE ≤ off + 6 ∧
      m = metaAt f.data xorkey (off + 6) (off + 6 - BEACON_CONFIG_PATCH_SIZE) := by
  rw [iterGuardrailConfigs_eq] at h
  cases h
  simp only [List.mem_filterMap, List.mem_range, probeAt_eq_some_iff]

/-- Putting any prefix `p` in front of a file moves every record the scan reported for
the file by `|p|` and changes nothing else; the only additional records are ones whose marker lies in the prefix or in
the first 6138 bytes of the old content (their 6144-byte area reaches into the prefix).  In particular no file position
— block boundary or otherwise — is special. -/
theorem scan_position_independent (p data key : Bytes) (ms : List Meta)
    (h : iterGuardrailConfigs (PyFile.ofBytes data) key = .ok ms) :
    ∃ early, iterGuardrailConfigs (PyFile.ofBytes (p ++ data)) key = .ok (early ++ ms.map (Meta.shift p.length)) ∧
      ∀ m ∈ early, m.guardConfigOffset < p.length + BEACON_CONFIG_PATCH_SIZE := by
  rw [iterGuardrailConfigs_eq] at h
  cases h
  have hB : 6 ≤ BEACON_CONFIG_PATCH_SIZE := by decide
  -- both scans are cut where a 6144-byte area first fits into the old content: offset 6138 of it
  refine ⟨(List.range' 0 (min (p.length + (BEACON_CONFIG_PATCH_SIZE - 6)) (p.length + data.length))).filterMap
    (probeAt (p ++ data) (maskedStarts key) 6 key), ?_, ?_⟩
  · have hnone : (List.range' 0 (min (BEACON_CONFIG_PATCH_SIZE - 6) data.length)).filterMap (probeAt data (maskedStarts key) 6 key) = [] := by
      rw [List.filterMap_eq_nil_iff]
      intro off hoff
      have := (List.mem_range'_1.mp hoff).2
      exact probeAt_none_early data _ key off (by omega)
    rw [iterGuardrailConfigs_eq]
    simp only [PyFile.ofBytes, List.length_append]
    rw [range_cut (p.length + data.length) (p.length + (BEACON_CONFIG_PATCH_SIZE - 6)), range_cut data.length (BEACON_CONFIG_PATCH_SIZE - 6),
      List.filterMap_append, List.filterMap_append, hnone, List.nil_append, Nat.add_sub_add_left, List.map_filterMap,
      ← List.map_add_range', List.filterMap_map]
    refine congrArg (fun l => Except.ok (_ ++ l)) (filterMap_congr' ?_)
    intro off hoff
    have := (List.mem_range'_1.mp hoff).1
    exact probeAt_shift p data (maskedStarts key) key off (by omega)
  · intro m hm
    obtain ⟨off, hoff, hp⟩ := List.mem_filterMap.mp hm
    have := (List.mem_range'_1.mp hoff).2
    rw [probeAt_gco hp]
    omega

/-! ### guard unmasking and the marker -/

/-- masking then unmasking the guard configuration returns it (any guard key, any masked beacon area) -/
theorem guard_unmask_roundtrip (gc mb key : Bytes) :
    C20.xor (C20.xor (C20.xor (C20.xor gc key) mb.reverse) mb.reverse) key = gc := by
  rw [xor_involutive, xor_involutive]

/-- the marker relation holds where a masked guard configuration with a known start follows a masked beacon area -/
theorem marker_relation (mb gc key : Bytes) (hmb : 6 ≤ mb.length) (hgc : 6 ≤ gc.length) :
    C20.xor ((mb.drop (mb.length - 6)).reverse) ((C20.xor (C20.xor gc key) mb.reverse).take 6) = C20.xor (gc.take 6) key := by
  rw [xor_take, xor_take]
  have hr : (mb.drop (mb.length - 6)).reverse = mb.reverse.take 6 := by
    rw [List.reverse_drop]; congr 1; omega
  rw [hr]
  apply List.ext_getElem
  · simp [xor_length]; omega
  · intro i h1 h2
    have hi : i < 6 := by simp [xor_length] at h2; omega
    have hl : (C20.xor (C20.xor (List.take 6 gc) key) mb.reverse).length = 6 := by simp [xor_length]; omega
    rw [xor_getElem, keyAt_lt _ _ (by rw [hl]; exact hi)]
    rw [xor_getElem (C20.xor (List.take 6 gc) key) mb.reverse, keyAt_lt mb.reverse i (by simp; omega)]
    simp only [List.getElem_take]
    rw [UInt8.xor_comm, UInt8.xor_assoc]
    simp

/-- the guard-side mask the builder applies: `xor(xor(guard_config, key), reverse(masked_beacon))` -/
def maskGuard (gc key mb : Bytes) : Bytes := C20.xor (C20.xor gc key) mb.reverse

/-- the record reported for a protected area `mb ++ maskGuard gc key mb` placed behind `pre` -/
def areaMeta (pre mb gc key : Bytes) : Meta :=
  { beaconConfigOffset := pre.length
    guardConfigOffset := pre.length + BEACON_CONFIG_PATCH_SIZE
    maskedBeaconConfig := mb
    maskedGuardConfig := maskGuard gc key mb
    beaconXorKey := metaBeaconXorKey
    guardrailXorKey := key
    unmaskedGuardConfig := gc
    checksum := (settingsPure gc [] 0).2
    payloadXorKey := none
    unmaskedBeaconConfig := none
    settings := (settingsPure gc [] 0).1 }

theorem area_marker (pre mb gc key post : Bytes)
    (hmb : mb.length = BEACON_CONFIG_PATCH_SIZE) (hgc : gc.length = GUARD_PATCH_SIZE)
    (hstart : gc.take 6 ∈ GUARD_CONFIG_STARTS) :
    markerAt (pre ++ mb ++ maskGuard gc key mb ++ post) (maskedStarts key) 6 (pre.length + (BEACON_CONFIG_PATCH_SIZE - 6)) := by
  have hmg : 6 ≤ (maskGuard gc key mb).length := by rw [maskGuard, xor_length, xor_length, hgc]; decide
  have hd : (mb.drop (mb.length - 6)).length = 6 := by rw [List.length_drop, hmb]; rfl
  -- the 12 bytes at the marker offset: the last 6 of the masked beacon area, the first 6 of the masked guard configuration
  have hblock : ((pre ++ mb ++ maskGuard gc key mb ++ post).drop (pre.length + (BEACON_CONFIG_PATCH_SIZE - 6))).take (6 * 2)
      = mb.drop (mb.length - 6) ++ (maskGuard gc key mb).take 6 := by
    rw [List.append_assoc, List.append_assoc, List.drop_length_add_append, List.drop_append_of_le_length (by rw [hmb]; decide), ← hmb,
      show 6 * 2 = (mb.drop (mb.length - 6)).length + 6 by rw [hd], List.take_length_add_append, List.take_append_of_le_length hmg]
  rw [markerAt, hblock, List.take_left' hd, List.drop_left' hd, maskGuard,
    marker_relation mb gc key (by rw [hmb]; decide) (by rw [hgc]; decide)]
  exact List.mem_map_of_mem hstart

theorem area_metaAt (pre mb gc key post : Bytes)
    (hmb : mb.length = BEACON_CONFIG_PATCH_SIZE) (hgc : gc.length = GUARD_PATCH_SIZE) :
    metaAt (pre ++ mb ++ maskGuard gc key mb ++ post) key (pre.length + BEACON_CONFIG_PATCH_SIZE) pre.length
      = areaMeta pre mb gc key := by
  have hmg : (maskGuard gc key mb).length = GUARD_PATCH_SIZE := by simp [maskGuard, xor_length, hgc]
  have e : pre ++ mb ++ maskGuard gc key mb ++ post = pre ++ (mb ++ (maskGuard gc key mb ++ post)) := by simp
  have h1 : ((pre ++ mb ++ maskGuard gc key mb ++ post).drop pre.length).take BEACON_CONFIG_PATCH_SIZE = mb := by
    rw [e, List.drop_left, ← hmb, List.take_left]
  have h2 : ((pre ++ mb ++ maskGuard gc key mb ++ post).drop (pre.length + mb.length)).take GUARD_PATCH_SIZE
      = maskGuard gc key mb := by
    rw [e, List.drop_length_add_append, List.drop_left, ← hmg, List.take_left]
  unfold metaAt areaMeta
  simp only [h1, h2]
  have h3 : C20.xor (C20.xor (maskGuard gc key mb) mb.reverse) key = gc := guard_unmask_roundtrip gc mb key
  simp only [h3]

theorem area_probeAt (pre mb gc key post : Bytes)
    (hmb : mb.length = BEACON_CONFIG_PATCH_SIZE) (hgc : gc.length = GUARD_PATCH_SIZE)
    (hstart : gc.take 6 ∈ GUARD_CONFIG_STARTS) :
    pre.length + (BEACON_CONFIG_PATCH_SIZE - 6) < (pre ++ mb ++ maskGuard gc key mb ++ post).length ∧
      probeAt (pre ++ mb ++ maskGuard gc key mb ++ post) (maskedStarts key) 6 key (pre.length + (BEACON_CONFIG_PATCH_SIZE - 6))
        = some (areaMeta pre mb gc key) := by
  constructor
  · simp only [List.length_append, hmb]
    have : 0 < BEACON_CONFIG_PATCH_SIZE := by decide
    omega
  · rw [probeAt, Nat.add_assoc, show BEACON_CONFIG_PATCH_SIZE - 6 + 6 = BEACON_CONFIG_PATCH_SIZE from rfl, Nat.add_sub_cancel,
      if_pos ⟨area_marker pre mb gc key post hmb hgc hstart, Nat.le_add_left ..⟩, area_metaAt pre mb gc key post hmb hgc]

/-- A protected area (6144 masked beacon bytes followed by the 2048-byte masked guard configuration
whose plain text starts with one of the four known settings) placed behind any prefix — offset 0 included — and followed
by anything is reported by the scan with exactly its offsets, masked areas, unmasked guard configuration and settings;
no other record is reported for that offset.  What else can be reported is characterised by `scan_reports_iff`
(chance matches of the 12-byte marker relation at other offsets). -/
theorem marker_found (pre mb gc key post : Bytes)
    (hmb : mb.length = BEACON_CONFIG_PATCH_SIZE) (hgc : gc.length = GUARD_PATCH_SIZE)
    (hstart : gc.take 6 ∈ GUARD_CONFIG_STARTS) :
    ∃ ms, iterGuardrailConfigs (PyFile.ofBytes (pre ++ mb ++ maskGuard gc key mb ++ post)) key = .ok ms ∧
      areaMeta pre mb gc key ∈ ms ∧
      ∀ m ∈ ms, m.guardConfigOffset = pre.length + BEACON_CONFIG_PATCH_SIZE → m = areaMeta pre mb gc key := by
  obtain ⟨hlt, hp⟩ := area_probeAt pre mb gc key post hmb hgc hstart
  refine ⟨_, iterGuardrailConfigs_eq _ _, List.mem_filterMap.mpr ⟨_, List.mem_range.mpr hlt, hp⟩, ?_⟩
  intro m hm hoff
  obtain ⟨off, _, hpo⟩ := List.mem_filterMap.mp hm
  have hgco : off + 6 = pre.length + (BEACON_CONFIG_PATCH_SIZE - 6) + 6 := by
    rw [← probeAt_gco hpo, hoff, Nat.add_assoc]; rfl
  obtain rfl := Nat.add_right_cancel hgco
  exact (Option.some.inj (hp.symm.trans hpo)).symm

/-! ### checksum -/

/-- `payload_checksum` is the weighted byte sum (weights 1,2,3 cycling) reduced modulo 99999999 … -/
theorem payloadChecksum_spec (d : Bytes) : payloadChecksum d = wsum d 0 % 99999999 := payloadChecksum_eq d

/-- … and therefore below the modulus; for a 6144-byte configuration the reduction never happens and the value is at most 4700160
(765 = 255 · 3 per byte, 130718 = ⌊99999999 / 765⌋, 4700160 = 765 · 6144). -/
theorem payloadChecksum_bounds (d : Bytes) :
    payloadChecksum d < 99999999 ∧ (d.length ≤ 130718 → payloadChecksum d = wsum d 0 ∧ payloadChecksum d ≤ 765 * d.length) :=
  ⟨payloadChecksum_lt d, fun h => ⟨payloadChecksum_small d h, by rw [payloadChecksum_small d h]; exact wsum_le d 0⟩⟩

/-! ### only_if_checksum / no_match_metadata_only -/

/-- no candidate key unmasks the record's configuration to something with the stored checksum -/
def NoMatch (bufSize : Nat) (m : Meta) : Prop :=
  ∀ k ∈ findXorKeyCandidates (C20.xor m.maskedBeaconConfig beaconXorKey) bufSize,
    m.checksum ≠ payloadChecksum (C20.xor (C20.xor m.maskedBeaconConfig beaconXorKey) k) + 1

theorem withBeaconOne_checksum (bufSize : Nat) (m : Meta) : (withBeaconOne bufSize m).checksum = m.checksum := by
  unfold withBeaconOne; simp only []; split <;> rfl

theorem withBeaconOne_masked (bufSize : Nat) (m : Meta) :
    (withBeaconOne bufSize m).maskedBeaconConfig = m.maskedBeaconConfig := by
  unfold withBeaconOne; simp only []; split <;> rfl

theorem withBeaconOne_config {bufSize : Nat} {m : Meta} {u : Bytes} (h0 : m.unmaskedBeaconConfig = none)
    (h : (withBeaconOne bufSize m).unmaskedBeaconConfig = some u) :
    payloadChecksum u + 1 = m.checksum ∧
      ∃ k, (withBeaconOne bufSize m).payloadXorKey = some k ∧
        k ∈ findXorKeyCandidates (C20.xor m.maskedBeaconConfig beaconXorKey) bufSize ∧
        u = C20.xor (C20.xor m.maskedBeaconConfig beaconXorKey) k := by
  unfold withBeaconOne at h ⊢
  simp only [] at h ⊢
  split at h
  · rename_i k u' hs
    simp only [Option.some.injEq] at h
    subst h
    obtain ⟨a, b, c⟩ := selectKey_some hs
    exact ⟨c.symm, k, rfl, a, b⟩
  · rw [h0] at h; cases h

theorem scan_unmasked_none {f : PyFile} {xorkey : Bytes} {ms : List Meta} (h : iterGuardrailConfigs f xorkey = .ok ms)
    {m : Meta} (hm : m ∈ ms) : m.unmaskedBeaconConfig = none ∧ m.payloadXorKey = none := by
  rw [scan_reports_iff f xorkey ms h] at hm
  obtain ⟨_, _, _, _, rfl⟩ := hm
  exact ⟨rfl, rfl⟩

/-- Unconditionally: whenever `iter_guardrail_configs_with_beacon` reports an unmasked
configuration `u`, `payload_checksum(u) + 1` equals the checksum stored in the guard configuration, and `u` is the
masked area unmasked with 0x2e and the reported key, which is one of the candidates. -/
theorem only_if_checksum (f : PyFile) (bufSize : Nat) (ms : List Meta)
    (h : iterGuardrailConfigsWithBeacon f bufSize = .ok ms) (m : Meta) (hm : m ∈ ms) (u : Bytes)
    (hu : m.unmaskedBeaconConfig = some u) :
    payloadChecksum u + 1 = m.checksum ∧
      ∃ k, m.payloadXorKey = some k ∧
        k ∈ findXorKeyCandidates (C20.xor m.maskedBeaconConfig beaconXorKey) bufSize ∧
        u = C20.xor (C20.xor m.maskedBeaconConfig beaconXorKey) k := by
  rw [iterGuardrailConfigsWithBeacon_eq] at h
  cases h
  obtain ⟨m0, hm0, rfl⟩ := List.mem_map.mp hm
  rw [withBeaconOne_checksum, withBeaconOne_masked]
  exact withBeaconOne_config (scan_unmasked_none (iterGuardrailConfigs_eq f defaultGuardXorKey) hm0).1 hu

/-- the same at the level of `BeaconConfig.from_file`: the configuration block handed to `BeaconConfig(...)` by the
Guardrails fallback always carries the stored checksum. -/
theorem only_if_checksum_from_file (f : PyFile) (bufSize : Nat) (m : Meta) (h : fromFileFallback f bufSize = .ok m) :
    ∃ u, m.unmaskedBeaconConfig = some u ∧ u ≠ [] ∧ payloadChecksum u + 1 = m.checksum := by
  rw [fromFileFallback_eq] at h
  split at h
  · rename_i m' hfind
    cases h
    have hcfg := List.find?_some hfind
    unfold Meta.hasConfig at hcfg
    split at hcfg
    · rename_i b bs hu
      exact ⟨b :: bs, hu, List.cons_ne_nil b bs,
        (only_if_checksum f bufSize _ (iterGuardrailConfigsWithBeacon_eq f bufSize) m (List.mem_of_find?_eq_some hfind) _ hu).1⟩
    · cases hcfg
  · cases h

/-- A record is passed through with the guard metadata alone (no key, no configuration)
exactly when no candidate key reproduces the stored checksum. -/
theorem no_match_metadata_only (bufSize : Nat) (m : Meta) (h0 : m.unmaskedBeaconConfig = none) :
    (NoMatch bufSize m → withBeaconOne bufSize m = { m with beaconXorKey := beaconXorKey }) ∧
    ((withBeaconOne bufSize m).unmaskedBeaconConfig = none ↔ NoMatch bufSize m) := by
  have hnone := selectKey_none_iff (C20.xor m.maskedBeaconConfig beaconXorKey) m.checksum
    (findXorKeyCandidates (C20.xor m.maskedBeaconConfig beaconXorKey) bufSize)
  constructor
  · intro hn
    unfold withBeaconOne
    simp only []
    rw [hnone.mpr hn]
  · constructor
    · intro h
      apply hnone.mp
      unfold withBeaconOne at h
      simp only [] at h
      split at h
      · cases h
      · assumption
    · intro hn
      unfold withBeaconOne
      simp only []
      rw [hnone.mpr hn]
      exact h0

/-- when no reported record has a matching candidate, `BeaconConfig.from_file` ends in
`ValueError("No valid Beacon configuration found")`; the fallback raises nothing else. -/
theorem no_match_valueError (f : PyFile) (bufSize : Nat) :
    (∀ ms, iterGuardrailConfigs f = .ok ms → ∀ m ∈ ms, NoMatch bufSize m) →
      fromFileFallback f bufSize = .error .valueError := by
  intro h
  have hms := iterGuardrailConfigs_eq f defaultGuardXorKey
  rw [fromFileFallback_eq, List.find?_eq_none.mpr]
  intro m' hm'
  obtain ⟨m0, hm0, rfl⟩ := List.mem_map.mp hm'
  have := ((no_match_metadata_only bufSize m0 (scan_unmasked_none hms hm0).1).2).mpr (h _ hms m0 hm0)
  simp [Meta.hasConfig, this]

theorem fallback_errors_only_valueError (f : PyFile) (bufSize : Nat) (e : PyExc)
    (h : fromFileFallback f bufSize = .error e) : e = .valueError := by
  rw [fromFileFallback_eq] at h
  split at h
  · cases h
  · exact (Except.error.inj h).symm

/-! ### key candidates and recovery -/

/-- every candidate key has a length in 2..256 -/
theorem candidates_length (bufSize : Nat) (data : Bytes) :
    ∀ k ∈ findXorKeyCandidates data bufSize, 2 ≤ k.length ∧ k.length ≤ 256 := by
  intro k hk
  unfold findXorKeyCandidates at hk
  simp only [List.mem_flatMap, List.mem_range'_1] at hk
  obtain ⟨n, hn, hkn⟩ := hk
  have := candidatesAt_length bufSize data n k hkn
  omega

/-- If the environmental key `K` (2 ≤ |K| ≤ 256) is the strictly most common aligned |K|-gram of
the guarded configuration (as the Counter sees it: per `bufSize` chunk, last gram zero-filled) — e.g. because the zero
padding of the configuration dominates, see `majority_strict` — it is the one and only key yielded for `keylen = |K|`. -/
theorem key_is_candidate (bufSize : Nat) (guarded K : Bytes) (h2 : 2 ≤ K.length) (h256 : K.length ≤ 256)
    (hdom : StrictlyMostCommon K (gramsOf bufSize K.length guarded)) :
    candidatesAt bufSize guarded K.length = [K] ∧ K ∈ findXorKeyCandidates guarded bufSize := by
  have h1 := candidatesAt_strict bufSize guarded K K.length hdom
  refine ⟨h1, ?_⟩
  rw [candidates_split bufSize guarded K.length h2 h256, h1]
  exact List.mem_append_left _ (List.mem_append_right _ (List.mem_singleton_self K))

/-- a sufficient condition for dominance: more than half of all aligned grams equal `K` -/
theorem majority_is_candidate (bufSize : Nat) (guarded K : Bytes) (h2 : 2 ≤ K.length) (h256 : K.length ≤ 256)
    (hmaj : (gramsOf bufSize K.length guarded).length < 2 * (gramsOf bufSize K.length guarded).count K) :
    K ∈ findXorKeyCandidates guarded bufSize :=
  (key_is_candidate bufSize guarded K h2 h256 (majority_strict K _ hmaj)).2

/-- Zero padding dominates ⇒ the key is a candidate: when (discounting a partial last gram) more than half of the
aligned |K|-grams of the configuration are all-zero — the normal situation, a configuration being a few hundred bytes of
settings padded with zeros to 6144 — the environmental key is the strictly most common gram of the guarded configuration.
(`+ 2`: a partial last gram may be all-zero without becoming `K`, `zero_grams_le`; the strict majority doubles it.) -/
theorem zero_padding_dominates (bufSize : Nat) (cfg K : Bytes) (hcfg : cfg ≠ []) (hbuf : cfg.length ≤ bufSize)
    (hz : (grouper K.length cfg).length + 2 < 2 * (grouper K.length cfg).count (List.replicate K.length 0)) :
    StrictlyMostCommon K (gramsOf bufSize K.length (C20.xor cfg K)) := by
  have hne : C20.xor cfg K ≠ [] := fun e => hcfg ((xor_eq_nil_iff cfg K).mp e)
  unfold gramsOf
  rw [chunks_single _ _ hne (by rw [xor_length]; exact hbuf)]
  simp only [List.flatMap_cons, List.flatMap_nil, List.append_nil]
  apply majority_strict
  rw [grouper_xor_length]
  have := zero_grams_le K cfg
  split at this <;> omega

/-- no candidate of a shorter key length collides on the (weak) checksum -/
def NoEarlierChecksumHit (bufSize : Nat) (guarded : Bytes) (stored L : Nat) : Prop :=
  ∀ k ∈ (List.range' 2 (L - 2)).flatMap (candidatesAt bufSize guarded),
    stored ≠ payloadChecksum (C20.xor guarded k) + 1

/-- Property recover_partial at the level of one record: for a configuration `cfg` masked with the environmental key `K` and 0x2e, whose
guard configuration stores `payload_checksum(cfg) + 1`, under `key_is_candidate`'s dominance hypothesis and
`NoEarlierChecksumHit`, the record is completed with exactly `K` and `cfg`; everything else is left as the scan
reported it. -/
theorem recover_partial (bufSize : Nat) (cfg K : Bytes) (m : Meta)
    (h2 : 2 ≤ K.length) (h256 : K.length ≤ 256)
    (hmasked : m.maskedBeaconConfig = C20.xor (C20.xor cfg K) beaconXorKey)
    (hstored : m.checksum = payloadChecksum cfg + 1)
    (hdom : StrictlyMostCommon K (gramsOf bufSize K.length (C20.xor cfg K)))
    (hno : NoEarlierChecksumHit bufSize (C20.xor cfg K) m.checksum K.length) :
    withBeaconOne bufSize m =
      { m with beaconXorKey := beaconXorKey, payloadXorKey := some K, unmaskedBeaconConfig := some cfg } := by
  unfold withBeaconOne
  simp only []
  have hg : C20.xor m.maskedBeaconConfig beaconXorKey = C20.xor cfg K := by rw [hmasked, xor_involutive]
  rw [hg, candidates_split bufSize _ K.length h2 h256, candidatesAt_strict bufSize _ K K.length hdom]
  have hK : m.checksum = payloadChecksum (C20.xor (C20.xor cfg K) K) + 1 := by rw [xor_involutive]; exact hstored
  have := selectKey_first_hit (C20.xor cfg K) m.checksum
    ((List.range' 2 (K.length - 2)).flatMap (candidatesAt bufSize (C20.xor cfg K)))
    ((List.range' (K.length + 1) (256 - K.length)).flatMap (candidatesAt bufSize (C20.xor cfg K))) K hno hK
  simp only [List.append_assoc, List.singleton_append]
  rw [this, xor_involutive]

/-- no record reported in front of the protected area yields a configuration (chance marker matches that also pass the
checksum test are excluded) -/
def NoEarlierRecord (bufSize : Nat) (data : Bytes) (limit : Nat) : Prop :=
  ∀ off, off < limit → ∀ m, probeAt data (maskedStarts defaultGuardXorKey) 6 defaultGuardXorKey off = some m →
    (withBeaconOne bufSize m).hasConfig = false

/-- Property recover_partial end to end (`BeaconConfig.from_file` fallback): the payload `pre ++ protected area ++ post`
built from `cfg` (6144 bytes, not empty), key `K`, and a 2048-byte guard configuration `gc` that starts with a known
setting and stores `payload_checksum(cfg) + 1` is decoded to (cfg, K, guard settings, offsets). -/
theorem recover_from_file_partial (bufSize : Nat) (pre post cfg K gc : Bytes)
    (hcfg : cfg.length = BEACON_CONFIG_PATCH_SIZE) (hgc : gc.length = GUARD_PATCH_SIZE)
    (h2 : 2 ≤ K.length) (h256 : K.length ≤ 256)
    (hstart : gc.take 6 ∈ GUARD_CONFIG_STARTS)
    (hstored : (settingsPure gc [] 0).2 = payloadChecksum cfg + 1)
    (hdom : StrictlyMostCommon K (gramsOf bufSize K.length (C20.xor cfg K)))
    (hno : NoEarlierChecksumHit bufSize (C20.xor cfg K) (payloadChecksum cfg + 1) K.length)
    (hfirst : NoEarlierRecord bufSize
      (pre ++ C20.xor (C20.xor cfg K) beaconXorKey ++ maskGuard gc defaultGuardXorKey (C20.xor (C20.xor cfg K) beaconXorKey) ++ post)
      (pre.length + (BEACON_CONFIG_PATCH_SIZE - 6))) :
    fromFileFallback (PyFile.ofBytes
      (pre ++ C20.xor (C20.xor cfg K) beaconXorKey ++ maskGuard gc defaultGuardXorKey (C20.xor (C20.xor cfg K) beaconXorKey) ++ post)) bufSize
      = .ok { areaMeta pre (C20.xor (C20.xor cfg K) beaconXorKey) gc defaultGuardXorKey with
                beaconXorKey := beaconXorKey, payloadXorKey := some K, unmaskedBeaconConfig := some cfg } := by
  generalize hmb : C20.xor (C20.xor cfg K) beaconXorKey = mb at *
  have hmbl : mb.length = BEACON_CONFIG_PATCH_SIZE := by rw [← hmb, xor_length, xor_length, hcfg]
  -- what the scan reports at the area's marker offset, and what the key search makes of it
  obtain ⟨hlen, hprobe⟩ := area_probeAt pre mb gc defaultGuardXorKey post hmbl hgc hstart
  generalize pre ++ mb ++ maskGuard gc defaultGuardXorKey mb ++ post = data at *
  have hrec := recover_partial bufSize cfg K (areaMeta pre mb gc defaultGuardXorKey) h2 h256
    (by rw [← hmb]; rfl) hstored hdom (by unfold areaMeta; simp only []; rw [hstored]; exact hno)
  have hnone : (List.map (withBeaconOne bufSize) (List.filterMap (probeAt data (maskedStarts defaultGuardXorKey) 6 defaultGuardXorKey)
      (List.range' 0 (pre.length + (BEACON_CONFIG_PATCH_SIZE - 6))))).find? Meta.hasConfig = none := by
    rw [List.find?_eq_none]
    intro m' hm'
    simp only [List.mem_map, List.mem_filterMap, List.mem_range'_1] at hm'
    obtain ⟨m0, ⟨off, hoff, hp⟩, rfl⟩ := hm'
    rw [hfirst off (by omega) m0 hp]
    exact Bool.false_ne_true
  have hhas : Meta.hasConfig { areaMeta pre mb gc defaultGuardXorKey with
      beaconXorKey := beaconXorKey, payloadXorKey := some K, unmaskedBeaconConfig := some cfg } = true := by
    cases cfg with
    | nil => exact absurd hcfg (by decide)
    | cons b bs => rfl
  -- run the fallback
  rw [fromFileFallback_eq]
  simp only [PyFile.ofBytes]
  rw [range_split data.length _ hlen, List.filterMap_append, List.filterMap_cons, hprobe, List.map_append, List.map_cons,
    List.find?_append, hnone, hrec, List.find?_cons_of_pos hhas]
  rfl

/-! ### periodic keys -/

/-- a key that is `m` copies of a shorter root masks exactly like the root -/
theorem xor_periodic (d R : Bytes) (m : Nat) (hm : 0 < m) :
    C20.xor d ((List.replicate m R).flatten) = C20.xor d R := by
  apply List.ext_getElem
  · simp [xor_length]
  · intro i h1 h2
    rw [xor_getElem, xor_getElem, keyAt_tile R m hm]

/-- Periodic keys are recovered up to their primitive root: when the environmental key is `m` copies of `R`
(2 ≤ |R|), the record is completed with `R` (found at `keylen = |R|`, before `|K|` is tried) and the same configuration;
for `m ≥ 2` the reported key therefore differs from `K`. -/
theorem recover_periodic (bufSize : Nat) (cfg R : Bytes) (n : Nat) (m : Meta) (hn : 0 < n)
    (h2 : 2 ≤ R.length) (h256 : R.length ≤ 256)
    (hmasked : m.maskedBeaconConfig = C20.xor (C20.xor cfg ((List.replicate n R).flatten)) beaconXorKey)
    (hstored : m.checksum = payloadChecksum cfg + 1)
    (hdom : StrictlyMostCommon R (gramsOf bufSize R.length (C20.xor cfg R)))
    (hno : NoEarlierChecksumHit bufSize (C20.xor cfg R) m.checksum R.length) :
    withBeaconOne bufSize m =
      { m with beaconXorKey := beaconXorKey, payloadXorKey := some R, unmaskedBeaconConfig := some cfg } ∧
    (2 ≤ n → R ≠ (List.replicate n R).flatten) := by
  constructor
  · rw [xor_periodic cfg R n hn] at hmasked
    exact recover_partial bufSize cfg R m h2 h256 hmasked hstored hdom hno
  · intro hn2 e
    have := congrArg List.length e
    simp at this
    have : 2 * R.length ≤ n * R.length := Nat.mul_le_mul_right _ hn2
    omega

/-! ### the full-strength statement and why it is not a theorem -/

/-- Full strength (record level): every 6144-byte configuration masked with any key of 2..256 bytes whose guard
configuration stores `payload_checksum(cfg) + 1` is completed with exactly (K, cfg). -/
def recover_full : Prop :=
  ∀ (bufSize : Nat) (cfg K : Bytes) (m : Meta), cfg.length = BEACON_CONFIG_PATCH_SIZE → 2 ≤ K.length → K.length ≤ 256 →
    m.maskedBeaconConfig = C20.xor (C20.xor cfg K) beaconXorKey → m.checksum = payloadChecksum cfg + 1 →
    withBeaconOne bufSize m =
      { m with beaconXorKey := beaconXorKey, payloadXorKey := some K, unmaskedBeaconConfig := some cfg }

def cexCfg : Bytes := List.replicate BEACON_CONFIG_PATCH_SIZE 0
def cexR : Bytes := [1, 2]
def cexMeta : Meta :=
  { beaconConfigOffset := 0, guardConfigOffset := BEACON_CONFIG_PATCH_SIZE
    maskedBeaconConfig := C20.xor (C20.xor cexCfg ((List.replicate 2 cexR).flatten)) beaconXorKey
    maskedGuardConfig := [], beaconXorKey := beaconXorKey, guardrailXorKey := defaultGuardXorKey
    unmaskedGuardConfig := [], checksum := payloadChecksum cexCfg + 1, payloadXorKey := none
    unmaskedBeaconConfig := none, settings := [] }


theorem cexCfg_length : cexCfg.length = BEACON_CONFIG_PATCH_SIZE := by
  unfold cexCfg; exact List.length_replicate

theorem cex_xor : C20.xor cexCfg cexR = (List.replicate 3072 cexR).flatten := by
  apply List.ext_getElem
  · rw [xor_length, length_flatten_replicate, cexCfg_length]; rfl
  · intro i h1 h2
    rw [xor_getElem, flatten_replicate_getElem cexR 3072 i h2 (by decide)]
    simp only [cexCfg, List.getElem_replicate, UInt8.zero_xor, C20.keyAt]
    rw [← List.getElem_eq_getD]

theorem cex_grams : gramsOf DEFAULT_BUFFER_SIZE cexR.length (C20.xor cexCfg cexR) = List.replicate 3072 cexR := by
  unfold gramsOf
  have hne : (List.replicate 3072 cexR).flatten ≠ [] := by
    intro e
    have := congrArg List.length e
    rw [length_flatten_replicate] at this
    cases this
  have hle : ((List.replicate 3072 cexR).flatten).length ≤ DEFAULT_BUFFER_SIZE := by
    rw [length_flatten_replicate]; decide
  rw [cex_xor, chunks_single _ _ hne hle]
  simp only [List.flatMap_cons, List.flatMap_nil, List.append_nil]
  exact grouper_tiled cexR (by decide) 3072

theorem cex_key_len : 2 ≤ ((List.replicate 2 cexR).flatten).length ∧ ((List.replicate 2 cexR).flatten).length ≤ 256 := by
  rw [length_flatten_replicate]; decide

theorem cex_masked : cexMeta.maskedBeaconConfig
    = C20.xor (C20.xor cexCfg ((List.replicate 2 cexR).flatten)) beaconXorKey := by simp only [cexMeta]

theorem cex_stored : cexMeta.checksum = payloadChecksum cexCfg + 1 := Meta.checksum_mk ..

/-- counterexample: an all-zero configuration under the key 01 02 01 02 is reported with the key 01 02 -/
theorem recover_full_fails : ¬ recover_full := by
  intro h
  have hfull := h DEFAULT_BUFFER_SIZE cexCfg ((List.replicate 2 cexR).flatten) cexMeta cexCfg_length
    cex_key_len.1 cex_key_len.2 cex_masked cex_stored
  have hper := (recover_periodic DEFAULT_BUFFER_SIZE cexCfg cexR 2 cexMeta (by decide) (by decide) (by decide) cex_masked cex_stored
    (by rw [cex_grams]; exact all_same_strict cexR 3072 (by decide))
    (by intro k hk; simp [cexR] at hk)).1
  rw [hper] at hfull
  have := congrArg Meta.payloadXorKey hfull
  simp [cexR] at this

/-! ### non-vacuity: concrete inputs meeting the hypotheses -/

/-- marker_found: a 6144-byte area and a 2048-byte guard configuration `GUARD_COMPUTER, TYPE_SHORT, 2, 00 01, 00 00 …` -/
example : ∃ mb gc : Bytes, mb.length = BEACON_CONFIG_PATCH_SIZE ∧ gc.length = GUARD_PATCH_SIZE ∧
    gc.take 6 ∈ GUARD_CONFIG_STARTS :=
  ⟨List.replicate BEACON_CONFIG_PATCH_SIZE 7, [0, 6, 0, 1, 0, 2] ++ List.replicate 2042 0, List.length_replicate,
    by rw [List.length_append, List.length_replicate]; rfl, by rw [List.take_append_of_le_length (by decide)]; decide⟩

/-- the marker relation on a 12-byte block: reverse(a) xor b is the masked GUARD_COMPUTER start -/
example : C20.xor [0x11, 0x22, 0x33, 0x44, 0x55, 0x66].reverse [0xec, 0xd9, 0xce, 0xb8, 0xa8, 0x99]
    ∈ maskedStarts defaultGuardXorKey := by decide

/-- guard settings loop: two settings, terminator, trailing garbage ignored; the checksum is option 9's value -/
example : settingsLoop [0, 6, 0, 1, 0, 2, 0xab, 0xcd, 0, 9, 0, 2, 0, 4, 0, 0x0a, 0x5a, 0xd1, 0, 0, 0x3f, 0xeb] [] 0
    = .ok ([⟨6, 1, 2, [0xab, 0xcd]⟩, ⟨9, 2, 4, [0, 0x0a, 0x5a, 0xd1]⟩], 0xa5ad1) := by
  rw [settingsLoop_eq]
  simp [settingsPure, parseSetting, readU16, readExact, GUARD_PAYLOAD_CHECKSUM, u32be, C20.fromBytesU, C20.fromLE]

/-- unterminated guard configuration: the EOFError of the truncated last setting ends the loop -/
example : settingsLoop [0, 5, 0, 1, 0, 2, 1, 2, 0, 7, 0, 1, 0, 9, 1] [] 0 = .ok ([⟨5, 1, 2, [1, 2]⟩], 0) := by
  rw [settingsLoop_eq]
  simp [settingsPure, parseSetting, readU16, readExact, GUARD_PAYLOAD_CHECKSUM]

/-- payload_checksum: weights 1,2,3,1 -/
example : payloadChecksum [1, 1, 1, 255] = 1 + 2 + 3 + 255 := by decide

/-- key_is_candidate / recover_partial hypotheses on a small record: configuration 00 01 00 00 00 00 00 00, key 05 06 -/
theorem small_grams : gramsOf DEFAULT_BUFFER_SIZE ([5, 6] : Bytes).length (C20.xor [0, 1, 0, 0, 0, 0, 0, 0] [5, 6])
    = [[5, 7], [5, 6], [5, 6], [5, 6]] := by
  have : C20.xor [0, 1, 0, 0, 0, 0, 0, 0] [5, 6] = [5, 7, 5, 6, 5, 6, 5, 6] := by decide
  rw [this]
  unfold gramsOf
  rw [chunks_single _ _ (by simp) (by simp [DEFAULT_BUFFER_SIZE])]
  simp [grouper]

/-- recover_partial applies: the record is completed with key 05 06 and the configuration 00 01 00 … -/
example : withBeaconOne DEFAULT_BUFFER_SIZE
      { beaconConfigOffset := 0, guardConfigOffset := 8, maskedBeaconConfig := C20.xor (C20.xor [0, 1, 0, 0, 0, 0, 0, 0] [5, 6]) beaconXorKey,
        maskedGuardConfig := [], beaconXorKey := [], guardrailXorKey := [], unmaskedGuardConfig := [], checksum := 3,
        payloadXorKey := none, unmaskedBeaconConfig := none, settings := [] }
    = { beaconConfigOffset := 0, guardConfigOffset := 8, maskedBeaconConfig := C20.xor (C20.xor [0, 1, 0, 0, 0, 0, 0, 0] [5, 6]) beaconXorKey,
        maskedGuardConfig := [], beaconXorKey := beaconXorKey, guardrailXorKey := [], unmaskedGuardConfig := [], checksum := 3,
        payloadXorKey := some [5, 6], unmaskedBeaconConfig := some [0, 1, 0, 0, 0, 0, 0, 0], settings := [] } := by
  apply recover_partial DEFAULT_BUFFER_SIZE [0, 1, 0, 0, 0, 0, 0, 0] [5, 6] _ (by decide) (by decide) rfl (by decide)
  · rw [small_grams]; exact majority_strict _ _ (by decide)
  · intro k hk; simp at hk

/-- no_match_metadata_only: a record without checksum setting (stored checksum 0) never matches -/
example (bufSize : Nat) (m : Meta) (h : m.checksum = 0) : NoMatch bufSize m := by
  intro k _; rw [h]; omega

/-- zero_padding_dominates: a 14-byte "configuration" with six zero 2-grams out of seven -/
example : StrictlyMostCommon [5, 6] (gramsOf DEFAULT_BUFFER_SIZE 2 (C20.xor [0, 1, 0, 0, 0, 0, 0, 0, 0, 0, 0, 0, 0, 0] [5, 6])) :=
  zero_padding_dominates DEFAULT_BUFFER_SIZE [0, 1, 0, 0, 0, 0, 0, 0, 0, 0, 0, 0, 0, 0] [5, 6] (by simp)
    (by simp [DEFAULT_BUFFER_SIZE]) (by simp [grouper])

end C17

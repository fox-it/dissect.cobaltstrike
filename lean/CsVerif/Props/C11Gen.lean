import CsVerif.Gen.PyC2Dict
import CsVerif.Props.C11
import CsVerif.Lemmas.C11Gen
import CsVerif.Lemmas.C11GenB
/-!
C11 — the tie between the source text and the model, by (untyped) translation.

`Gen/PyC2Dict.lean` is produced on every run by `tools/py2leanu.py` (plug-in `tools/gen/py_c2dict.py`) from the *source* of
`C2Profile.as_dict`: the plug-in cuts the method into the token walk (`as_dict_walk(items)`: everything between the cache test and
the cache update, over the list of the items the Reconstructor yields) and the cache around it (`as_dict(self)`: the method with
the walk replaced by the call).  Every Python value is a `PyU.V`, every operation one total function of `Model/PyU.lean`,
`PyU_T12.lean`, `PyU_T11.lean`; a `lark.Token` is the object `V.inst Gen.PyC2Prof.Token [type, text]`, which the operations of
`PyU_T11.lean` also treat as the `str` it is; `collections.defaultdict(list)` is an object of its own (`PyU.t11DdCls`).  External:
`string_token_to_bytes` (translated in `Gen/PyC2Prof.lean`, tied in `Props/C12Gen.lean` — instantiated here with that translation),
the Reconstructor (`reconstruct_items`, the model's `printItems`) and `hash(tree)` (`tree_hash`).

`gen_as_dict_walk` states that the translated walk computes, for EVERY list of items (plain strings, STRING tokens, tokens of any
other type — with arbitrary texts), exactly the encoding of what `C11.asDict` computes, including the IndexError / AttributeError /
ValueError branches; `gen_as_dict_cached` that the translated method is the model's `asDictCached`.  The property theorems of
`Props/C11.lean` are restated for the translated definitions.  Helper lemmas: `Lemmas/C11Gen.lean`.

The BUILDER half: the methods `ConfigBlock.set_option / _pair / _enable / _header / _parameter / set_config_block /
set_non_empty_config_block`, `C2Profile.set_option`, `DataTransformBlock.__init__ / add_step / add_termination / tree` and the
bodies of `ExecuteOptionsBlock.from_execute_list` / `BeaconGateBlock.from_beacon_gate_option_strings` are translated in T11
SELF-MODE: the block object is threaded as a value (`V.inst <cls> […]`, a Lark `Tree(data, children)` is
`V.inst TreeCls [data, children]`) and every definition answers `(result, self afterwards)`.  `gen_set_option` … state, for ANY
object that holds a Lark tree in its attribute `tree` (`Holder`), which node(s) each method appends — with the label strings
as they are —; `abs_*` that these nodes are the model's nodes once the labels are interned through the grammar's name table
(`absKids`: the model identifies every unknown name, so the abstraction goes from the Python trees to the model's);
`gen_build_calls` / `gen_build_profile` that a whole call sequence of the model's call language run through the translated
methods builds the model's tree; `gen_builder_eq_parsed` restates the builder half of the property.  Not translated: the
keyword-argument dispatch of `ConfigBlock.init_kwargs` / `__init__` (`getattr` + bound methods) — in `buildCallsG` it is the
model's dispatch over the generated attribute table.  Helper lemmas: `Lemmas/C11GenB.lean`.
-/
namespace C11Gen
open PyU
open C10 (Text Tree Deriv)

/-- The token walk, with `string_token_to_bytes` external: for every item list, every type function `ty` that never answers
`"STRING"` (the type names of the other tokens), and every `stb` that behaves like `string_token_to_bytes` on these items
(`StbSpec`), the translated walk answers the `defaultdict` holding exactly the model's dictionary — or the model's exception. -/
theorem gen_as_dict_walk (ty : Text → Text) (hty : TyOK ty) (stb : V → Py V) (items : List C11.Item')
    (hstb : StbSpec stb items) :
    Gen.PyC2Dict.as_dict_walk stb (encItems ty items) = (C11.asDict ProfileApi.listProps items).map (encDD ty) :=
  gen_as_dict_walk_proof ty hty stb items hstb

/-- The same with the TRANSLATED `string_token_to_bytes` (Gen/PyC2Prof.lean) in the place of the external function, for every
fuel above the length of the longest item text -/
theorem gen_as_dict_walk_translated (ty : Text → Text) (hty : TyOK ty) (items : List C11.Item') (fuel : Nat)
    (hf : ∀ i ∈ items, i.text.length < fuel) :
    Gen.PyC2Dict.as_dict_walk (stbG fuel) (encItems ty items) = (C11.asDict ProfileApi.listProps items).map (encDD ty) :=
  gen_as_dict_walk_proof ty hty _ items (stbG_spec fuel items hf)

/-- … in particular with the fuel the driver uses -/
theorem gen_as_dict_walk_driver (ty : Text → Text) (hty : TyOK ty) (items : List C11.Item') :
    asDictWalkG ty items = (C11.asDict ProfileApi.listProps items).map (encDD ty) :=
  gen_as_dict_walk_proof ty hty _ items (stbG_spec _ items (fuelForItems_gt items))

/-- the translated `string_token_to_bytes` is an instance of the external function's specification -/
theorem gen_stb_spec (fuel : Nat) (items : List C11.Item') (hf : ∀ i ∈ items, i.text.length < fuel) : StbSpec (stbG fuel) items :=
  stbG_spec fuel items hf

/-- one iteration of `for item in items:` is one `C11.step` (the state tuple of the loop is `(line, stack, properties)`) -/
theorem gen_as_dict_walk_step (ty : Text → Text) (hty : TyOK ty) (st : C11.St) (item : C11.Item') (stb : V → Py V)
    (l0 : List C11.Item') (hstb : StbSpec stb l0) (hline : ∀ x ∈ st.line, x ∈ l0) :
    Gen.PyC2Dict.as_dict_walk_loop1 stb listPropsV (encItem ty item) (encSt ty st)
      = (C11.step ProfileApi.listProps st item).map fun st' => (Ctl.cont, encSt ty st') :=
  loop1_step ty hty st item stb l0 hstb hline

/-- the list literal `list_props` in the translated source is the generated table the model uses -/
theorem gen_list_props :
    (V.list [(PyU.lit "stage.transform-x86.header"), (PyU.lit "process-inject.transform-x86"), (PyU.lit "process-inject.execute"),
      (PyU.lit "http-post.server.output"), (PyU.lit "http-post.client.id"), (PyU.lit "http-post.client.output"),
      (PyU.lit "http-stager.server.output"), (PyU.lit "http-get.client.metadata"), (PyU.lit "http-get.server.output")])
      = .list (ProfileApi.listProps.map .str) := listProps_lit

/-! ### `asDict_eq_spec`, restated for the translated walk -/

/-- Central theorem of C11 for the source text: for every well-formed derivation from the start symbol whose tokens are harmless,
the items the Reconstructor model prints exist, and the translated walk over them answers the grouped specification
(`specDict`: entries by structural recursion over the tree; first raising statement decides the exception). -/
theorem gen_asDict_eq_spec (ty : Text → Text) (hty : TyOK ty) (d : Deriv) (hd : d.WF C10.gen = true)
    (hstart : d.form.origin = C10.gen.start) (htok : C11.tokensOK C10.gen (C10.toTree d) = true) :
    ∃ r items, C11.specDict C10.gen ProfileApi.listProps (C10.toTree d) = some r ∧
      C11.printItems C10.gen (C10.toTree d) = some items ∧
      asDictWalkG ty items = (match r with
        | .error e => .error e
        | .ok es => .ok (encDD ty (C11.group es))) := by
  obtain ⟨r, h1, h2⟩ := C11.asDict_eq_spec_gen d hd hstart htok
  simp only [C11.asDictTree] at h2
  cases hp : C11.printItems C10.gen (C10.toTree d) with
  | none => rw [hp] at h2; cases h2
  | some items =>
    rw [hp] at h2
    simp only [Option.map_some, Option.some.injEq] at h2
    refine ⟨r, items, h1, rfl, ?_⟩
    rw [gen_as_dict_walk_driver ty hty items, h2]
    cases r <;> rfl

/-! ### the cache -/

/-- The translated method `as_dict(self)` on the encoding of the model's profile object is the model's `asDictCached`: the cached
dictionary when `_dict_hash` equals the hash of the tree; else the walk over the Reconstructor's items, and — only when the walk
returns — `_dict_hash` and `_dict_cache` updated.  For ANY hash function / encoding of hashes on which `==` decides equality and
that is never `None` (`ExtSpec`; Python's `hash` answers an `int`: `hash_int_ok` has the two conditions on the encoding of hashes). -/
theorem gen_as_dict_cached {H : Type} [DecidableEq H] (ty : Text → Text) (hty : TyOK ty)
    (encT : Tree → V) (encH : H → V) (eLark : PyExc) (hash : Tree → H) (items : Tree → Option (List C11.Item'))
    (tree_hash reconstruct_items stb : V → Py V)
    (hx : ExtSpec ty encT encH eLark hash items tree_hash reconstruct_items stb) (s : C11.PState H) :
    Gen.PyC2Dict.as_dict tree_hash reconstruct_items stb (encState ty encT encH s)
      = encCached ty encT encH eLark
          (C11.asDictCached hash (fun t => (items t).map (C11.asDict ProfileApi.listProps)) s) := by
  simp only [Gen.PyC2Dict.as_dict, encState, getAttr_hash, getAttr_tree, getAttr_cache, PyU.ok_bind, hx.hash_ok, C11.asDictCached]
  by_cases hc : s.dictHash = some (hash s.tree)
  · have heq : t11Eq Gen.PyC2Prof.Token (encH (hash s.tree)) (encH (hash s.tree)) = true := (hx.hash_eq _ _).mpr rfl
    simp only [hc, ↓reduceIte, heq, pure, Except.pure, encCached, encState, encHashOpt]
  · have hne : t11Eq Gen.PyC2Prof.Token (encHashOpt encH s.dictHash) (encH (hash s.tree)) = false := by
      cases hd : s.dictHash with
      | none => exact hx.hash_none _
      | some h =>
        apply Bool.eq_false_iff.mpr
        intro he
        exact hc (by rw [hd, (hx.hash_eq _ _).mp he])
    simp only [hc, ↓reduceIte, hne, Bool.false_eq_true, hx.items_ok]
    cases hi : items s.tree with
    | none => simp only [Option.map_none, PyRt.error_bind, encCached]
    | some l =>
      simp only [Option.map_some, PyU.ok_bind, gen_as_dict_walk_proof ty hty stb l (hx.stb_ok _ l hi)]
      cases hw : C11.asDict ProfileApi.listProps l with
      | error e => simp only [Except.map, PyRt.error_bind, encCached]
      | ok d =>
        simp only [Except.map, PyU.ok_bind, setAttr_hash, setAttr_cache, dictOf_dd, getAttr_cache, pure, Except.pure, encCached, encState,
          encHashOpt]

/-- integers as hashes (what Python's `hash` answers) satisfy the two conditions on the encoding of hashes -/
theorem hash_int_ok : (∀ a b : Int, t11Eq TOK (V.int a) (V.int b) = true ↔ a = b) ∧ (∀ a : Int, t11Eq TOK V.none (V.int a) = false) := by
  refine ⟨fun a b => ?_, fun a => rfl⟩
  simp [t11Eq, t11View, PyU.eq]

/-- what an access of the model answers, as the translated method answers it -/
def encOutcome (ty : Text → Text) (eLark : PyExc) : Option (Py C11.Dict) → Py V
  | none => .error eLark
  | some (.error e) => .error e
  | some (.ok d) => .ok (encDict ty d)

theorem asDictCached_tree {H : Type} [DecidableEq H] (hash : Tree → H) (compute : Tree → Option (Py C11.Dict)) (s : C11.PState H) :
    (C11.asDictCached hash compute s).2.tree = s.tree := by
  simp only [C11.asDictCached]
  split
  · rfl
  · split <;> rfl

theorem asDictCached_unchanged {H : Type} [DecidableEq H] (hash : Tree → H) (compute : Tree → Option (Py C11.Dict)) (s : C11.PState H)
    (h : ∀ d, (C11.asDictCached hash compute s).1 ≠ some (.ok d)) : (C11.asDictCached hash compute s).2 = s := by
  simp only [C11.asDictCached] at h ⊢
  split
  · rfl
  · rename_i hne
    simp only [hne, if_false] at h
    split
    · rename_i d hcomp
      simp only [hcomp] at h
      exact absurd rfl (h d)
    · rfl

/-- the history run through the translated method is the model's history -/
theorem gen_runHist {H : Type} [DecidableEq H] (ty : Text → Text) (hty : TyOK ty)
    (encT : Tree → V) (encH : H → V) (eLark : PyExc) (hash : Tree → H) (items : Tree → Option (List C11.Item'))
    (tree_hash reconstruct_items stb : V → Py V)
    (hx : ExtSpec ty encT encH eLark hash items tree_hash reconstruct_items stb) :
    ∀ (ops : List C11.Op) (s : C11.PState H),
      runHistG encT (Gen.PyC2Dict.as_dict tree_hash reconstruct_items stb) s.tree (encState ty encT encH s) ops
        = (C11.runHist hash (fun t => (items t).map (C11.asDict ProfileApi.listProps)) s ops).map (encOutcome ty eLark) := by
  intro ops
  induction ops with
  | nil => intro s; rfl
  | cons o ops ih =>
    intro s
    cases o with
    | modify f =>
      have := ih ⟨f s.tree, s.dictHash, s.dictCache⟩
      simp only [runHistG, encState, profileV, C11.runHist]
      exact this
    | access =>
      have hc := gen_as_dict_cached ty hty encT encH eLark hash items tree_hash reconstruct_items stb hx s
      have ht := asDictCached_tree hash (fun t => (items t).map (C11.asDict ProfileApi.listProps)) s
      have hu := asDictCached_unchanged hash (fun t => (items t).map (C11.asDict ProfileApi.listProps)) s
      simp only [runHistG, C11.runHist, hc, List.map_cons]
      generalize C11.asDictCached hash (fun t => (items t).map (C11.asDict ProfileApi.listProps)) s = r at ht hu
      obtain ⟨r1, r2⟩ := r
      simp only at ht hu
      cases r1 with
      | none =>
        have hs : r2 = s := hu (fun d => by simp)
        subst hs
        simp only [encCached, encOutcome, ih]
      | some x =>
        cases x with
        | error e =>
          have hs : r2 = s := hu (fun d => by simp)
          subst hs
          simp only [encCached, encOutcome, ih]
        | ok d =>
          have := ih r2
          rw [ht] at this
          simp only [encCached, encOutcome, this]

/-- `dict_tracks_modification`, restated for the translated method: for any interleaving of modifications and accesses on a
freshly constructed profile object, every access through the TRANSLATED `as_dict` answers the dictionary (or the exception) of
the CURRENT tree — under the assumption that the hash does not collide between the trees the history goes through. -/
theorem gen_dict_tracks_modification {H : Type} [DecidableEq H] (ty : Text → Text) (hty : TyOK ty)
    (encT : Tree → V) (encH : H → V) (eLark : PyExc) (hash : Tree → H) (items : Tree → Option (List C11.Item'))
    (tree_hash reconstruct_items stb : V → Py V)
    (hx : ExtSpec ty encT encH eLark hash items tree_hash reconstruct_items stb) (t : Tree) (ops : List C11.Op)
    (hinj : ∀ a ∈ C11.treesOf t ops, ∀ b ∈ C11.treesOf t ops, hash a = hash b → a = b) :
    runHistG encT (Gen.PyC2Dict.as_dict tree_hash reconstruct_items stb) t
        (encState ty encT encH (C11.PState.fresh t : C11.PState H)) ops
      = (C11.expected (fun t => (items t).map (C11.asDict ProfileApi.listProps)) t ops).map (encOutcome ty eLark) := by
  have h := gen_runHist ty hty encT encH eLark hash items tree_hash reconstruct_items stb hx ops (C11.PState.fresh t)
  have hm := C11.dict_tracks_modification hash (fun t => (items t).map (C11.asDict ProfileApi.listProps)) t ops hinj
  rw [← hm]
  exact h

/-! ### the block builders -/

/-- the translated `value_to_string` (Gen/PyC2Prof.lean) computes the model's `valueToString` for every `str` (arbitrary code
points) and every `bytes` value -/
theorem gen_value_to_string_builder : V2sSpec v2sG := v2sG_spec

/-- `ConfigBlock.set_option(option, value)` appends `Tree(option, [Tree("string", [Token("STRING", value_to_string(value))])])` -/
theorem gen_set_option {lbl : V} {mk : List V → V} (h : Holder lbl mk) (f : V → Py V) (hf : V2sSpec f)
    (kids : List V) (name : V) (v : C11.PyVal) :
    Gen.PyC2Dict.ConfigBlock_set_option f (mk kids) name (encPyVal v)
      = .ok (.tuple [.none, mk (kids ++ [optNodeV name (C11.valueToString v)])]) :=
  gen_set_option_proof h f hf kids name v

/-- `C2Profile.set_option(option, value)` appends `Tree("option", [Token("OPTION", option), Tree("string", …)])` -/
theorem gen_profile_set_option {lbl : V} {mk : List V → V} (h : Holder lbl mk) (f : V → Py V) (hf : V2sSpec f)
    (kids : List V) (name : V) (v : C11.PyVal) :
    Gen.PyC2Dict.C2Profile_set_option f (mk kids) name (encPyVal v)
      = .ok (.tuple [.none, mk (kids ++ [globalOptNodeV name (C11.valueToString v)])]) :=
  gen_profile_set_option_proof h f hf kids name v

/-- `_enable(option, value)` appends `Tree(option, [])`, whatever the value -/
theorem gen_enable {lbl : V} {mk : List V → V} (h : Holder lbl mk) (kids : List V) (name value : V) :
    Gen.PyC2Dict.ConfigBlock__enable (mk kids) name value = .ok (.tuple [.none, mk (kids ++ [enableNodeV name])]) :=
  gen_enable_proof h kids name value

/-- `_pair(option, [(a, b), …])` appends one `Tree(option, [string a, string b])` per pair, in order -/
theorem gen_pair {lbl : V} {mk : List V → V} (h : Holder lbl mk) (f : V → Py V) (hf : V2sSpec f)
    (kids : List V) (name : V) (ps : List (C11.PyVal × C11.PyVal)) :
    Gen.PyC2Dict.ConfigBlock__pair f (mk kids) name (encPairs ps) = .ok (.tuple [.none, mk (kids ++ pairNodesV name ps)]) :=
  gen_pair_proof h f hf kids name ps

/-- `_header(_, pairs)` / `_parameter(_, pairs)`: the same with the fixed labels `header` / `parameter` -/
theorem gen_header {lbl : V} {mk : List V → V} (h : Holder lbl mk) (f : V → Py V) (hf : V2sSpec f)
    (kids : List V) (name : V) (ps : List (C11.PyVal × C11.PyVal)) :
    Gen.PyC2Dict.ConfigBlock__header f (mk kids) name (encPairs ps)
      = .ok (.tuple [.none, mk (kids ++ pairNodesV (PyU.lit "header") ps)]) :=
  gen_header_proof h f hf kids name ps

theorem gen_parameter {lbl : V} {mk : List V → V} (h : Holder lbl mk) (f : V → Py V) (hf : V2sSpec f)
    (kids : List V) (name : V) (ps : List (C11.PyVal × C11.PyVal)) :
    Gen.PyC2Dict.ConfigBlock__parameter f (mk kids) name (encPairs ps)
      = .ok (.tuple [.none, mk (kids ++ pairNodesV (PyU.lit "parameter") ps)]) :=
  gen_parameter_proof h f hf kids name ps

/-- a `str` / `bytes` VALUE where the pair methods expect pairs: nothing for the empty value, ValueError / TypeError otherwise -/
theorem gen_pair_value (f : V → Py V) (self name : V) (v : C11.PyVal) :
    Gen.PyC2Dict.ConfigBlock__pair f self name (encPyVal v) = (C11.pairsFromVal v).map fun _ => .tuple [.none, self] :=
  gen_pair_on_val f self name v

/-- `set_config_block(option, block)` appends `Tree(option, block.tree.children)` (the translation COPIES the children; the
real code shares the list object — assumed: the block is not changed after it was attached) -/
theorem gen_set_config_block {lbl : V} {mk : List V → V} (h : Holder lbl mk) (kids : List V) (name : V)
    (blk : V) (bl : V) (bkids : List V) (hb : PyU.getAttr blk "tree" = .ok (treeV bl bkids)) :
    Gen.PyC2Dict.ConfigBlock_set_config_block (mk kids) name blk = .ok (.tuple [.none, mk (kids ++ [treeV name bkids])]) :=
  gen_set_config_block_proof h kids name blk bl bkids hb

/-- `set_non_empty_config_block`: the same, unless the block has no children -/
theorem gen_set_non_empty_config_block {lbl : V} {mk : List V → V} (h : Holder lbl mk) (kids : List V) (name : V)
    (blk : V) (bl : V) (bkids : List V) (hb : PyU.getAttr blk "tree" = .ok (treeV bl bkids)) :
    Gen.PyC2Dict.ConfigBlock_set_non_empty_config_block (mk kids) name blk
      = .ok (.tuple [.none, mk (if bkids.isEmpty then kids else kids ++ [treeV name bkids])]) :=
  gen_set_non_empty_config_block_proof h kids name blk bl bkids hb

/-- `DataTransformBlock.add_step` / `add_termination` -/
theorem gen_add_step (f : V → Py V) (hf : V2sSpec f) (sk tk : List V) (name : V) (v : Option C11.PyVal) :
    Gen.PyC2Dict.DataTransformBlock_add_step f (dtV sk tk) name (encOptVal v)
      = .ok (.tuple [.none, dtV (sk ++ [stepNodeV name v]) tk]) :=
  gen_add_step_proof f hf sk tk name v

theorem gen_add_termination (f : V → Py V) (hf : V2sSpec f) (sk tk : List V) (name : V) (v : Option C11.PyVal) :
    Gen.PyC2Dict.DataTransformBlock_add_termination f (dtV sk tk) name (encOptVal v)
      = .ok (.tuple [.none, dtV sk (tk ++ [stepNodeV name v])]) :=
  gen_add_termination_proof f hf sk tk name v

/-- `DataTransformBlock(steps)`: the step / termination split of the constructor, for every list of bare names and
`(name, value)` pairs — including the two-character names, which the source unpacks into two characters (`dtAddV`) -/
theorem gen_data_transform_block_init (f : V → Py V) (hf : V2sSpec f) (steps : List C11.Step) :
    Gen.PyC2Dict.DataTransformBlock___init__ f dtBlank (.list (steps.map encStep))
      = .ok (.tuple [.none, dtV (steps.foldl dtAddV ([], [])).1 (steps.foldl dtAddV ([], [])).2]) :=
  gen_data_transform_block_init_proof f hf steps

/-- the property `DataTransformBlock.tree` -/
theorem gen_data_transform_block_tree (sk tk : List V) :
    Gen.PyC2Dict.DataTransformBlock_tree (dtV sk tk)
      = .ok (.tuple [treeV (PyU.lit "DataTransformBlock") [dtNodeV sk tk], dtV sk tk]) :=
  gen_data_transform_tree_proof sk tk

/-- … and the tree of `DataTransformBlock(steps)` is the model's `dtForest` -/
theorem gen_data_transform_forest (G : C10.Table) (steps : List C11.Step) :
    absKids G [dtNodeV (steps.foldl dtAddV ([], [])).1 (steps.foldl dtAddV ([], [])).2] = some (C11.dtForest G steps) :=
  abs_dtForest G steps

/-- the body of `ExecuteOptionsBlock.from_execute_list`: the nodes of `execNodesV`, or the ValueError of the first unknown name -/
theorem gen_from_execute_list {lbl : V} {mk : List V → V} (h : Holder lbl mk) (f : V → Py V) (hf : V2sSpec f)
    (kids : List V) (xs : List C11.ExecItem) :
    Gen.PyC2Dict.ExecuteOptionsBlock_from_execute_list f (mk kids) (.list (xs.map encExecItem))
      = (execNodesV xs).map fun ns => .tuple [.none, mk (kids ++ ns)] :=
  gen_from_execute_list_proof h f hf kids xs

theorem gen_execute_forest (G : C10.Table) (xs : List C11.ExecItem) : AbsRes G (execNodesV xs) (C11.execForest G xs) :=
  abs_execNodes G xs

/-- the body of `BeaconGateBlock.from_beacon_gate_option_strings`, for ASCII names -/
theorem gen_from_beacon_gate_option_strings {lbl : V} {mk : List V → V} (h : Holder lbl mk) (kids : List V) (xs : List Text)
    (ha : ∀ x ∈ xs, x.all (· < 128) = true) :
    Gen.PyC2Dict.BeaconGateBlock_from_beacon_gate_option_strings (mk kids) (.list (xs.map V.str))
      = .ok (.tuple [.none, mk (kids ++ gateNodesV xs)]) :=
  gen_from_beacon_gate_proof h kids xs ha

theorem gen_gate_forest (G : C10.Table) (xs : List Text) : absKids G (gateNodesV xs) = some (C11.gateForest G xs) :=
  abs_gateNodes G xs

/-- the nodes the methods append are the model's nodes (labels interned through the grammar's name table) -/
theorem gen_nodes (G : C10.Table) (name : Text) (v : C11.PyVal) (ps : List (C11.PyVal × C11.PyVal)) :
    absKids G [optNodeV (.str name) (C11.valueToString v)] = some (C11.optNode G name v) ∧
    absKids G [globalOptNodeV (.str name) (C11.valueToString v)] = some (C11.globalOptNode G name v) ∧
    absKids G [enableNodeV (.str name)] = some (C11.enableNode G name) ∧
    absKids G (pairNodesV (.str name) ps) = some (C11.pairNodes G name ps) :=
  ⟨abs_optNode G name v, abs_globalOptNode G name v, abs_enableNode G name, abs_pairNodes G name ps⟩

/-- A whole call sequence of the model's call language on one object, run through the TRANSLATED methods (`buildCallsG`; the
keyword dispatch of `init_kwargs` is the model's), appends exactly the children the model's `buildCalls` appends — or raises the
same exception.  `gateOKC`: the names handed to `from_beacon_gate_option_strings` are ASCII. -/
theorem gen_build_calls (api : List ProfileApi.Cls) (G : C10.Table) (c : ProfileApi.Cls) (lbl : V) (mk : List V → V) (h : Holder lbl mk)
    (calls : C11.Calls) (kids : List V) (f : C10.Forest) (hg : gateOKC calls = true) (hk : absKids G kids = some f) :
    CallsRel G mk f (buildCallsG api c (mk kids) calls) (C11.buildCalls api G c calls) :=
  buildCallsG_rel api G c lbl mk h calls hg kids f hk

/-- `C2Profile(**kwargs)` followed by further calls, through the translated methods: the model's tree -/
theorem gen_build_profile (G : C10.Table) (calls : C11.Calls) (hg : gateOKC calls = true) :
    (match C11.buildProfile ProfileApi.classes G calls with
      | .error e => buildProfileG ProfileApi.classes calls = .error e
      | .ok t => ∃ obj, buildProfileG ProfileApi.classes calls = .ok obj ∧ absTreeOf G obj = some t) := by
  simp only [C11.buildProfile, buildProfileG]
  cases hc : ProfileApi.classes.find? (·.pyName == C11.nmC2Profile) with
  | none => rfl
  | some c =>
    have := buildCallsG_rel ProfileApi.classes G c (.str c.treeName) (fun k => profileV (treeV (.str c.treeName) k) (.dict [] []) .none)
      (holder_profile _ _ _) calls hg [] .nil (absKids_nil G)
    simp only [profileBlockV]
    cases hm : C11.buildCalls ProfileApi.classes G c calls with
    | error e =>
      rw [hm] at this
      exact this
    | ok g =>
      rw [hm] at this
      obtain ⟨kids', h1, h2⟩ := this
      refine ⟨_, h1, ?_⟩
      rw [absTreeOf_profile, h2]
      rfl

/-- `builder_eq_parsed`, restated for the translated methods: for every call sequence, if the profile object the TRANSLATED
methods build holds a tree that passes the derivation checker, whose tokens are lexable and `tokOK`, then the profile's own text
exists and `from_text` of it is that derivation again, i.e. the builder's tree. -/
theorem gen_builder_eq_parsed (calls : C11.Calls) (hg : gateOKC calls = true) (obj : V) (t : Tree) (d : Deriv) (idc : Nat → Bool)
    (hc : C10.IdcOK idc) (hb : buildProfileG ProfileApi.classes calls = .ok obj) (ht : absTreeOf C10.gen obj = some t)
    (hd : C11.derive C10.gen t = some d) (hok : ∀ tk ∈ d.yield, C10.tokOK C10.gen tk = true)
    (hl : ∀ tk ∈ d.yield, C10.lexableTok C10.gen.words (C10.gen.tokText tk) = true) :
    ∃ text, C10.asText C10.gen idc t = some text ∧ C10.parseText C10.gen text = .ok d ∧ C10.toTree d = t := by
  have h := gen_build_profile C10.gen calls hg
  cases hm : C11.buildProfile ProfileApi.classes C10.gen calls with
  | error e =>
    rw [hm] at h
    simp only at h
    rw [h] at hb
    cases hb
  | ok t' =>
    rw [hm] at h
    obtain ⟨obj', h1, h2⟩ := h
    rw [h1] at hb
    cases hb
    rw [h2] at ht
    cases ht
    exact C11.builder_eq_parsed calls t d idc hc hm hd hok hl

/-- `builder_bytes_roundtrip`, restated: the STRING token the translated `value_to_string` writes for `bytes`, read by the
translated `string_token_to_bytes` (as the walk does inside a list property), gives the same bytes back -/
theorem gen_builder_bytes_roundtrip (b : Bytes) (fuel : Nat) (hf : (C11.valueToString (.bytes b)).length < fuel) :
    (do let s ← v2sG (.bytes b); stbG fuel (tokenV strName s)) = .ok (.bytes b) := by
  have hs := v2sG_spec (.bytes b)
  simp only [encPyVal] at hs
  have hspec := stbG_spec fuel [.token true (C11.valueToString (.bytes b))] (by
    intro i hi
    rw [List.mem_singleton.mp hi]
    exact hf)
  rw [hs]
  simp only [PyU.ok_bind]
  rw [hspec.string _ List.mem_cons_self]
  have := C11.builder_bytes_roundtrip b
  simp only [C11.listAtom] at this
  cases hc : C12.stringTokenToBytesCP (C11.valueToString (.bytes b)) with
  | error e => rw [hc] at this; cases this
  | ok x =>
    rw [hc] at this
    simp only [Except.ok.injEq, C11.Atom.bytes.injEq] at this
    rw [this]
    rfl

/-! ### Non-vacuity: the translated definitions evaluated on concrete inputs -/

def tyOpt : Text → Text := fun _ => PyU.cps "OPTION"
theorem tyOpt_ok : TyOK tyOpt := by intro s; simp only [tyOpt]; decide

-- `http-get { client { metadata { base64; prepend "\x41"; } header "a" "b"; } }  set sleeptime "5";`
def exItems : List C11.Item' :=
  [.plain (cps "http-get"), .plain (cps "{"), .plain (cps "client"), .plain (cps "{"), .plain (cps "metadata"), .plain (cps "{"),
   .plain (cps "base64"), .plain (cps ";"), .plain (cps "prepend"), .token true (cps "\"\\x41\""), .plain (cps ";"), .plain (cps "}"),
   .plain (cps "header"), .token true (cps "\"a\""), .token true (cps "\"b\""), .plain (cps ";"), .plain (cps "}"), .plain (cps "}"),
   .plain (cps "set"), .token false (cps "sleeptime"), .token true (cps "\"5\""), .plain (cps ";")]

example : asDictWalkG tyOpt exItems = .ok (.inst t11DdCls [.dict
    [lit "http-get.client.metadata", lit "http-get.client.header", lit "sleeptime"]
    [.list [lit "base64", .tuple [lit "prepend", .bytes [0x41]]], .list [.tuple [lit "a", lit "b"]], .list [lit "5"]]]) := by
  decide +kernel

-- the variant `"default"` is dropped from the path, another variant is kept (with its quotes); an unbalanced `}` is an IndexError
example : asDictWalkG tyOpt [.plain (cps "http-get"), .token true (cps "\"default\""), .plain (cps "{"), .plain (cps "set"),
      .plain (cps "uri"), .token true (cps "\"/\""), .plain (cps ";"), .plain (cps "}"),
      .plain (cps "http-get"), .token true (cps "\"v\""), .plain (cps "{"), .plain (cps "set"),
      .plain (cps "uri"), .token true (cps "\"/x\""), .plain (cps ";"), .plain (cps "}")]
    = .ok (.inst t11DdCls [.dict [lit "http-get.uri", lit "http-get.\"v\".uri"] [.list [lit "/"], .list [lit "/x"]]]) := by
  decide +kernel
example : asDictWalkG tyOpt [.plain (cps "}")] = .error .indexError := by decide +kernel
-- known finding C11-comment-dns-resolver: `# dns_resolver "x";` — the pair branch meets a plain keyword: AttributeError
example : asDictWalkG tyOpt [.plain (cps "#"), .plain (cps "dns_resolver"), .token true (cps "\"x\""), .plain (cps ";")]
    = .error .attributeError := by decide +kernel
-- a truncated escape inside a list property: the ValueError of `string_token_to_bytes`
example : asDictWalkG tyOpt [.plain (cps "process-inject"), .plain (cps "{"), .plain (cps "execute"), .plain (cps "{"),
      .plain (cps "CreateThread"), .token true (cps "\"\\x4\""), .plain (cps ";")] = .error .valueError := by decide +kernel
-- arguments of other kinds: `items` that is not iterable, an item that is neither a `str` nor a Token
example : Gen.PyC2Dict.as_dict_walk (stbG 10) (.int 5) = .error .typeError := by decide +kernel
example : Gen.PyC2Dict.as_dict_walk (stbG 10) (.list [.int 5]) = .error .typeError := by decide +kernel
example : Gen.PyC2Dict.as_dict_walk (stbG 10) (.str (cps "a;")) = .ok (.inst t11DdCls [.dict [lit ""] [.list [lit "a"]]]) := by
  decide +kernel

-- `C2Profile().set_option("sleeptime", b"5\x00")`, `StageBlock(...)._pair("strrep", [("a", "b")])`, `set_non_empty_config_block`
example : Gen.PyC2Dict.C2Profile_set_option v2sG (profileBlockV (lit "start") []) (lit "sleeptime") (.bytes [0x35, 0])
    = .ok (.tuple [.none, profileBlockV (lit "start") [globalOptNodeV (lit "sleeptime") (cps "\"5\\x00\"")]]) := by decide +kernel
example : Gen.PyC2Dict.ConfigBlock__pair v2sG (blockV (lit "stage") []) (lit "strrep") (.list [.tuple [lit "a", lit "b\"c"]])
    = .ok (.tuple [.none, blockV (lit "stage") [pairNodeV (lit "strrep") (cps "\"a\"") (cps "\"b\\\"c\"")]]) := by decide +kernel
example : Gen.PyC2Dict.ConfigBlock_set_non_empty_config_block (blockV (lit "start") []) (lit "stage") (blockV (lit "stage") [])
    = .ok (.tuple [.none, blockV (lit "start") []]) := by decide +kernel
-- `DataTransformBlock(steps=["base64", ("prepend", "x"), "print", "ab", ("header", "Cookie")])`: `ab` is unpacked into `a`, `b`
example : dtBlockG [.bare (cps "base64"), .arg (cps "prepend") (.str (cps "x")), .bare (cps "print"), .bare (cps "ab"),
      .arg (cps "header") (.str (cps "Cookie"))]
    = .ok (blockV (lit "DataTransformBlock") [dtNodeV
        [enableNodeV (lit "base64"), optNodeV (lit "prepend") (cps "\"x\""), optNodeV (lit "a") (cps "\"b\"")]
        [enableNodeV (lit "print"), optNodeV (lit "header") (cps "\"Cookie\"")]]) := by decide +kernel
-- `from_execute_list(["CreateThread", ("CreateRemoteThread", "x"), "NtQueueApcThread-s"])`; an unknown name: ValueError
example : Gen.PyC2Dict.ExecuteOptionsBlock_from_execute_list v2sG (blockV (lit "ExecuteOptionsBlock") [])
      (.list [lit "CreateThread", .tuple [lit "CreateRemoteThread", lit "x"], lit "NtQueueApcThread-s"])
    = .ok (.tuple [.none, blockV (lit "ExecuteOptionsBlock") [enableNodeV (lit "createthread"),
        optNodeV (lit "createremotethread_special") (cps "\"x\""), enableNodeV (lit "ntqueueapcthread_s")]]) := by decide +kernel
example : Gen.PyC2Dict.ExecuteOptionsBlock_from_execute_list v2sG (blockV (lit "ExecuteOptionsBlock") []) (.list [lit "Bogus"])
    = .error .valueError := by decide +kernel
-- arguments of other kinds: a block without a `tree`, pairs that are no pairs, `None` where a list is expected
example : Gen.PyC2Dict.ConfigBlock_set_config_block (blockV (lit "start") []) (lit "stage") (.int 5) = .error .attributeError := by
  decide +kernel
example : Gen.PyC2Dict.ConfigBlock__pair v2sG (blockV (lit "stage") []) (lit "strrep") (.list [.tuple [lit "a"]]) = .error .valueError := by
  decide +kernel
example : Gen.PyC2Dict.BeaconGateBlock_from_beacon_gate_option_strings (blockV (lit "BeaconGateBlock") []) .none = .error .typeError := by
  decide +kernel
-- a whole call sequence through the translated methods: `C2Profile(sleeptime="5")` + `set_config_block("stage", StageBlock(name=b"x\0"))`
example : (buildProfileG ProfileApi.classes C11.exampleCalls).map (absTreeOf C10.gen)
    = (C11.buildProfile ProfileApi.classes C10.gen C11.exampleCalls).map some := by decide +kernel

end C11Gen

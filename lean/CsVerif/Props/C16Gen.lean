import CsVerif.Gen.PyC2U
import CsVerif.Props.C16
import CsVerif.Lemmas.C16Gen
/-!
C16 — the tie between the source text and the model, by (untyped) translation.

`Gen/PyC2U.lean` is produced on every run by `tools/py2leanu.py` from the *source* of `c2.parse_raw_http`: every Python value
is a `PyU.V`, every Python operation one total function of `lean/CsVerif/Model/PyU.lean`; the `for` loop over the header lines
and the dict comprehension over the parameters are separate definitions run by `PyU.forList`; the NamedTuple classes
`HttpRequest` / `HttpResponse` are class descriptors read from the classes.  `urllib.parse.urlsplit` and
`urllib.parse.parse_qsl(…, encoding=…)` are EXTERNAL: parameters of the translated definition, instantiated here with the
sub-models of `Model/C16.lean` (`C16Gen.urlsplitX`, `C16Gen.parseQslX`, in `Model/C16Gen.lean`).

`gen_parse_raw_http` states that the translated definition computes, for every `bytes` argument, exactly the encoding
(`C16Gen.encMsg`) of what the hand-written model `C16.parseRawHttp` computes — including both `ValueError` branches
(`len(parts) != 3`), `UnicodeDecodeError` / `int()` failures of the status token and the `ValueError`s of `urlsplit`.  So every
theorem of `Props/C16.lean` is a theorem about the function text as it stands now (the corollaries below restate the central
ones for the translated definition), and an edit of `parse_raw_http` that changes its meaning breaks the proof here.
-/
namespace C16Gen
open PyU

/-- the definition translated from the source of `parse_raw_http`, with `urlsplit` / `parse_qsl` instantiated by the C16
sub-models, equals the encoding of the hand-written model, for every `bytes` argument -/
theorem gen_parse_raw_http (data : Bytes) :
    Gen.PyC2U.parse_raw_http urlsplitX parseQslX (.bytes data) = (C16.parseRawHttp data).map encMsg :=
  gen_parse_raw_http_proof data

/-! ### the property theorems, restated for the translated definition -/

/-- the only exception the source text can raise on `bytes` is `ValueError` -/
theorem gen_only_valueError (data : Bytes) (e : PyExc)
    (h : Gen.PyC2U.parse_raw_http urlsplitX parseQslX (.bytes data) = .error e) : e = .valueError := by
  rw [gen_parse_raw_http] at h
  cases hm : C16.parseRawHttp data with
  | ok m => rw [hm] at h; cases h
  | error e' =>
    rw [hm] at h
    have : e' = e := by injection h
    subst this
    exact C16.only_valueError data e' hm

/-- a first line that does not consist of exactly three whitespace-separated tokens is rejected -/
theorem gen_malformed_rejected (data : Bytes) (h : (C16.splitWs (C16.firstLine data)).length ≠ 3) :
    Gen.PyC2U.parse_raw_http urlsplitX parseQslX (.bytes data) = .error .valueError := by
  rw [gen_parse_raw_http, C16.malformed_rejected data h]; rfl

/-- a rendered well-formed request is parsed back to its parts -/
theorem gen_request_roundtrip (version method path : Bytes) (params headers : List (Bytes × Bytes)) (body : Bytes)
    (h : C16.WellFormedReq version method path params headers) :
    Gen.PyC2U.parse_raw_http urlsplitX parseQslX (.bytes (C16.renderRequest version method path params headers body))
      = .ok (encMsg (.request method path params headers body)) := by
  rw [gen_parse_raw_http, C16.request_roundtrip version method path params headers body h]; rfl

/-- a rendered well-formed response is parsed back to its parts -/
theorem gen_response_roundtrip (version digits reason : Bytes) (headers : List (Bytes × Bytes)) (body : Bytes)
    (h : C16.WellFormedResp version digits reason headers) :
    Gen.PyC2U.parse_raw_http urlsplitX parseQslX (.bytes (C16.renderResponse version digits reason headers body))
      = .ok (encMsg (.response (C16.decimalValue digits) reason headers body)) := by
  rw [gen_parse_raw_http, C16.response_roundtrip version digits reason headers body h]; rfl

/-! ### Non-vacuity: the translated definition evaluated on concrete inputs -/

-- b"GET /a?x=%41 HTTP/1.1\r\nK: v\r\n\r\nB"
example : Gen.PyC2U.parse_raw_http urlsplitX parseQslX
    (.bytes [71, 69, 84, 32, 47, 97, 63, 120, 61, 37, 52, 49, 32, 72, 84, 84, 80, 47, 49, 46, 49, 13, 10, 75, 58, 32, 118, 13, 10, 13, 10, 66])
    = .ok (.inst Gen.PyC2U.HttpRequest [.bytes [71, 69, 84], .bytes [47, 97], .dict [.bytes [120]] [.bytes [65]],
        .dict [.bytes [75]] [.bytes [118]], .bytes [66]]) := by decide +kernel
-- b"HTTP/1.1 200 OK\r\n\r\n"
example : Gen.PyC2U.parse_raw_http urlsplitX parseQslX
    (.bytes [72, 84, 84, 80, 47, 49, 46, 49, 32, 50, 48, 48, 32, 79, 75, 13, 10, 13, 10])
    = .ok (.inst Gen.PyC2U.HttpResponse [.int 200, .dict [] [], .bytes [79, 75], .bytes [], .none]) := by decide +kernel
-- b"GET /"
example : Gen.PyC2U.parse_raw_http urlsplitX parseQslX (.bytes [71, 69, 84, 32, 47]) = .error .valueError := by decide +kernel
-- b"HTTP/1.1 2x0 OK"
example : Gen.PyC2U.parse_raw_http urlsplitX parseQslX (.bytes [72, 84, 84, 80, 47, 49, 46, 49, 32, 50, 120, 48, 32, 79, 75])
    = .error .valueError := by decide +kernel
-- `None.partition` / `int.partition`: AttributeError
example : Gen.PyC2U.parse_raw_http urlsplitX parseQslX .none = .error .attributeError := by decide +kernel
-- a `str` argument: `"…".partition(b"\r\n\r\n")` is a TypeError
example : Gen.PyC2U.parse_raw_http urlsplitX parseQslX (lit "GET / HTTP/1.1") = .error .typeError := by decide +kernel

end C16Gen

import CsVerif.Gen.PyC2H
import CsVerif.Props.C07
import CsVerif.Lemmas.C07Gen
/-!
C07 — the tie between the source text and the model, by (untyped) translation: class `C2Http`.

`Gen/PyC2H.lean` is produced on every run by `tools/py2leanu.py` (plug-in `tools/gen/py_c2h.py`) from the *source* of
`C2Http.__init__` and `C2Http.get_transform_for_http`: every Python value is a `PyU.V`, every Python operation one total function
of the run-time library (`Model/PyU.lean`, `PyU_T02.lean`, `PyU_T07.lean`); `self` is an instance record (`Gen.PyC2H.C2Http`, the
attributes in the order `__init__` assigns them).  Calls of `parse_raw_http` and `HttpDataTransform(…)` are calls of the
definitions translated from the same file by the plug-ins of C16 / C04 (`Gen/PyC2U.lean`, `Gen/PyC2T.lean`).

`gen_get_transform_for_http` states that the translated method computes, for every configuration, every instance whose routing
attributes (`get_verb`, `get_uris`, `submit_verb`, `submit_uri`) are those of the configuration — whatever the three transform
objects and the other attributes are — and every input (raw bytes, a request object, a response object), exactly the model's
decision: parse raw bytes, a response gets `transform_response`, a request `transform_get` iff verb and ANY get-URI prefix match,
else `transform_submit` iff verb and submit-URI prefix match, else ValueError; objects of any other kind: ValueError.  So
`routing_decision` and its companions are theorems about the function text as it stands, and an edit that changes the
decision (order of the tests, `==` / `startswith`, which transform is returned) breaks the proof here.
`gen_c2http_init` does the same for the constructor (`mkDecoder`: every exception in the order of the code, and every attribute
of the instance it builds, which is an instance the routing theorem speaks about).
`C2Http.iter_recover_http` is translated too (a generator that changes `self`: the definition answers `(packets yielded, self
afterwards)`; `transform.recover`, `decrypt_metadata`, `parse_raw_http`, `self.get_transform_for_http` are the translated
definitions, `derive_aes_hmac_keys` / `decrypt_packet` the typed translations lifted, `iter_encrypted_packets` and the two cstruct
packet parses external) and runs against the real method on every session of the correspondence (`g-sess`); its equivalence
with `C07.iterRecoverHttp` is `gen_iter_recover_http` below.
Helper lemmas: `Lemmas/C07Gen.lean`.
-/
namespace C07Gen
open PyU (V)
open C07
open C04 (Req Http)

/-- **`get_transform_for_http`**: the definition translated from the source (with `urlsplit` / `parse_qsl` of the translated
`parse_raw_http` instantiated by the C16 sub-models) returns the transform object the model's routing decision selects, or raises
what the model raises — for raw bytes and for message objects (`status`, `reason`, `request` of a response arbitrary) -/
theorem gen_get_transform_for_http (cfg : HttpCfg) (tg ts tr : V) (o : Rest) (status reason request : V) (inp : Input) :
    Gen.PyC2H.get_transform_for_http C16Gen.urlsplitX C16Gen.parseQslX (encSelf cfg tg ts tr o) (encInput status reason request inp)
      = (routeInput cfg inp).map (pick tg ts tr) := by
  cases inp with
  | raw d => exact gen_raw cfg tg ts tr o d
  | msg h => exact gen_msg _ _ cfg tg ts tr o status reason request h

/-- on message objects the external functions are never called -/
theorem gen_get_transform_for_http_msg (us : V → Py V) (pq : V → V → Py V) (cfg : HttpCfg) (tg ts tr : V) (o : Rest)
    (status reason request : V) (h : Http) :
    Gen.PyC2H.get_transform_for_http us pq (encSelf cfg tg ts tr o) (C04Gen.encHttp status reason request h)
      = (routeInput cfg (.msg h)).map (pick tg ts tr) :=
  gen_msg us pq cfg tg ts tr o status reason request h

/-- an argument that is neither `bytes` nor an `HttpRequest` / `HttpResponse` object: ValueError (any `self`) -/
theorem gen_get_transform_for_http_other (us : V → Py V) (pq : V → V → Py V) (self http : V)
    (h : PyU.isInstance http [PyU.Ty.bytes, PyU.Ty.cls Gen.PyC2U.HttpRequest, PyU.Ty.cls Gen.PyC2U.HttpResponse] = false) :
    Gen.PyC2H.get_transform_for_http us pq self http = .error .valueError := by
  simp only [PyU.isInstance, List.any_cons, List.any_nil, Bool.or_false, Bool.or_eq_false_iff] at h
  obtain ⟨h1, h2, h3⟩ := h
  have hb : PyU.isInstance http [PyU.Ty.bytes] = false := by simp [PyU.isInstance, h1]
  have hr : PyU.isInstance http [PyU.Ty.cls Gen.PyC2U.HttpRequest] = false := by simp [PyU.isInstance, h2]
  have hs : PyU.isInstance http [PyU.Ty.cls Gen.PyC2U.HttpResponse] = false := by simp [PyU.isInstance, h3]
  unfold Gen.PyC2H.get_transform_for_http
  simp only [hb, hr, hs, Bool.false_eq_true, ↓reduceIte, reprText_bind]
  rfl

/-- the hand-written `getTransformForHttp` is the same decision followed by the choice of the model's transform -/
theorem gen_model_routing (cfg : HttpCfg) (inp : Input) :
    getTransformForHttp cfg inp = ofPy ((routeInput cfg inp).map (transformOf cfg)) := by
  cases inp with
  | raw d =>
    simp only [getTransformForHttp, parseInput, routeInput]
    cases C16.parseRawHttp d with
    | error e => rfl
    | ok m =>
      simp only [ofPy, Except.map]
      cases routeHttp cfg (msgToHttp m) <;> rfl
  | msg h =>
    simp only [getTransformForHttp, parseInput, routeInput]
    cases routeHttp cfg h <;> rfl

/-! ### the property theorems, restated for the translated definition -/

/-- **`routing_decision` for the source text.** -/
theorem gen_routing_decision (us : V → Py V) (pq : V → V → Py V) (cfg : HttpCfg) (tg ts tr : V) (o : Rest) (status reason request : V) :
    (∀ hs b, Gen.PyC2H.get_transform_for_http us pq (encSelf cfg tg ts tr o) (C04Gen.encHttp status reason request (.response hs b))
      = .ok tr) ∧
    (∀ r : Req, (r.method = cfg.getVerb ∧ ∃ u ∈ cfg.getUris, u <+: r.uri) →
      Gen.PyC2H.get_transform_for_http us pq (encSelf cfg tg ts tr o) (C04Gen.encReq r) = .ok tg) ∧
    (∀ r : Req, ¬ (r.method = cfg.getVerb ∧ ∃ u ∈ cfg.getUris, u <+: r.uri) →
      (r.method = cfg.submitVerb ∧ cfg.submitUri <+: r.uri) →
      Gen.PyC2H.get_transform_for_http us pq (encSelf cfg tg ts tr o) (C04Gen.encReq r) = .ok ts) ∧
    (∀ r : Req, ¬ (r.method = cfg.getVerb ∧ ∃ u ∈ cfg.getUris, u <+: r.uri) →
      ¬ (r.method = cfg.submitVerb ∧ cfg.submitUri <+: r.uri) →
      Gen.PyC2H.get_transform_for_http us pq (encSelf cfg tg ts tr o) (C04Gen.encReq r) = .error .valueError) := by
  have key : ∀ r : Req, Gen.PyC2H.get_transform_for_http us pq (encSelf cfg tg ts tr o) (C04Gen.encReq r) =
      (routeInput cfg (.msg (.request r))).map (pick tg ts tr) :=
    fun r => gen_msg us pq cfg tg ts tr o status reason request (.request r)
  refine ⟨fun hs b => ?_, fun r hg => ?_, fun r hg hs => ?_, fun r hg hs => ?_⟩
  · rw [gen_msg]; rfl
  · rw [key, routeInput, routeHttp, routeRequest_get hg]; rfl
  · rw [key, routeInput, routeHttp, routeRequest_submit hg hs]; rfl
  · rw [key, routeInput, routeHttp, routeRequest_none hg hs]; rfl

/-- "routed solely by verb and URI prefix", for the source text: two request objects with the same method and URI get the same
answer, whatever their parameters, headers and bodies are -/
theorem gen_routing_ignores_rest (us : V → Py V) (pq : V → V → Py V) (cfg : HttpCfg) (tg ts tr : V) (o : Rest) (r r' : Req)
    (hm : r.method = r'.method) (hu : r.uri = r'.uri) :
    Gen.PyC2H.get_transform_for_http us pq (encSelf cfg tg ts tr o) (C04Gen.encReq r) =
      Gen.PyC2H.get_transform_for_http us pq (encSelf cfg tg ts tr o) (C04Gen.encReq r') := by
  rw [show C04Gen.encReq r = C04Gen.encHttp .none .none .none (.request r) from rfl,
    show C04Gen.encReq r' = C04Gen.encHttp .none .none .none (.request r') from rfl, gen_msg, gen_msg]
  simp only [routeInput, routeHttp, hm, hu]

/-- raw bytes that parse to a request matching neither route are rejected with ValueError by the source text -/
theorem gen_unrelated_rejected (cfg : HttpCfg) (tg ts tr : V) (o : Rest) (r : Req) (data : Bytes)
    (hp : C16.parseRawHttp data = .ok (.request r.method r.uri r.params r.headers r.body))
    (hg : ¬ (r.method = cfg.getVerb ∧ ∃ u ∈ cfg.getUris, u <+: r.uri))
    (hs : ¬ (r.method = cfg.submitVerb ∧ cfg.submitUri <+: r.uri)) :
    Gen.PyC2H.get_transform_for_http C16Gen.urlsplitX C16Gen.parseQslX (encSelf cfg tg ts tr o) (.bytes data) = .error .valueError := by
  rw [gen_raw]
  simp only [routeInput, hp, msgToHttp, routeHttp, routeRequest_none hg hs]
  rfl

/-! ### the constructor -/

/-- **`C2Http.__init__`**: the constructor call translated from the source — `derive_aes_hmac_keys` instantiated by the typed
translation of that function, `RSA.import_key` by a function that answers the public key object (modulus `npub`) or raises
ValueError (`pubOk = false`) — equals the encoding of `mkDecoder`: the same exception in the same order (contradictory / missing
key material, key lengths, public key, `assert self.priv.n == self.pub.n`, trial beacons), and otherwise the instance whose
routing attributes are the UTF-8 encodings of the configured verbs / URIs, whose three transform objects are
`HttpDataTransform(steps)`, `HttpDataTransform(steps)` and `HttpDataTransform(steps, reverse=True, build="output")` of the three
configured step lists, with an empty metadata cache and `BeaconKeys(aes_key, hmac_key)` of the (given or derived) keys.
Domain: `bconfig` is a record of the reads the code performs — the six settings are there (`str` / `list` values), the strings
have an UTF-8 encoding (no lone surrogates); keys are `None` or `bytes`; a private key object has an attribute `n`. -/
theorem gen_c2http_init (c : C07.Crypto) (cfg : HttpCfg) (ak hk ar : Option Bytes) (privN : Option Int) (verify : Bool)
    (npub : Int) (pubOk trial : Bool) (settings pubkeyV : V) (su vp vg : PyRt.Str) (uris : List PyRt.Str) (postVs reqVs recVs : List V)
    (hsu : PyU.getItem settings (PyU.lit "SETTING_SUBMITURI") = .ok (.str su))
    (hvp : PyU.getItem settings (PyU.lit "SETTING_C2_VERB_POST") = .ok (.str vp))
    (hvg : PyU.getItem settings (PyU.lit "SETTING_C2_VERB_GET") = .ok (.str vg))
    (hpo : PyU.getItem settings (PyU.lit "SETTING_C2_POSTREQ") = .ok (.list postVs))
    (hrq : PyU.getItem settings (PyU.lit "SETTING_C2_REQUEST") = .ok (.list reqVs))
    (hrc : PyU.getItem settings (PyU.lit "SETTING_C2_RECOVER") = .ok (.list recVs))
    (esu : PyU.utf8Enc su = .ok cfg.submitUri) (evp : PyU.utf8Enc vp = .ok cfg.submitVerb) (evg : PyU.utf8Enc vg = .ok cfg.getVerb)
    (eur : encodeAll uris = .ok cfg.getUris) :
    Gen.PyC2H.c2http_init (deriveX c.asym.sha256) (importKeyX (if pubOk then some (encKey npub) else none))
        (encBConfig settings (.list (uris.map .str)) pubkeyV (.bool trial)) (C04Gen.encOB ak) (C04Gen.encOB hk) (C04Gen.encOB ar)
        (encPriv privN) (.bool verify)
      = encInitResult cfg (encBConfig settings (.list (uris.map .str)) pubkeyV (.bool trial)) verify npub privN postVs reqVs recVs
          (mkDecoder c cfg ⟨ak, hk, ar, privN.map (· == npub), verify⟩ pubOk trial) := by
  unfold Gen.PyC2H.c2http_init mkDecoder
  -- One pass evaluates every read and every sub-call where it stands.  `derivefrag` goes first (`↓`), while both branches
  -- of `if aes_rand:` still end in the same continuation: so the rest of the function is there, and is rewritten, once.
  simp only [↓derivefrag, truthy_encOB, any3, truthy_bool, Option.isSome_map, PyU.lift_ok, PyU.okA_bind, PyU.throwA, PyU.errA_bind,
    reprText_bindA, keyfrag, getAttr_bc_pk, truthy_encPriv, getAttr_bc_trial, getAttr_bc_settings, getAttr_bc_uris,
    hsu, hvp, hvg, hpo, hrq, hrc, encodeUtf8_str _ _ esu, encodeUtf8_str _ _ evp, encodeUtf8_str _ _ evg, PyU.iterList,
    comp_uris _ _ uris cfg.getUris [] eur, List.nil_append, PyU.tupleOf, Except.map,
    C04Gen.gen_http_data_transform_init_proof, mkDict_nil, PyU.pureA_ok]
  -- both sides test the same four conditions on the key material first; what is left depends on `pubOk`, `privN`, `trial`
  generalize (if C07.truthy ar = true then _ else (ak, hk) : Option Bytes × Option Bytes) = k0
  simp only [apply_ite (encInitResult cfg _ verify npub privN postVs reqVs recVs)]
  simp only [encInitResult, encExcA]
  cases pubOk with
  | false => simp only [importKeyX, PyU.lift_err, PyU.errA_bind, Bool.not_false, ↓reduceIte, Bool.false_eq_true]
  | true =>
    simp only [↓reduceIte, importKeyX, PyU.lift_ok, PyU.okA_bind, Bool.not_true, Bool.false_eq_true]
    cases privN with
    | none => rfl
    | some n =>
      have hp : encPriv (some n) = encKey n := rfl
      simp only [Option.isSome_some, ↓reduceIte, hp, getAttr_key_n, PyU.lift_ok, PyU.okA_bind, eq_int, Option.map_some]
      by_cases hn : (n == npub) = true
      · simp only [hn]; rfl
      · simp only [Bool.eq_false_iff.mpr hn, fmtAltHex_bindA]; rfl

/-- what the constructor builds is an instance the routing theorem speaks about: its transforms are the constructor calls of
`HttpDataTransform` on the configured step lists (`C04Gen.gen_http_data_transform_init`), and on step lists of the C04 domain
these denote the model's `transformGet` / `transformSubmit` / `transformResponse` -/
theorem gen_c2http_init_transforms (cfg : HttpCfg) (bconfig : V) (k1 k2 : Option Bytes) (verify : Bool) (npub : Int)
    (privN : Option Int) (postVs reqVs recVs : List V)
    (hg : C04Gen.stepsOf reqVs = some cfg.getProg) (hp : C04Gen.stepsOf postVs = some cfg.postProg)
    (hr : C04Gen.stepsOf recVs = some cfg.recoverProg) :
    ∃ (tg ts tr : V) (o : Rest), encC2Http cfg bconfig k1 k2 verify npub privN postVs reqVs recVs = encSelf cfg tg ts tr o ∧
      (∃ a b, tg = C04Gen.encT a b ∧ C04Gen.stepsOf a = some (transformGet cfg).tsteps ∧ C04Gen.stepsOf b = some (transformGet cfg).rsteps) ∧
      (∃ a b, ts = C04Gen.encT a b ∧ C04Gen.stepsOf a = some (transformSubmit cfg).tsteps ∧
        C04Gen.stepsOf b = some (transformSubmit cfg).rsteps) ∧
      (∃ a b, tr = C04Gen.encT a b ∧ C04Gen.stepsOf a = some (transformResponse cfg).tsteps ∧
        C04Gen.stepsOf b = some (transformResponse cfg).rsteps) := by
  refine ⟨_, _, _, _, rfl, ⟨_, _, rfl, ?_⟩, ⟨_, _, rfl, ?_⟩, ⟨_, _, rfl, ?_⟩⟩
  · exact C04Gen.stepsOf_mkLists reqVs cfg.getProg hg false .none
  · exact C04Gen.stepsOf_mkLists postVs cfg.postProg hp false .none
  · exact C04Gen.stepsOf_mkLists recVs cfg.recoverProg hr true (PyU.lit "output")

/-- **`constructor_rejects` for the source text**: contradictory key material, missing key material and trial beacons -/
theorem gen_constructor_rejects (c : C07.Crypto) (cfg : HttpCfg) (ak hk ar : Option Bytes) (privN : Option Int) (verify : Bool)
    (npub : Int) (pubOk trial : Bool) (settings pubkeyV : V) (su vp vg : PyRt.Str) (uris : List PyRt.Str) (postVs reqVs recVs : List V)
    (hsu : PyU.getItem settings (PyU.lit "SETTING_SUBMITURI") = .ok (.str su))
    (hvp : PyU.getItem settings (PyU.lit "SETTING_C2_VERB_POST") = .ok (.str vp))
    (hvg : PyU.getItem settings (PyU.lit "SETTING_C2_VERB_GET") = .ok (.str vg))
    (hpo : PyU.getItem settings (PyU.lit "SETTING_C2_POSTREQ") = .ok (.list postVs))
    (hrq : PyU.getItem settings (PyU.lit "SETTING_C2_REQUEST") = .ok (.list reqVs))
    (hrc : PyU.getItem settings (PyU.lit "SETTING_C2_RECOVER") = .ok (.list recVs))
    (esu : PyU.utf8Enc su = .ok cfg.submitUri) (evp : PyU.utf8Enc vp = .ok cfg.submitVerb) (evg : PyU.utf8Enc vg = .ok cfg.getVerb)
    (eur : encodeAll uris = .ok cfg.getUris) :
    let call := Gen.PyC2H.c2http_init (deriveX c.asym.sha256) (importKeyX (if pubOk then some (encKey npub) else none))
        (encBConfig settings (.list (uris.map .str)) pubkeyV (.bool trial)) (C04Gen.encOB ak) (C04Gen.encOB hk) (C04Gen.encOB ar)
        (encPriv privN) (.bool verify)
    (C07.truthy ar = true → C07.truthy ak = true → call = .error (.py .valueError)) ∧
    (C07.truthy ar = false → C07.truthy ak = false → privN = none → call = .error (.py .valueError)) ∧
    (trial = true → ∀ v, call ≠ .ok v) := by
  intro call
  have hcall : call = _ := gen_c2http_init c cfg ak hk ar privN verify npub pubOk trial settings pubkeyV su vp vg uris postVs reqVs
    recVs hsu hvp hvg hpo hrq hrc esu evp evg eur
  obtain ⟨r1, r2, r3⟩ := constructor_rejects c cfg ⟨ak, hk, ar, privN.map (· == npub), verify⟩ pubOk trial
  refine ⟨?_, ?_, ?_⟩
  · intro h1 h2
    rw [hcall, r1 h1 h2]; rfl
  · intro h1 h2 h3
    rw [hcall, r2 h1 h2 (by simp [h3])]; rfl
  · intro ht v hv
    rw [hcall] at hv
    cases hm : mkDecoder c cfg ⟨ak, hk, ar, privN.map (· == npub), verify⟩ pubOk trial with
    | error e => rw [hm] at hv; cases hv
    | ok d => exact r3 ht d hm


/-! ### `iter_recover_http` -/

/-- **`iter_recover_http`**: the generator translated from the source — all external functions instantiated as for the hand model
(`Model/C07Gen.lean`: `urlsplit` / `parse_qsl` and the base64 codecs by the C16 / C04 sub-models, `cipher.decrypt` by the model's RSA
primitive, `derive_aes_hmac_keys` / `decrypt_packet` by the typed translations of these functions, `iter_encrypted_packets` by the C05
framing models, `CallbackPacket(·)` / `TaskPacket(·)` by the two layouts of the C07 model) — run on the instance of a decoder object
`d` (`encDec`: routing attributes of `d.cfg`, three transform objects that denote the model's transforms, `verify_hmac`, the private
key object — `None` iff the decoder has none —, the metadata cache and `BeaconKeys` of `d`), on raw bytes or a message object, with
`keys=None` or a `BeaconKeys` argument, answers EXACTLY what the model says: when the model's generator ends normally, the list of
the packets it yields (metadata first, then one task / callback per encrypted packet, in order) together with the instance of the
decoder object afterwards (cache entry added, session keys derived when AES / HMAC key were missing); when it ends with an exception
— ValueError of an unrelated message, of `parse_raw_http`, of a failed RSA / HMAC / AES step, EOFError of a short packet,
KeyError / AssertionError of `recover` … — that exception.  (What was yielded BEFORE an exception and the state of the instance at
that point are not part of the translated answer: for these the tie is the correspondence only.)  In particular the keys used for
the packets of a message are the ones read before its metadata is processed (`keys = keys or self.beacon_keys` comes first). -/
theorem gen_iter_recover_http (c : Crypto) (d : Decoder) (tg ts tr : V) (o : Rest) (privV : V)
    (hpv : PyU.truthy privV = d.hasPriv) (ht : TransformsOk d.cfg tg ts tr) (ext : Option Keys) (status reason request : V)
    (inp : Input) :
    Gen.PyC2H.iter_recover_http C16Gen.urlsplitX C16Gen.parseQslX C04Gen.b64decodeX C04Gen.urlsafeB64decodeX (C06Gen.decX c.asym)
        (deriveX c.asym.sha256) iterPacketsX (decryptPacketStarX c.sym) callbackPacketX taskPacketX
        (encDec tg ts tr o privV d) (encInput status reason request inp) (encExt ext)
      = encOut tg ts tr o privV (iterRecoverHttp c d inp ext) := by
  cases inp with
  | msg h => exact gen_iter_recover_http_msg c d tg ts tr o privV hpv ht ext status reason request h
  | raw data =>
    rw [encInput, iter_recover_http_bytes, iterRecoverHttp, parseInput]
    cases C16.parseRawHttp data with
    | error e => rfl
    | ok m =>
      obtain ⟨st, re, rq, he⟩ := encMsg_http m
      dsimp only
      rw [he]
      exact gen_iter_recover_http_msg c d tg ts tr o privV hpv ht ext st re rq (msgToHttp m)

/-- the instance `C2Http.__init__` builds is such an instance (for step lists of the C04 domain) -/
theorem gen_init_instance_ok (cfg : HttpCfg) (bconfig : V) (k1 k2 : Option Bytes) (verify : Bool) (npub : Int)
    (privN : Option Int) (postVs reqVs recVs : List V)
    (hg : C04Gen.stepsOf reqVs = some cfg.getProg) (hp : C04Gen.stepsOf postVs = some cfg.postProg)
    (hr : C04Gen.stepsOf recVs = some cfg.recoverProg) :
    ∃ (tg ts tr : V) (o : Rest), TransformsOk cfg tg ts tr ∧
      encC2Http cfg bconfig k1 k2 verify npub privN postVs reqVs recVs =
        encDec tg ts tr o (encPriv privN) ⟨cfg, ⟨k1, k2, Gen.C2Struct.defaultAesIv⟩, privN.isSome, verify, []⟩ ∧
      PyU.truthy (encPriv privN) = privN.isSome := by
  refine ⟨_, _, _, { bconfig := bconfig, aes_key := C04Gen.encOB k1, hmac_key := C04Gen.encOB k2, pub := encKey npub },
    ⟨⟨_, _, rfl, ?_⟩, ⟨_, _, rfl, ?_⟩, ⟨_, _, rfl, ?_⟩⟩, rfl, ?_⟩
  · exact (C04Gen.stepsOf_mkLists reqVs cfg.getProg hg false .none).2
  · exact (C04Gen.stepsOf_mkLists postVs cfg.postProg hp false .none).2
  · exact (C04Gen.stepsOf_mkLists recVs cfg.recoverProg hr true (PyU.lit "output")).2
  · cases privN <;> rfl

/-- when the model's generator ends normally, the translated one answers its packets and the instance afterwards … -/
theorem gen_iter_recover_http_ok (c : Crypto) (d : Decoder) (tg ts tr : V) (o : Rest) (privV : V)
    (hpv : PyU.truthy privV = d.hasPriv) (ht : TransformsOk d.cfg tg ts tr) (ext : Option Keys) (status reason request : V)
    (inp : Input) (hexc : (iterRecoverHttp c d inp ext).exc = none) :
    iterRecoverG c (encDec tg ts tr o privV d) (encInput status reason request inp) (encExt ext)
      = .ok (.tuple [.list ((iterRecoverHttp c d inp ext).items.map encItem), encDec tg ts tr o privV (iterRecoverHttp c d inp ext).dec]) := by
  have := gen_iter_recover_http c d tg ts tr o privV hpv ht ext status reason request inp
  simp only [encOut, hexc] at this
  exact this

/-- … and when it ends with an exception, that exception -/
theorem gen_iter_recover_http_exc (c : Crypto) (d : Decoder) (tg ts tr : V) (o : Rest) (privV : V)
    (hpv : PyU.truthy privV = d.hasPriv) (ht : TransformsOk d.cfg tg ts tr) (ext : Option Keys) (status reason request : V)
    (inp : Input) (e : Exc) (hexc : (iterRecoverHttp c d inp ext).exc = some e) :
    iterRecoverG c (encDec tg ts tr o privV d) (encInput status reason request inp) (encExt ext) = .error (encExcA e) := by
  have := gen_iter_recover_http c d tg ts tr o privV hpv ht ext status reason request inp
  simp only [encOut, hexc] at this
  exact this

/-- **`checkin_decodes` for the source text**: the client's check-in request — the object, or its wire bytes under C16's
hypotheses — decoded by the translated generator on the instance of a decoder object of the session invariant yields exactly the
metadata that was sent when the decoder has the RSA private key (nothing otherwise), and the instance afterwards is the instance of
a decoder object that keeps the invariant (session keys known if they were known or the private key is there) -/
theorem gen_checkin_decodes (c : Crypto) (L : CryptoLaws c) {cfg : HttpCfg} {pg pp : C04.Ref.Program} {es : List C04.Enc}
    (wf : WellFormedCfg cfg pg pp es) (cl : Client) (hcl : cl.cfg = cfg) (wc : WellFormedClient c cl)
    (dec : Decoder) (known : Bool) (inv : Inv c cl dec known) (rr : C06.Rand) (rand : C04.Rand)
    (tg ts tr : V) (o : Rest) (privV : V) (hpv : PyU.truthy privV = dec.hasPriv) (ht : TransformsOk dec.cfg tg ts tr)
    (status reason request : V) :
    ∃ r, getTaskRequest c cl rr rand = .ok (r, { cl with metadata := sentMetadata cl }) ∧
      ∀ inp, (inp = .msg (.request r) ∨ (MsgWireOk (.request r) ∧ inp = .raw (wireRequest r))) →
        ∃ dec', iterRecoverG c (encDec tg ts tr o privV dec) (encInput status reason request inp) .none =
            .ok (.tuple [.list (if dec.hasPriv then [C06Gen.encMeta (sentMetadata cl)] else []), encDec tg ts tr o privV dec']) ∧
          Inv c { cl with metadata := sentMetadata cl } dec' (known || dec.hasPriv) := by
  obtain ⟨r, h1, _, _, h4⟩ := checkin_decodes c L wf cl hcl wc dec known inv rr rand
  refine ⟨r, h1, ?_⟩
  intro inp hinp
  obtain ⟨i1, i2, i3⟩ := h4 inp hinp
  refine ⟨(iterRecoverHttp c dec inp).dec, ?_, i3⟩
  have := gen_iter_recover_http_ok c dec tg ts tr o privV hpv ht none status reason request inp i2
  rw [show encExt none = V.none from rfl] at this
  rw [this, i1]
  cases dec.hasPriv <;> rfl

/-- **`keys_read_before_metadata` for the source text**: a message carrying metadata AND output, seen by an instance that has only
the RSA private key, ends the translated generator with ValueError (the packets of this very message are refused: the keys were
read before the metadata was processed) -/
theorem gen_keys_read_before_metadata (c : Crypto) (dec : Decoder) (hpriv : dec.hasPriv = true)
    (hk : dec.keys.aesKey = none ∧ dec.keys.hmacKey = none) (hc : dec.cache = []) (http : Http)
    (blob out : Bytes) (id : Option Bytes) (hrec : recoverStage dec.cfg http = .ok ⟨some out, some blob, id⟩)
    (hne : blob ≠ []) (m : C06.Metadata) (hdec : C06.decryptMetadata c.asym blob = .ok m)
    (p : C05.Packet) (ps : List C05.Packet) (hfr : (frames (isRequest http) (some out)).1 = p :: ps)
    (tg ts tr : V) (o : Rest) (privV : V) (hpv : PyU.truthy privV = dec.hasPriv) (ht : TransformsOk dec.cfg tg ts tr)
    (status reason request : V) :
    iterRecoverG c (encDec tg ts tr o privV dec) (C04Gen.encHttp status reason request http) .none = .error (.py .valueError) := by
  obtain ⟨_, h2, _, _⟩ := keys_read_before_metadata c dec hpriv hk hc http blob out id hrec hne m hdec p ps hfr
  have := gen_iter_recover_http_exc c dec tg ts tr o privV hpv ht none status reason request (.msg http) (.py .valueError) h2
  exact this


/-- **`unrelated_rejected` for the source text of `iter_recover_http`**: a request object matching neither route — or raw bytes that
parse to one — ends the translated generator with ValueError before anything is decoded and before any primitive is called
(whatever the transform objects, the keys, the cache and ALL external functions are) -/
theorem gen_iter_recover_http_unrelated (b64 ub64 : V → Py V) (rsa : V → V → V → Py V) (der ipk : V → Py V)
    (dps : V → V → V → Py V) (cbp tkp : V → Py V) (cfg : HttpCfg) (tg ts tr : V) (o : Rest) (keys : V) (r : Req)
    (hg : ¬ (r.method = cfg.getVerb ∧ ∃ u ∈ cfg.getUris, u <+: r.uri))
    (hs : ¬ (r.method = cfg.submitVerb ∧ cfg.submitUri <+: r.uri)) :
    (∀ us pq, Gen.PyC2H.iter_recover_http us pq b64 ub64 rsa der ipk dps cbp tkp (encSelf cfg tg ts tr o) (C04Gen.encReq r) keys
      = .error (.py .valueError)) ∧
    (∀ data, C16.parseRawHttp data = .ok (.request r.method r.uri r.params r.headers r.body) →
      Gen.PyC2H.iter_recover_http C16Gen.urlsplitX C16Gen.parseQslX b64 ub64 rsa der ipk dps cbp tkp (encSelf cfg tg ts tr o)
        (.bytes data) keys = .error (.py .valueError)) := by
  have hrt : routeRequest cfg r.method r.uri = none := routeRequest_none hg hs
  exact ⟨fun us pq => gen_iter_recover_http_unrelated_msg us pq b64 ub64 rsa der ipk dps cbp tkp cfg tg ts tr o keys r hrt,
    fun data hp => by
      rw [iter_recover_http_bytes, hp]
      exact gen_iter_recover_http_unrelated_msg _ _ b64 ub64 rsa der ipk dps cbp tkp cfg tg ts tr o keys r hrt⟩

/-! ### Non-vacuity: the translated definitions evaluated on concrete inputs -/

def sampleCfg : HttpCfg :=
  { getVerb := [71, 69, 84], getUris := [[47, 97], [47, 98, 99]], submitVerb := [80, 79, 83, 84], submitUri := [47, 115],
    getProg := [], postProg := [], recoverProg := [] }
def sampleSelf : V := encSelf sampleCfg (PyU.lit "get") (PyU.lit "submit") (PyU.lit "response") {}
def sampleReq (m u : Bytes) : V := C04Gen.encReq ⟨m, u, [], [], []⟩

-- GET /bcd → the get transform (second URI prefix); POST /s?x → submit; GET /s → ValueError; a response → response transform
example : getTransformG sampleSelf (sampleReq [71, 69, 84] [47, 98, 99, 100]) = .ok (PyU.lit "get") := by decide +kernel
example : getTransformG sampleSelf (sampleReq [80, 79, 83, 84] [47, 115, 63, 120]) = .ok (PyU.lit "submit") := by decide +kernel
example : getTransformG sampleSelf (sampleReq [71, 69, 84] [47, 115]) = .error .valueError := by decide +kernel
example : getTransformG sampleSelf (.inst Gen.PyC2U.HttpResponse [.int 200, .dict [] [], .bytes [79, 75], .bytes [], .none])
    = .ok (PyU.lit "response") := by decide +kernel
-- raw bytes b"GET /a HTTP/1.1\r\n\r\n" are parsed first (translated `parse_raw_http`)
example : getTransformG sampleSelf (.bytes [71, 69, 84, 32, 47, 97, 32, 72, 84, 84, 80, 47, 49, 46, 49, 13, 10, 13, 10])
    = .ok (PyU.lit "get") := by decide +kernel
-- `None`, an int, a `str`: ValueError
example : getTransformG sampleSelf .none = .error .valueError := by decide +kernel
example : getTransformG sampleSelf (.int 5) = .error .valueError := by decide +kernel

def sampleSettings : V :=
  .dict [PyU.lit "SETTING_SUBMITURI", PyU.lit "SETTING_C2_VERB_POST", PyU.lit "SETTING_C2_VERB_GET", PyU.lit "SETTING_C2_POSTREQ",
         PyU.lit "SETTING_C2_REQUEST", PyU.lit "SETTING_C2_RECOVER"]
        [PyU.lit "/s", PyU.lit "POST", PyU.lit "GET", .list [.tuple [PyU.lit "print", .bool true]],
         .list [.tuple [PyU.lit "base64", .bool true]], .list [.tuple [PyU.lit "print", .bool true]]]
def sampleBConfig (trial : Bool) : V := encBConfig sampleSettings (.list [PyU.lit "/a", PyU.lit "/bc"]) (.bytes [1]) (.bool trial)
def sampleInit (trial : Bool) (ak hk ar priv : V) : PyU.PyA V :=
  initG (fun x => x ++ x) (some (encKey 77)) (sampleBConfig trial) ak hk ar priv (.bool true)

-- a 16-byte AES key: an instance that routes `GET /bcd` to its get transform
example : (match sampleInit false (.bytes (List.replicate 16 1)) .none .none .none with
    | .ok self => getTransformG self (sampleReq [71, 69, 84] [47, 98, 99, 100])
    | .error _ => .error .typeError) =
      .ok (C04Gen.encT [.tuple [PyU.lit "base64", .bool true]] [.tuple [PyU.lit "base64", .bool true]]) := by decide +kernel
-- a 15-byte key, both aes_rand and aes_key, no key at all, a trial beacon, a private key of another modulus
example : sampleInit false (.bytes (List.replicate 15 1)) .none .none .none = .error (.py .valueError) := by decide +kernel
example : sampleInit false (.bytes (List.replicate 16 1)) .none (.bytes [1]) .none = .error (.py .valueError) := by decide +kernel
example : sampleInit false .none .none .none .none = .error (.py .valueError) := by decide +kernel
example : sampleInit true (.bytes (List.replicate 16 1)) .none .none .none = .error (.py .valueError) := by decide +kernel
example : sampleInit false .none .none .none (encKey 78) = .error .assertion := by decide +kernel
-- keys derived from 8 random bytes by the toy digest `x ++ x` (16 bytes): first half AES, second half empty → ValueError
example : sampleInit false .none .none (.bytes [1, 2, 3, 4, 5, 6, 7, 8]) .none = .error (.py .valueError) := by decide +kernel

def toyC : Crypto := ⟨C05.toyCrypto, C06.toyCrypto 128⟩

-- the translated generator on the instance the translated constructor built: a check-in without metadata yields nothing and
-- leaves the instance as it was; an unrelated request and a malformed raw message end it with ValueError
example : (match sampleInit false (.bytes (List.replicate 16 1)) .none .none .none with
    | .ok self => (iterRecoverG toyC self (sampleReq [71, 69, 84] [47, 97]) .none).map fun r => PyU.eq r (.tuple [.list [], self])
    | .error e => .error e) = .ok true := by decide +kernel
example : (match sampleInit false (.bytes (List.replicate 16 1)) .none .none .none with
    | .ok self => iterRecoverG toyC self (sampleReq [80, 85, 84] [47, 97]) .none
    | .error e => .error e) = .error (.py .valueError) := by decide +kernel
example : (match sampleInit false (.bytes (List.replicate 16 1)) .none .none .none with
    | .ok self => iterRecoverG toyC self (.bytes [71, 69, 84, 32, 47]) .none
    | .error e => .error e) = .error (.py .valueError) := by decide +kernel

end C07Gen

import CsVerif.Gen.PyC2Text
import CsVerif.Props.C10
import CsVerif.Lemmas.C10Gen
/-!
C10 — the tie between the source text of `as_text`'s whitespace post-processor and the model, by (untyped) translation.

`Gen/PyC2Text.lean` is produced on every run by `tools/py2leanu.py` from the *source* of the generator `postproc` nested in
`C2Profile.as_text` (the plug-in `tools/gen/py_c2text.py` checks that `as_text` is exactly `def postproc(items): …` followed by
`return Reconstructor(c2profile_parser).reconstruct(self.tree, postproc)` and that the closure has no free variables).  A
generator is translated as the list of the values it yields (`list(postproc(items))`); the outer `for item in items` and the
inner `for i, x in enumerate(line)` are separate definitions run by `PyU.forList`.

`gen_as_text_postproc` states that the translated definition computes, for every list of `str` items, exactly the item list of
the hand-written model `C10.postproc`.  So `postproc_tokens` / `join_eq_concat` of `Props/C10.lean` are theorems about the
function text (restated below), and an edit of `postproc` that changes its meaning breaks the proof here.
The call `Reconstructor(…).reconstruct(tree, postproc)` itself is Lark's: it stays modelled by `C10.printTree` (the item
stream) and `C10.joinItems` (the blanks it may insert between two yielded strings) and tied by the correspondence streams of C10.
Helper lemmas: `Lemmas/C10Gen.lean`.
-/
namespace C10Gen
open PyU

/-- `list(postproc(items))` for every list of `str` items -/
theorem gen_as_text_postproc (ts : List C10.Text) :
    Gen.PyC2Text.as_text_postproc (encItems ts) = .ok (encItems (C10.postproc ts)) := by
  have h := gen_as_text_postproc_loop1 ts [] 0 []
  simp only [Gen.PyC2Text.as_text_postproc, encItems, iterList_list, PyU.ok_bind, List.nil_append, C10.postproc, pure_ok] at h ⊢
  cases hr : PyU.forList (ts.map V.str) Gen.PyC2Text.postproc_loop1 (.list [], .list [], .int 0) with
  | error e => simp [hr, Except.map] at h
  | ok st => simpa [hr, Except.map] using h

/-- the driver's reading of the translated definition is the model's post-processor -/
theorem gen_postprocG (ts : List C10.Text) : postprocG ts = some (C10.postproc ts) := by
  have hm : ∀ l : List C10.Text, (l.map V.str).mapM strOf? = some l := by
    intro l
    induction l with
    | nil => rfl
    | cons x xs ih => simp only [List.map_cons, List.mapM_cons, strOf?, ih]; rfl
  simp only [postprocG, gen_as_text_postproc]
  simp only [encItems, hm]

/-! ### the property theorems, restated for the translated definition -/

/-- `postproc_tokens`: lexing the text that `Reconstructor.reconstruct` builds from what the source of `postproc` yields gives
the item list back, for item lists made of lexable tokens that end with `;`, `{` or `}` -/
theorem gen_postproc_tokens (kws : List C10.Text) (hk : C10.KwClean kws = true) (idc : Nat → Bool) (hi : C10.IdcOK idc)
    (ts : List C10.Text) (hl : ∀ t ∈ ts, C10.lexableTok kws t = true) (ht : C10.terminated ts = true) :
    ∃ out, Gen.PyC2Text.as_text_postproc (encItems ts) = .ok (encItems out) ∧
      C10.lexProfile kws (C10.joinItems idc out) = some ts :=
  ⟨C10.postproc ts, gen_as_text_postproc ts, C10.postproc_tokens kws hk idc hi ts hl ht⟩

/-- `join_eq_concat`: `Reconstructor.reconstruct` never inserts a blank of its own into what the source of `postproc` yields -/
theorem gen_join_eq_concat (idc : Nat → Bool) (h : C10.IdcOK idc) (ts : List C10.Text) :
    ∃ out, Gen.PyC2Text.as_text_postproc (encItems ts) = .ok (encItems out) ∧ C10.joinItems idc out = out.flatten :=
  ⟨C10.postproc ts, gen_as_text_postproc ts, C10.join_eq_concat idc h ts⟩

/-- `as_text` with the translated post-processor re-lexes to the source tokens -/
theorem gen_as_text_relex (G : C10.Table) (h : C10.PrintWF G = true) (hk : C10.KwClean G.words = true)
    (idc : Nat → Bool) (hi : C10.IdcOK idc) (d : C10.Deriv) (hd : d.WF G = true)
    (hl : ∀ t ∈ d.yield, C10.lexableTok G.words (G.tokText t) = true)
    (ht : C10.terminated (d.yield.map G.tokText) = true) :
    ((C10.printTree G (C10.toTree d)).bind (asTextOfG G idc)).bind (C10.lexProfile G.words) = some (d.yield.map G.tokText) := by
  rw [C10.print_eq_source G h d hd]
  simp only [Option.bind_some, asTextOfG, gen_postprocG, Option.map_some]
  exact C10.postproc_tokens G.words hk idc hi _ (by simpa using hl) ht

/-! ### Non-vacuity: the translated definition evaluated on concrete inputs -/

-- list(postproc(["set", "x", '"1"', ";"])) = ["", "set", " ", "x", " ", '"1"', ";", "\n"]
example : Gen.PyC2Text.as_text_postproc (.list [lit "set", lit "x", lit "\"1\"", lit ";"])
    = .ok (.list [lit "", lit "set", lit " ", lit "x", lit " ", lit "\"1\"", lit ";", lit "\u000a"]) := by decide +kernel
-- a block: blank line before `{` lines, four blanks of indentation inside, the closing brace back at the margin
example : Gen.PyC2Text.as_text_postproc (.list [lit "a", lit "{", lit "b", lit ";", lit "}"])
    = .ok (.list [lit "\u000a", lit "", lit "a", lit " ", lit "{", lit "\u000a", lit "    ", lit "b", lit ";", lit "\u000a",
        lit "", lit "}", lit "\u000a"]) := by decide +kernel
-- items after the last `;` / `{` / `}` are dropped
example : Gen.PyC2Text.as_text_postproc (.list [lit ";", lit "x"]) = .ok (.list [lit "", lit ";", lit "\u000a"]) := by decide +kernel
-- more `}` than `{`: the indentation is negative, `" " * 4 * indent` is empty
example : Gen.PyC2Text.as_text_postproc (.list [lit "}", lit "}"])
    = .ok (.list [lit "", lit "}", lit "\u000a", lit "", lit "}", lit "\u000a"]) := by decide +kernel
-- an item that is not a `str`: `5 in "{};"` is a TypeError; `None` is not iterable
example : Gen.PyC2Text.as_text_postproc (.list [.int 5]) = .error .typeError := by decide +kernel
example : Gen.PyC2Text.as_text_postproc .none = .error .typeError := by decide +kernel

end C10Gen

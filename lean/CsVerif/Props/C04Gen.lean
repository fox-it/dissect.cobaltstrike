import CsVerif.Gen.PyC2T
import CsVerif.Props.C04
import CsVerif.Lemmas.C04Gen
/-!
C04 — the tie between the source text and the model, by (untyped) translation.

`Gen/PyC2T.lean` is produced on every run by `tools/py2leanu.py` from the *source* of `HttpDataTransform.__init__`, `.transform`
and `.recover` (c2.py): every Python value is a `PyU.V`, every Python operation one total function of
`lean/CsVerif/Model/PyU.lean` (+ `PyU_T04.lean`); `self` is an instance record with the attributes `tsteps`, `rsteps`; the two
`for step, step_val in …` loops are separate definitions run by `PyU.forList`; `assert` raises `PyU.ExcA.assertion`;
`base64.b64encode / urlsafe_b64encode / b64decode / urlsafe_b64decode` and the stream `random.getrandbits` are EXTERNAL:
parameters of the translated definitions, instantiated here with the codec models of `Model/C04.lean` and the scripted mask
stream (`Model/C04Gen.lean`); `netbios_encode`, `netbios_decode`, `xor`, `p32be` are the typed translations of utils.py
(`Gen/PyUtils.lean`, tied to the C20 model by `Props/C20Gen.lean`).

Domain of the equivalence theorems: `C04Gen.stepsOf vs = some ss` — every item of the Python step list `vs` is a tuple
`(name, value)` that denotes a step of the model (`C04Gen.stepOf`): `name` an ASCII `str` in any mixture of upper and lower case
(so the classification after `step.lower()` is part of what is proved), `value` of the kind the step asserts (bytes for
`header / parameter / _header / _hostheader / _parameter`, bytes or int-like for `append / prepend`, anything for the steps that
ignore it; for a step of unknown name a value whose `repr` is modelled).  The constructor theorem needs no domain at all.

`gen_transform` / `gen_recover` state that the translated definitions compute exactly the encoding of what the hand-written
model computes — including `ValueError` (unknown step, base64 / NetBIOS decoding failures), `KeyError` (missing header /
parameter), `IndexError` (odd NetBIOS input) and the `AssertionError` of `uri_append` / `parameter` on a response.  So every
theorem of `Props/C04.lean` is a theorem about the function text as it stands (the corollaries below restate the central
ones for the translated definitions), and an edit of one of the three methods that changes its meaning breaks the proof here.
-/
namespace C04Gen
open PyU C04

/-! ### the translated definitions equal the model -/

/-- `HttpDataTransform(steps, reverse, build)` for a `list` of arbitrary items: `tsteps` / `rsteps` are `C04Gen.mkLists`
(copy / reversed copy, swapped when `reverse` is true, `("BUILD", build)` put first / last when `build is not None`) -/
theorem gen_http_data_transform_init (vs : List V) (reverse build : V) :
    Gen.PyC2T.http_data_transform_init (.list vs) reverse build
      = .ok (encT (mkLists vs (truthy reverse) build).1 (mkLists vs (truthy reverse) build).2) :=
  gen_http_data_transform_init_proof vs reverse build

/-- the same for a `tuple` of steps -/
theorem gen_http_data_transform_init_tuple (vs : List V) (reverse build : V) :
    Gen.PyC2T.http_data_transform_init (.tuple vs) reverse build
      = .ok (encT (mkLists vs (truthy reverse) build).1 (mkLists vs (truthy reverse) build).2) :=
  init_of_iterList (.tuple vs) vs rfl reverse build

/-- on step lists of the domain the constructed lists denote `C04.mkTransform` -/
theorem gen_http_data_transform_init_model (vs : List V) (ss : List Step) (h : stepsOf vs = some ss) (reverse build : V) :
    ∃ tvs rvs, Gen.PyC2T.http_data_transform_init (.list vs) reverse build = .ok (encT tvs rvs) ∧
      stepsOf tvs = some (mkTransform ss (truthy reverse) (buildOf build)).tsteps ∧
      stepsOf rvs = some (mkTransform ss (truthy reverse) (buildOf build)).rsteps :=
  ⟨_, _, gen_http_data_transform_init_proof vs reverse build, stepsOf_mkLists vs ss h (truthy reverse) build⟩

/-- `transform`: for every instance whose `tsteps` denote the model steps `t.tsteps`, every mask stream, every `C2Data`-like
tuple (`cls` any class with the fields `output, metadata, id`), `request` `None` or a request -/
theorem gen_transform (rand : Rand) (cls : Cls) (hc : cls.fields = ["output", "metadata", "id"]) (tvs rvs : List V)
    (t : Transform) (h : stepsOf tvs = some t.tsteps) (c2 : C2Data) (req : Option Req) :
    Gen.PyC2T.transform b64encodeX urlsafeB64encodeX (getrandbitsX rand) (encT tvs rvs) (encC2 cls c2) (encOptReq req)
      = encR encReq (C04.transform t rand c2 req) :=
  gen_transform_proof rand cls hc tvs rvs t h c2 req

/-- `recover`: for every instance whose `rsteps` denote `t.rsteps` and every request / response (`status`, `reason`, `request`
of a response arbitrary); the result is a `ClientC2Data` for a request, a `ServerC2Data` for a response -/
theorem gen_recover (status reason request : V) (tvs rvs : List V) (t : Transform) (h : stepsOf rvs = some t.rsteps)
    (http : Http) :
    Gen.PyC2T.recover b64decodeX urlsafeB64decodeX (encT tvs rvs) (encHttp status reason request http)
      = encR (encC2 (resultCls http)) (C04.recover t http) :=
  gen_recover_proof status reason request tvs rvs t h http

/-! ### the property theorems, restated for the translated definitions -/

/-- the constructor, for arbitrary items: `rsteps` is `tsteps` reversed -/
theorem gen_rsteps_eq_reverse_tsteps (vs : List V) (rev : Bool) (build : V) :
    (mkLists vs rev build).2 = (mkLists vs rev build).1.reverse := by
  simp only [mkLists]
  cases rev <;> cases isNone build <;> simp

/-- `recover_transform_partial` for the source text: construct (`HttpDataTransform(steps)`), transform, recover.  For every
Python step list `vs` that denotes the compiled form of a valid program (step names in any case), every payload, mask stream and
initial request (empty initial URI when the program uses uri-append) -/
theorem gen_recover_transform_partial (p : Ref.Program) (hv : Ref.valid p = true) (vs : List V)
    (h : stepsOf vs = some (Ref.compile p)) (cls : Cls) (hc : cls.fields = ["output", "metadata", "id"]) (c2 : C2Data)
    (rand : Rand) (req : Option Req) (hu : Ref.usesUri p = true → (req.getD emptyReq).uri = []) :
    ∃ self r, Gen.PyC2T.http_data_transform_init_default2 (.list vs) = .ok self ∧
      transformG rand self (encC2 cls c2) (encOptReq req) = .ok (encReq r) ∧
      recoverG self (encReq r) = .ok (encC2 Gen.PyC2U.ClientC2Data (Ref.normalise p c2)) := by
  obtain ⟨tvs, rvs, h0, h1, h2⟩ := gen_http_data_transform_init_model vs _ h (.bool false) .none
  obtain ⟨r, ht, hr⟩ := gen_roundtrip tvs rvs _ h1 h2 cls hc c2 rand req .none .none .none .request _
    (recover_transform_partial p hv c2 rand req hu)
  exact ⟨encT tvs rvs, r, h0, ht, hr⟩

/-- one block `field { es…; print; }` (`chain_inverse` through the source text): every order and repetition of the seven encoders -/
theorem gen_block_roundtrip (f : Field) (es : List Enc) (hok : ∀ e ∈ es, encOk e = true) (vs : List V)
    (h : stepsOf vs = some (Ref.Block.toSteps ⟨f, es, .print⟩)) (cls : Cls) (hc : cls.fields = ["output", "metadata", "id"])
    (c2 : C2Data) (rand : Rand) (req : Option Req) :
    ∃ self r, Gen.PyC2T.http_data_transform_init_default2 (.list vs) = .ok self ∧
      transformG rand self (encC2 cls c2) (encOptReq req) = .ok (encReq r) ∧
      recoverG self (encReq r)
        = .ok (encC2 Gen.PyC2U.ClientC2Data (Ref.normalise [.block ⟨f, es, .print⟩] c2)) := by
  have hv : Ref.valid [.block ⟨f, es, .print⟩] = true := by simpa [Ref.valid, Ref.places] using hok
  exact gen_recover_transform_partial _ hv vs (by simpa [Ref.compile] using h) cls hc c2 rand req
    (fun hu => by simp [Ref.usesUri, Ref.places, Ref.Item.place] at hu)

/-- server side for the source text: `HttpDataTransform(parse_recover_binary(..), reverse=True, build="output")`, transform,
recover from the response (any status / reason) -/
theorem gen_recover_transform_server (es : List Enc) (hok : ∀ e ∈ es, encOk e = true) (vs : List V)
    (h : stepsOf vs = some (Ref.serverSteps es)) (cls : Cls) (hc : cls.fields = ["output", "metadata", "id"]) (c2 : C2Data)
    (rand : Rand) (req : Option Req) (status reason request : V) :
    ∃ self r, Gen.PyC2T.http_data_transform_init (.list vs) (.bool true) (lit "output") = .ok self ∧
      transformG rand self (encC2 cls c2) (encOptReq req) = .ok (encReq r) ∧
      recoverG self (encHttp status reason request (.response r.headers r.body))
        = .ok (encC2 Gen.PyC2U.ServerC2Data ⟨some ((c2.output).getD []), none, none⟩) := by
  obtain ⟨tvs, rvs, h0, h1, h2⟩ := gen_http_data_transform_init_model vs _ h (.bool true) (lit "output")
  have hb : buildOf (lit "output") = some (some .output) := by decide
  simp only [truthy, hb] at h1 h2
  obtain ⟨r, ht, hr⟩ := gen_roundtrip tvs rvs _ h1 h2 cls hc c2 rand req status reason request
    (fun r => .response r.headers r.body) _ (recover_transform_server es hok c2 rand req)
  exact ⟨encT tvs rvs, r, h0, ht, hr⟩

/-- reference-encoded messages (base64url unpadded, as Cobalt Strike emits it) are recovered by the source text -/
theorem gen_model_decodes_ref (p : Ref.Program) (hv : Ref.valid p = true) (vs : List V)
    (h : stepsOf vs = some (Ref.compile p)) (c2 : C2Data) (rand : Rand) (req : Req)
    (hu : Ref.usesUri p = true → req.uri = []) :
    ∃ self, Gen.PyC2T.http_data_transform_init_default2 (.list vs) = .ok self ∧
      recoverG self (encReq (Ref.encode p rand c2 req)) = .ok (encC2 Gen.PyC2U.ClientC2Data (Ref.normalise p c2)) := by
  obtain ⟨tvs, rvs, h0, _, h2⟩ := gen_http_data_transform_init_model vs _ h (.bool false) .none
  simp only [truthy, buildOf, isNone, if_true] at h2
  refine ⟨encT tvs rvs, h0, ?_⟩
  have := gen_recover .none .none .none tvs rvs _ h2 (.request (Ref.encode p rand c2 req))
  simp only [encHttp] at this
  rw [recoverG, this, model_decodes_ref p hv c2 rand req hu]; rfl

/-- the exceptions the source text of `recover` can raise on the domain: ValueError, KeyError, IndexError, AssertionError -/
theorem gen_recover_exceptions (status reason request : V) (tvs rvs : List V) (t : Transform) (h : stepsOf rvs = some t.rsteps)
    (http : Http) (e : ExcA)
    (he : Gen.PyC2T.recover b64decodeX urlsafeB64decodeX (encT tvs rvs) (encHttp status reason request http) = .error e) :
    ∃ e', C04.recover t http = .error e' ∧ e = encExc e' := by
  rw [gen_recover status reason request tvs rvs t h http] at he
  cases hr : C04.recover t http with
  | ok c => rw [hr] at he; cases he
  | error e' => rw [hr] at he; exact ⟨e', rfl, by injection he with he; exact he.symm⟩

/-! ### Non-vacuity: the domain is inhabited, the translated definitions evaluated on concrete inputs -/

/-- `[("BUILD", "metadata"), ("NetBIOS", True), ("prepend", b"="), ("Header", b"h")]` -/
def exampleSteps : List V :=
  [.tuple [lit "BUILD", lit "metadata"], .tuple [lit "NetBIOS", .bool true], .tuple [lit "prepend", .bytes [61]],
   .tuple [lit "Header", .bytes [104]]]

example : stepsOf exampleSteps
    = some (Ref.compile [.block ⟨.metadata, [.netbios, .prepend (.bytes [61])], .header [104]⟩]) := by decide +kernel
-- int-like arguments, every static, an unknown step
example : stepsOf [.tuple [lit "APPEND", .int 3], .tuple [lit "append", .bool true], .tuple [lit "_HostHeader", .bytes [72, 58, 32, 120]],
      .tuple [lit "_parameter", .bytes [97, 61, 98]], .tuple [lit "uri_append", .none], .tuple [lit "base32", .bool true]]
    = some [.enc (.append (.int 3)), .enc (.append (.int 1)), .static (.hostheader [72, 58, 32, 120]),
        .static (.parameter [97, 61, 98]), .term .uriAppend, .unknown] := by decide +kernel
-- outside the domain: a `str` argument of `header`, a non-ASCII step name
example : stepsOf [.tuple [lit "header", lit "h"]] = none := by decide +kernel
example : stepsOf [.tuple [.str [233], .bool true]] = none := by decide +kernel

-- HttpDataTransform(exampleSteps)
example : Gen.PyC2T.http_data_transform_init_default2 (.list exampleSteps)
    = .ok (encT exampleSteps exampleSteps.reverse) := by decide +kernel
-- HttpDataTransform([("print", True), ("append", 2)], reverse=True, build="output")
example : Gen.PyC2T.http_data_transform_init (.list [.tuple [lit "print", .bool true], .tuple [lit "append", .int 2]]) (.bool true)
      (lit "output")
    = .ok (encT [.tuple [lit "BUILD", lit "output"], .tuple [lit "append", .int 2], .tuple [lit "print", .bool true]]
        [.tuple [lit "print", .bool true], .tuple [lit "append", .int 2], .tuple [lit "BUILD", lit "output"]]) := by
  decide +kernel
-- a non-iterable `steps`: `list(5)` is a TypeError
example : Gen.PyC2T.http_data_transform_init_default2 (.int 5) = .error .typeError := by decide +kernel

-- transform(C2Data(metadata=b"\xab")) = HttpRequest(b"", b"", {}, {b"h": b"=kl"}, b"")
example : transformG (fun _ => 0) (encT exampleSteps exampleSteps.reverse) (encC2 Gen.PyC2U.C2Data ⟨none, some [171], none⟩) .none
    = .ok (encReq ⟨[], [], [], [([104], [61, 107, 108])], []⟩) := by decide +kernel
-- … and recover of it gives ClientC2Data(metadata=b"\xab")
example : recoverG (encT exampleSteps exampleSteps.reverse) (encReq ⟨[], [], [], [([104], [61, 107, 108])], []⟩)
    = .ok (encC2 Gen.PyC2U.ClientC2Data ⟨none, some [171], none⟩) := by decide +kernel
-- mask with the scripted value 0x01020304
example : transformG (fun _ => 0x01020304)
      (encT [.tuple [lit "BUILD", lit "id"], .tuple [lit "mask", .bool true], .tuple [lit "print", .bool true]] [])
      (encC2 Gen.PyC2U.C2Data ⟨none, none, some [65, 66]⟩) .none
    = .ok (encReq ⟨[], [], [], [], [1, 2, 3, 4, 64, 64]⟩) := by decide +kernel
-- server side: recover from a response
example : recoverG (encT [] [.tuple [lit "print", .bool true], .tuple [lit "append", .int 2], .tuple [lit "mask", .bool true],
      .tuple [lit "BUILD", lit "output"]])
      (.inst Gen.PyC2U.HttpResponse [.int 200, encDict [], .bytes [79, 75], .bytes [1, 2, 3, 4, 64, 64, 88, 88], .none])
    = .ok (encC2 Gen.PyC2U.ServerC2Data ⟨some [65, 66], none, none⟩) := by decide +kernel
-- the raising branches: unknown step, missing header, `uri_append` on a response, a non-message argument
example : transformG (fun _ => 0) (encT [.tuple [lit "base32", .bool true]] []) (encC2 Gen.PyC2U.C2Data ⟨none, none, none⟩) .none
    = .error (.py .valueError) := by decide +kernel
example : recoverG (encT [] [.tuple [lit "header", .bytes [104]]]) (encReq ⟨[], [], [], [], []⟩)
    = .error (.py .keyError) := by decide +kernel
example : recoverG (encT [] [.tuple [lit "URI_APPEND", .bool true]])
      (.inst Gen.PyC2U.HttpResponse [.int 200, encDict [], .bytes [], .bytes [], .none]) = .error .assertion := by decide +kernel
example : recoverG (encT [] []) .none = .error .assertion := by decide +kernel
-- outside the domain of the model, still what the code does: `("header", "h")` fails the `assert isinstance(step_val, bytes)`,
-- a step name `None` has no `.lower()`
example : transformG (fun _ => 0) (encT [.tuple [lit "header", lit "h"]] []) (encC2 Gen.PyC2U.C2Data ⟨none, none, none⟩) .none
    = .error .assertion := by decide +kernel
example : transformG (fun _ => 0) (encT [.tuple [.none, .bool true]] []) (encC2 Gen.PyC2U.C2Data ⟨none, none, none⟩) .none
    = .error (.py .attributeError) := by decide +kernel

end C04Gen

import CsVerif.Gen.PyXor
import CsVerif.Props.C09
import CsVerif.Lemmas.C09Gen
/-!
C09 — the tie between the source text and the model, by (untyped) translation.

`Gen/PyXor.lean` is produced on every run by `tools/py2leanu.py` from the *source* of `xordecode.iter_nonce_offsets` and of
`XorEncodedFile.__init__`, `read_nonce`, `tell`, `seek`, `read`.  `iter_nonce_offsets` is a generator over a file parameter (it
returns `(list of yields, file afterwards)`).  `XorEncodedFile(fh, nonce_offset)` MOVES the file into the new instance
(`C09Gen.encXor`: `.inst XorEncodedFile [file, nonce_offset, initial_nonce, nonced_filesize]`); every method threads `self`
and returns `(result, self afterwards)`: `self.fh.read / seek / tell` act on the file inside the instance (Model/PyU_T15.lean,
`PyFile`'s raising behaviour), `self.read_nonce()` / `self.tell()` are calls of the translated methods, `try … except OSError`
of `read_nonce` is Lean's `try … catch`, the `while True:` chunk loop of `read` runs on fuel.

The `gen_*` theorems state that each translated definition computes, for every state of the view object (any file content,
position and kind; any nonce offset) and every argument in the stated domain, exactly the encoding of what the hand-written
model computes, including the raising branches (`ValueError` of `seek` for a negative absolute offset / an unknown `whence`,
the `ValueError` / `OSError` of the underlying file's `seek` in the constructor).  `gen_run` / `gen_run_trace` lift this to
operation histories executed through the translated methods, and the refinement theorems of `Props/C09.lean` are restated for
those histories: the source text of `seek` / `read` / `tell`, run on any history, does what `io.BytesIO` over the decoded bytes
does.  Helper lemmas: `Lemmas/C09Gen.lean`.
-/
namespace C09Gen
open PyU
open C15Gen hiding pure_ok throw_err add_int sub_int iadd_int eq_int lt_int gt_int len_bytes add_bytes truthy_bytes

/-! ### `iter_nonce_offsets` -/

/-- the translated `iter_nonce_offsets` equals the encoding of the model, for every file, `real_size` (`None` or any int) and
non-negative `maxrange` (a `for` loop: no fuel) -/
theorem gen_iter_nonce_offsets (f : PyFile) (realSize : Option Int) (maxrange : Nat) :
    Gen.PyXor.iter_nonce_offsets (encFile f) (encOptInt realSize) (.int (maxrange : Int))
      = (C09.iterNonceOffsets f realSize maxrange).map encOffsets := by
  unfold Gen.PyXor.iter_nonce_offsets C09.iterNonceOffsets
  cases realSize with
  | some r =>
    have := gen_iter_nonce_offsets_loop r maxrange 0 f []
    simp only [encOptInt, isNone, Bool.false_eq_true, if_false, rangeV_nat, List.range_eq_range', PyU.ok_bind, iterList, this]
    cases C09.nonceLoop r maxrange 0 f with
    | error e => rfl
    | ok q => simp [Except.map, encOffsets, pure_ok]
  | none =>
    simp only [encOptInt, isNone, if_true, fileSeek_end]
    cases hs : f.seekEnd 0 with
    | error e => rfl
    | ok q =>
      obtain ⟨v, f1⟩ := q
      have := gen_iter_nonce_offsets_loop (f1.tell : Int) maxrange 0 f1 []
      simp only [Except.map, PyU.ok_bind, fileTell_enc, rangeV_nat, List.range_eq_range', iterList, PyFile.tell] at this ⊢
      rw [this]
      cases C09.nonceLoop (f1.pos : Int) maxrange 0 f1 with
      | error e => rfl
      | ok q => simp [encOffsets, pure_ok]

/-- the source defaults `real_size=None, maxrange=1024` -/
theorem gen_iter_nonce_offsets_defaults (f : PyFile) :
    Gen.PyXor.iter_nonce_offsets_default2 (encFile f) = (C09.iterNonceOffsets f none 1024).map encOffsets :=
  gen_iter_nonce_offsets f none 1024

/-- `size_offsets_exact` for the translated definition: what the source text yields when `real_size` is left to the file size -/
theorem gen_size_offsets_exact (f : PyFile) (maxrange : Nat) :
    ∃ f', Gen.PyXor.iter_nonce_offsets (encFile f) .none (.int (maxrange : Int))
        = .ok (encOffsets (C09.sizeOffsets f maxrange, f')) := by
  obtain ⟨l, f1, h, _, _⟩ := C09.iterNonceOffsets_ok f maxrange
  refine ⟨f1, ?_⟩
  have := gen_iter_nonce_offsets f none maxrange
  rw [h] at this
  rw [C09.sizeOffsets_of_scan h]
  exact this

/-! ### the constructor and the methods -/

/-- `XorEncodedFile(fh, nonce_offset)`: the translated `__init__` builds the encoding of `C09.mk'` -/
theorem gen_new (fh : PyFile) (nonceOff : Nat) :
    Gen.PyXor.XorEncodedFile_new (encFile fh) (.int (nonceOff : Int)) = (C09.mk' fh nonceOff).map encXor := by
  simp only [Gen.PyXor.XorEncodedFile_new, fileSeek_nat, PyU.ok_bind, fileRead_4, pure_ok, C09.mk', PyFile.seekSet_ok, Except.map,
    encXor]

/-- the source default `nonce_offset=0` -/
theorem gen_new_default (fh : PyFile) : Gen.PyXor.XorEncodedFile_new_default1 (encFile fh) = (C09.mk' fh 0).map encXor :=
  gen_new fh 0

theorem gen_tell (x : C09.XorFile) : Gen.PyXor.XorEncodedFile_tell (encXor x) = .ok (encRes (.int (C09.tell x)) x) :=
  gen_tell_proof x

/-- `seek(offset, whence)` for every int `offset` and every `whence ≥ 0`, incl. both `ValueError` branches -/
theorem gen_seek (x : C09.XorFile) (off : Int) (whence : Nat) :
    Gen.PyXor.XorEncodedFile_seek (encXor x) (.int off) (.int (whence : Int))
      = (C09.seek x off whence).map (fun r => encRes (.int (r.1 : Int)) r.2) :=
  gen_seek_proof x off whence

/-- a negative `whence` (outside the model's `Nat`) is the `else` branch as well: ValueError, nothing moves -/
theorem gen_seek_negative_whence (x : C09.XorFile) (off w : Int) (hw : w < 0) :
    Gen.PyXor.XorEncodedFile_seek (encXor x) (.int off) (.int w) = .error .valueError :=
  seek_other_whence x off w (Or.inl hw)

/-- the source default `whence=io.SEEK_SET` -/
theorem gen_seek_default (x : C09.XorFile) (off : Int) :
    Gen.PyXor.XorEncodedFile_seek_default1 (encXor x) (.int off) = (C09.seek x off 0).map (fun r => encRes (.int (r.1 : Int)) r.2) :=
  gen_seek x off 0

theorem gen_read_nonce (x : C09.XorFile) :
    Gen.PyXor.XorEncodedFile_read_nonce (encXor x) = (C09.readNonce x).map (fun r => encRes (.bytes r.1) r.2) :=
  gen_read_nonce_proof x

/-- `read(n)` for `n` `None` or any int, and every fuel of at least `len(raw file) + 1` -/
theorem gen_read (x : C09.XorFile) (n : Option Int) (fuel : Nat) (hf : x.fh.data.length + 1 ≤ fuel) :
    Gen.PyXor.XorEncodedFile_read fuel (encXor x) (encOptInt n) = (C09.read x n).map (fun r => encRes (.bytes r.1) r.2) :=
  gen_read_proof x n fuel hf

/-- the source default `n=-1` -/
theorem gen_read_default (x : C09.XorFile) (fuel : Nat) (hf : x.fh.data.length + 1 ≤ fuel) :
    Gen.PyXor.XorEncodedFile_read_default1 fuel (encXor x) = (C09.read x (some (-1))).map (fun r => encRes (.bytes r.1) r.2) :=
  gen_read x (some (-1)) fuel hf

/-! ### operation histories through the translated methods -/

/-- a history of `seek` / `read` / `tell` executed through the TRANSLATED methods (`C09Gen.runG`) gives the outputs and the final
object of the model's `run` -/
theorem gen_run (x : C09.XorFile) (ops : List C09.Op) (fuel : Nat) (hf : x.fh.data.length + 1 ≤ fuel) :
    runG fuel (encXor x) ops = (C09.run x ops).map (fun r => (r.1.map encOut, encXor r.2)) :=
  runG_eq ops x fuel hf

/-- the same for the trace the driver prints (a raising operation leaves the object unchanged) -/
theorem gen_run_trace (x : C09.XorFile) (ops : List C09.Op) (fuel : Nat) (hf : x.fh.data.length + 1 ≤ fuel) :
    runTraceG fuel (encXor x) ops = (C09.runTrace x ops).map (fun r => r.map encOut) :=
  runTraceG_eq ops x fuel hf

/-! ### the refinement theorems, restated for the translated methods -/

/-- **`read_refines` for the translated `read`**: from every logical position `p ≥ 0`, for every `n`, the source text of `read`
returns exactly the plaintext slice an ordinary file would return and moves only the cursor, by the number of bytes returned -/
theorem gen_read_refines {stub nonce size enc : Bytes} {x : C09.XorFile} (hL : C09.Layout stub nonce size enc x)
    (p : Nat) (hpos : x.fh.pos = stub.length + 8 + p) (n : Option Int) (fuel : Nat) (hf : x.fh.data.length + 1 ≤ fuel) :
    ∃ out,
      Gen.PyXor.XorEncodedFile_read fuel (encXor x) (encOptInt n)
        = .ok (encRes (.bytes out) (x.withPos (stub.length + 8 + p + out.length))) ∧
      out = (({ data := C09.rollDecode nonce enc, pos := p } : PyFile).read (n.getD (-1))).1 := by
  obtain ⟨out, x', h1, _, h3, _, h5, _⟩ := C09.read_refines hL p hpos n
  refine ⟨out, ?_, h3⟩
  rw [gen_read x n fuel hf, h1, h5]
  rfl

/-- **`history_refines_all_seeks` for the translated methods**: for EVERY history — seeks with any integer offset and any
`whence`, reads with any `n`, `tell` — from every logical position `p ≥ 0`, the source text of the three methods (over a BytesIO or
an OS file) does exactly what `io.BytesIO` over the decoded bytes does: the same exception at the same operation, or the same
outputs (`seek` returning the raw offset) and the abstracting final state -/
theorem gen_history_refines_all_seeks (stub nonce size enc : Bytes) (x : C09.XorFile) (hL : C09.Layout stub nonce size enc x)
    (p : Nat) (hpos : x.fh.pos = stub.length + 8 + p) (ops : List C09.Op) (fuel : Nat) (hf : x.fh.data.length + 1 ≤ fuel) :
    match C09.plainRun { data := C09.rollDecode nonce enc, pos := p, kind := .bytesIO } ops with
    | .ok (outs, pf') =>
      runG fuel (encXor x) ops
        = .ok ((outs.map (C09.Out.shift (stub.length + 8))).map encOut, encXor (x.withPos (stub.length + 8 + pf'.pos)))
    | .error e => runG fuel (encXor x) ops = .error e := by
  have h := C09.history_refines_all_seeks stub nonce size enc x hL p hpos ops
  rw [gen_run x ops fuel hf]
  cases hp : C09.plainRun { data := C09.rollDecode nonce enc, pos := p, kind := .bytesIO } ops with
  | error e => rw [hp] at h; simp only at h ⊢; rw [h]; rfl
  | ok r =>
    obtain ⟨outs, pf'⟩ := r
    rw [hp] at h
    simp only at h ⊢
    rw [h]; rfl

/-- the same from the translated constructor call on the raw file, for the trace the correspondence runs compare -/
theorem gen_history_refines_all_seeks_from_open (stub nonce size enc : Bytes) (hn : nonce.length = 4) (hs : size.length = 4)
    (f : PyFile) (hd : f.data = stub ++ nonce ++ size ++ enc) (ops : List C09.Op) (fuel : Nat) (hf : f.data.length + 1 ≤ fuel) :
    ∃ x, Gen.PyXor.XorEncodedFile_new (encFile f) (.int (stub.length : Int)) = .ok (encXor x) ∧
      runTraceG fuel (encXor x) ops =
        ((C09.plainTrace { data := C09.rollDecode nonce enc, pos := 0, kind := .bytesIO } ops).map
          (C09.shiftOut (stub.length + 8))).map (fun r => r.map encOut) := by
  obtain ⟨x, hx, hL, hpos, _, _⟩ := C09.open_layout stub nonce size enc hn hs f hd
  refine ⟨x, ?_, ?_⟩
  · rw [gen_new, hx]; rfl
  · have hdx : x.fh.data = f.data := by rw [hL.data, hd]
    rw [gen_run_trace x ops fuel (by rw [hdx]; exact hf), C09.trace_refines_all_seeks hL 0 hpos ops]

/-! ### Non-vacuity: the translated definitions evaluated on concrete inputs -/

/-- stub `90`, nonce `01 02 03 04`, size dword, 6 encoded bytes -/
def exRaw : Bytes := [0x90] ++ [1, 2, 3, 4] ++ [9, 9, 9, 9] ++ [0x11, 0x22, 0x33, 0x44, 0x55, 0x66]

example : Gen.PyXor.XorEncodedFile_new (mkFile exRaw 0 0) (.int 1)
    = .ok (.inst Gen.PyXor.XorEncodedFile [mkFile exRaw 9 0, .int 1, .bytes [1, 2, 3, 4], .bytes [9, 9, 9, 9]]) := by decide +kernel

/-- open, `read(3)` (decodes one 4-byte chunk and seeks back one byte), `tell()` = 3 -/
example : (do
    let s ← Gen.PyXor.XorEncodedFile_new (mkFile exRaw 0 1) (.int 1)
    let r ← unpackRes (Gen.PyXor.XorEncodedFile_read 16 s (.int 3))
    let t ← unpackRes (Gen.PyXor.XorEncodedFile_tell r.2)
    pure (r.1, t.1) : Py (V × V)) = .ok (.bytes [0x10, 0x20, 0x30], .int 3) := by decide +kernel

/-- `read()` to the end from logical position 4: the nonce is the previous encoded dword -/
example : (do
    let s ← Gen.PyXor.XorEncodedFile_new (mkFile exRaw 0 0) (.int 1)
    let s1 ← unpackRes (Gen.PyXor.XorEncodedFile_seek s (.int 4) (.int 0))
    let r ← unpackRes (Gen.PyXor.XorEncodedFile_read 16 s1.2 .none)
    pure (s1.1, r.1) : Py (V × V)) = .ok (.int 13, .bytes [0x55 ^^^ 0x11, 0x66 ^^^ 0x22]) := by decide +kernel

/-- `seek(-1)` raises ValueError; `seek(-100, SEEK_CUR)` clamps at logical 0 (raw 9); `whence = 7` raises ValueError -/
example : (Gen.PyXor.XorEncodedFile_new (mkFile exRaw 0 0) (.int 1)).bind (fun s => Gen.PyXor.XorEncodedFile_seek s (.int (-1)) (.int 0))
    = .error .valueError := by decide +kernel
example : (do
    let s ← Gen.PyXor.XorEncodedFile_new (mkFile exRaw 0 1) (.int 1)
    let r ← unpackRes (Gen.PyXor.XorEncodedFile_seek s (.int (-100)) (.int 1))
    pure r.1 : Py V) = .ok (.int 9) := by decide +kernel
example : (Gen.PyXor.XorEncodedFile_new (mkFile exRaw 0 0) (.int 1)).bind (fun s => Gen.PyXor.XorEncodedFile_seek s (.int 0) (.int 7))
    = .error .valueError := by decide +kernel

/-- `read_nonce()` at raw position 2 of an OS file: the relative seek raises OSError, the handler runs (no exception comes out);
below logical position 4 the initial nonce is spliced in -/
example : (do
    let r ← unpackRes (Gen.PyXor.XorEncodedFile_read_nonce
      (.inst Gen.PyXor.XorEncodedFile [mkFile exRaw 2 1, .int 40, .bytes [1, 2, 3, 4], .bytes [9, 9, 9, 9]]))
    pure r.1 : Py V) = .ok (.bytes [1, 2, 3, 4]) := by decide +kernel

/-- `iter_nonce_offsets`: the size dword at offset 1 decodes to 6 = len(raw) - 1 - 8 -/
example : Gen.PyXor.iter_nonce_offsets (mkFile ([0x90] ++ [1, 2, 3, 4] ++ [7, 2, 3, 4] ++ [0x11, 0x22, 0x33, 0x44, 0x55, 0x66]) 0 0) .none (.int 1024)
    = .ok (.tuple [.list [.int 1], mkFile ([0x90] ++ [1, 2, 3, 4] ++ [7, 2, 3, 4] ++ [0x11, 0x22, 0x33, 0x44, 0x55, 0x66]) 15 0]) := by
  decide +kernel

-- wrong argument kinds
example : Gen.PyXor.iter_nonce_offsets .none .none (.int 4) = .error .attributeError := by decide +kernel
example : Gen.PyXor.iter_nonce_offsets (mkFile [1, 2] 0 0) (.int 3) (lit "4") = .error .typeError := by decide +kernel
example : Gen.PyXor.XorEncodedFile_new (mkFile exRaw 0 0) (.int (-1)) = .error .valueError := by decide +kernel
example : Gen.PyXor.XorEncodedFile_new (mkFile exRaw 0 1) (.int (-1)) = .error .osError := by decide +kernel
example : Gen.PyXor.XorEncodedFile_tell .none = .error .attributeError := by decide +kernel

end C09Gen

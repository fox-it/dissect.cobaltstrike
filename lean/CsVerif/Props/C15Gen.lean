import CsVerif.Gen.PyScan
import CsVerif.Props.C15
import CsVerif.Lemmas.C15Gen
/-!
C15 — the tie between the source text and the model, by (untyped) translation.

`Gen/PyScan.lean` is produced on every run by `tools/py2leanu.py` from the *source* of `utils.iter_find_needle` and
`artifact.iter_artifactkit_payloads`.  Both are GENERATOR functions over a FILE OBJECT of the caller: the translated definition
returns the tuple `(list of the yielded values, the file object afterwards)` — what `list(f(…))` returns and what the caller
then observes with `tell()`.  A file object is the value `PyU.mkFile data pos kind` (Model/PyU_T15.lean: `read` / `seek` /
`tell` with `PyFile`'s raising behaviour; `C15Gen.encFile` encodes a `PyFile`), `io.DEFAULT_BUFFER_SIZE` is the value parameter
`bufsize`, each `while True:` is a loop-body definition run by `PyU.whileFuel` (the inner `find` loop of `iter_find_needle`
inside the body of the block loop), `yield e` appends to the hidden list of yields.

`gen_iter_find_needle` / `gen_iter_artifactkit_payloads` state that the translated definitions compute, for EVERY file object
(content, position, kind), every needle (also the empty one), every buffer size (also 0), every start offset (also negative:
the `ValueError` / `OSError` of `seek`) and every limit, and for every fuel from an explicit bound in the file length on, exactly
the encoding of what the hand-written models `C15.iterFindNeedle` / `C15.iterArtifactkit` compute.  So the theorems of
`Props/C15.lean` are theorems about the function texts as they stand now (the corollaries below restate the central ones for
the translated definitions), and an edit that changes the meaning of either function breaks a proof here.
Helper lemmas: `Lemmas/C15Gen.lean`.
-/
namespace C15Gen
open PyU

/-! ### `iter_find_needle` -/

/-- the definition translated from the source of `iter_find_needle`, run with `io.DEFAULT_BUFFER_SIZE = B` on the encoding of
a file object, equals the encoding of the hand-written model — for every file, needle, start offset (`None` or any int), limit
and buffer size, and every fuel of at least `len(file) + 3` -/
theorem gen_iter_find_needle (B : Nat) (f : PyFile) (needle : Bytes) (start : Option Int) (maxOff : Nat) (fuel : Nat)
    (hf : f.data.length + 3 ≤ fuel) :
    Gen.PyScan.iter_find_needle (.int (B : Int)) fuel (encFile f) (.bytes needle) (encOptInt start) (.int (maxOff : Int))
      = (C15.iterFindNeedle B f needle start maxOff).map encNeedle := by
  have key : ∀ g : PyFile, g.data = f.data →
      (do
        let t24 ← whileFuel fuel (Gen.PyScan.iter_find_needle_loop1 (.int (B : Int)) fuel (.bytes needle) (.int (maxOff : Int))
          (.int ((needle.length : Int) - 1))) (encFile g, V.list [], V.bytes [])
        pure (V.tuple [t24.2.1, t24.1]) : Py V) = .ok (encNeedle (C15.needleLoop B needle maxOff g [])) := by
    intro g hd
    obtain ⟨s', hs'⟩ := gen_iter_find_needle_loop1 B needle maxOff fuel g [] [] fuel
      (by rw [hd, List.length_nil]; omega) (by rw [hd]; omega)
    simp only [hs', PyU.ok_bind, pure_ok, encNeedle, List.nil_append]
  unfold Gen.PyScan.iter_find_needle C15.iterFindNeedle
  cases start with
  | none =>
    simp only [encOptInt, isNone, len_bytes, sub_int, PyU.ok_bind, Bool.not_true, Bool.false_eq_true, ↓reduceIte, Except.map]
    exact key f rfl
  | some s =>
    simp only [encOptInt, isNone, len_bytes, sub_int, PyU.ok_bind, Bool.not_false, ↓reduceIte, fileSeek_set]
    cases hsk : f.seekSet s with
    | error e => rfl
    | ok r =>
      simp only [Except.map, PyU.ok_bind]
      exact key r.2 (seekSet_data hsk)

/-- the source defaults: `iter_find_needle(fp, needle)` is `start_offset=None, max_offset=0` -/
theorem gen_iter_find_needle_defaults (B : Nat) (f : PyFile) (needle : Bytes) (fuel : Nat) (hf : f.data.length + 3 ≤ fuel) :
    Gen.PyScan.iter_find_needle_default2 (.int (B : Int)) fuel (encFile f) (.bytes needle)
      = (C15.iterFindNeedle B f needle none 0).map encNeedle :=
  gen_iter_find_needle B f needle none 0 fuel hf

/-- a NEGATIVE `max_offset` (outside the model's `Nat`): the scan ends before the first block is read — nothing is reported,
the file is where `seek(start_offset)` left it (for any buffer-size value and any fuel ≥ 1) -/
theorem gen_iter_find_needle_neg_limit (bufsize : V) (f : PyFile) (needle : Bytes) (start : Option Int) (m : Int) (hm : m < 0)
    (fuel : Nat) (hf : 1 ≤ fuel) :
    Gen.PyScan.iter_find_needle bufsize fuel (encFile f) (.bytes needle) (encOptInt start) (.int m)
      = (match start with
         | none => (.ok f : Py PyFile)
         | some s => (f.seekSet s).map (fun (r : Nat × PyFile) => r.2)).map (fun f' => V.tuple [.list [], encFile f']) := by
  obtain ⟨fu, rfl⟩ : ∃ fu, fuel = fu + 1 := ⟨fuel - 1, by omega⟩
  have hm0 : truthy (.int m) = true := bne_iff_ne.mpr (by omega)
  have key : ∀ g : PyFile, whileFuel (fu + 1) (Gen.PyScan.iter_find_needle_loop1 bufsize (fu + 1) (.bytes needle) (.int m)
      (.int ((needle.length : Int) - 1))) (encFile g, .list [], .bytes []) = .ok (encFile g, .list [], .bytes []) := by
    intro g
    have hgt : PyU.gt (.int (g.pos : Int)) (.int m) = .ok true := by rw [gt_int, decide_eq_true (by omega)]
    refine whileFuel_brk fu ?_
    simp only [Gen.PyScan.iter_find_needle_loop1, fileTell_enc, PyU.ok_bind, hm0, hgt, ↓reduceIte, pure_ok]
  unfold Gen.PyScan.iter_find_needle
  cases start with
  | none =>
    simp only [encOptInt, isNone, len_bytes, sub_int, PyU.ok_bind, Bool.not_true, Bool.false_eq_true, if_false, key, pure_ok, Except.map]
  | some s =>
    simp only [encOptInt, isNone, len_bytes, sub_int, PyU.ok_bind, Bool.not_false, if_true, fileSeek_set]
    cases hsk : f.seekSet s with
    | error e => rfl
    | ok r => simp only [Except.map, PyU.ok_bind, key, pure_ok]

/-- **`needle_exact` for the translated definition**: without a limit the source text reports exactly the occurrences at or
after the start, ascending, and leaves the file at `max(start, EOF)` -/
theorem gen_needle_exact (B : Nat) (hB : 1 ≤ B) (f : PyFile) (needle : Bytes) (hn : needle ≠ [])
    (start : Option Int) (hs : ∀ s, start = some s → 0 ≤ s) (fuel : Nat) (hf : f.data.length + 3 ≤ fuel) :
    Gen.PyScan.iter_find_needle (.int (B : Int)) fuel (encFile f) (.bytes needle) (encOptInt start) (.int 0)
      = .ok (encNeedle (((C15.occ f.data needle).filter (fun i => C15.startPos f start ≤ i)).map Int.ofNat,
                        { f with pos := max (C15.startPos f start) f.data.length })) := by
  have := gen_iter_find_needle B f needle start 0 fuel hf
  rw [C15.needle_exact B hB f needle hn start hs] at this
  exact this

/-- **`needle_limit_exact` for the translated definition**: under a limit `max_offset > 0` the source text reports exactly the
occurrences kept by `limitKeeps` (block start ≤ limit and buffer index ≤ limit) and leaves the file at `limitEnd` -/
theorem gen_needle_limit_exact (B : Nat) (hB : 1 ≤ B) (f : PyFile) (needle : Bytes) (hn : needle ≠ [])
    (start : Option Int) (hs : ∀ s, start = some s → 0 ≤ s) (maxOff : Nat) (hm : 0 < maxOff) (fuel : Nat)
    (hf : f.data.length + 3 ≤ fuel) :
    Gen.PyScan.iter_find_needle (.int (B : Int)) fuel (encFile f) (.bytes needle) (encOptInt start) (.int (maxOff : Int))
      = .ok (encNeedle ((((C15.occ f.data needle).filter (fun o => C15.startPos f start ≤ o)).filter
                (C15.limitKeeps B needle.length (C15.startPos f start) maxOff)).map Int.ofNat,
             { f with pos := C15.limitEnd B maxOff f.data.length (C15.startPos f start) })) := by
  have := gen_iter_find_needle B f needle start maxOff fuel hf
  rw [C15.needle_limit_exact B hB f needle hn start hs maxOff hm] at this
  exact this

/-- a negative `start_offset` raises what `seek` raises (`ValueError` on BytesIO, `OSError` on an OS file) -/
theorem gen_needle_negative_start (B : Nat) (f : PyFile) (needle : Bytes) (s : Int) (hs : s < 0) (maxOff : Nat) (fuel : Nat)
    (hf : f.data.length + 3 ≤ fuel) :
    Gen.PyScan.iter_find_needle (.int (B : Int)) fuel (encFile f) (.bytes needle) (.int s) (.int (maxOff : Int))
      = .error f.negSeekExc := by
  have := gen_iter_find_needle B f needle (some s) maxOff fuel hf
  rw [C15.needle_negative_start B f needle s hs] at this
  exact this

/-- the answer of the translated definition does not depend on the fuel (from the bound on) -/
theorem gen_needle_fuel_independent (B : Nat) (f : PyFile) (needle : Bytes) (start : Option Int) (maxOff : Nat) (fuel fuel' : Nat)
    (hf : f.data.length + 3 ≤ fuel) (hf' : f.data.length + 3 ≤ fuel') :
    Gen.PyScan.iter_find_needle (.int (B : Int)) fuel (encFile f) (.bytes needle) (encOptInt start) (.int (maxOff : Int))
      = Gen.PyScan.iter_find_needle (.int (B : Int)) fuel' (encFile f) (.bytes needle) (encOptInt start) (.int (maxOff : Int)) := by
  rw [gen_iter_find_needle B f needle start maxOff fuel hf, gen_iter_find_needle B f needle start maxOff fuel' hf']

/-! ### `iter_artifactkit_payloads` -/

/-- the definition translated from the source of `iter_artifactkit_payloads` equals the encoding of the hand-written model — for
every file, start offset (`None` or any int) and `maxrange` (`None` or non-negative), and every fuel of at least `len(file) + 1` -/
theorem gen_iter_artifactkit_payloads (f : PyFile) (start : Option Int) (maxrange : Option Nat) (fuel : Nat)
    (hf : f.data.length + 1 ≤ fuel) :
    Gen.PyScan.iter_artifactkit_payloads fuel (encFile f) (encOptInt start) (encOptNat maxrange)
      = (C15.iterArtifactkit f start maxrange).map encArt := by
  have key : ∀ g : PyFile, g.data = f.data →
      (do
        let t2 ← fileTell (encFile g)
        let t18 ← whileFuel fuel (Gen.PyScan.iter_artifactkit_payloads_loop1 (encOptNat maxrange)) (encFile g, V.list [], t2)
        pure (V.tuple [t18.2.1, t18.1]) : Py V) = (C15.artLoop maxrange g g.tell).map encArt := by
    intro g hd
    have := gen_iter_artifactkit_payloads_loop maxrange g g.tell [] fuel (by rw [hd]; omega)
    simp only [fileTell_enc, PyU.ok_bind]
    cases hl : C15.artLoop maxrange g g.tell with
    | error e => rw [hl] at this; simp only [PyFile.tell] at this; rw [this]; rfl
    | ok r =>
      rw [hl] at this
      obtain ⟨s', hs'⟩ := this
      simp only [PyFile.tell] at hs'
      simp only [hs', PyU.ok_bind, pure_ok, Except.map, encArt, List.nil_append]
  unfold Gen.PyScan.iter_artifactkit_payloads C15.iterArtifactkit
  cases start with
  | none =>
    simp only [encOptInt, isNone, Bool.not_true, Bool.false_eq_true, ↓reduceIte]
    exact key f rfl
  | some s =>
    simp only [encOptInt, isNone, Bool.not_false, ↓reduceIte, fileSeek_set]
    cases hsk : f.seekSet s with
    | error e => rfl
    | ok r =>
      simp only [Except.map, PyU.ok_bind]
      exact key r.2 (seekSet_data hsk)

/-- the source defaults: `iter_artifactkit_payloads(fobj)` is `start_offset=0, maxrange=None` -/
theorem gen_iter_artifactkit_payloads_defaults (f : PyFile) (fuel : Nat) (hf : f.data.length + 1 ≤ fuel) :
    Gen.PyScan.iter_artifactkit_payloads_default2 fuel (encFile f)
      = (C15.iterArtifactkit f (some 0) none).map encArt :=
  gen_iter_artifactkit_payloads f (some 0) none fuel hf

/-- **`artifact_exact` for the translated definition**: the source text reports exactly the records of `artifactHits` -/
theorem gen_artifact_exact (f : PyFile) (start : Option Int) (hs : ∀ s, start = some s → 0 ≤ s) (maxrange : Option Nat)
    (fuel : Nat) (hf : f.data.length + 1 ≤ fuel) :
    ∃ f', Gen.PyScan.iter_artifactkit_payloads fuel (encFile f) (encOptInt start) (encOptNat maxrange)
        = .ok (encArt (C15.artifactHits f.data (C15.startPos f start) maxrange, f')) ∧ f'.data = f.data := by
  obtain ⟨f', h, hd⟩ := C15.artifact_exact f start hs maxrange
  refine ⟨f', ?_, hd⟩
  rw [gen_iter_artifactkit_payloads f start maxrange fuel hf, h]
  rfl

theorem gen_artifact_negative_start (f : PyFile) (s : Int) (hs : s < 0) (maxrange : Option Nat) (fuel : Nat)
    (hf : f.data.length + 1 ≤ fuel) :
    Gen.PyScan.iter_artifactkit_payloads fuel (encFile f) (.int s) (encOptNat maxrange) = .error f.negSeekExc := by
  have := gen_iter_artifactkit_payloads f (some s) maxrange fuel hf
  rw [C15.artifact_negative_start f s hs] at this
  exact this

/-! ### Non-vacuity: the translated definitions evaluated on concrete inputs -/

-- needle `01 00` in `00 01 00 01 00`, blocks of 2: both occurrences straddle a block boundary
example : Gen.PyScan.iter_find_needle (.int 2) 8 (mkFile [0, 1, 0, 1, 0] 0 0) (.bytes [1, 0]) (.int 0) (.int 0)
    = .ok (.tuple [.list [.int 1, .int 3], mkFile [0, 1, 0, 1, 0] 5 0]) := by decide +kernel
-- the input of the repaired defect (fc7bca0), on an OS file, from the current position
example : Gen.PyScan.iter_find_needle (.int 8192) 7 (mkFile [1, 0x61, 0x62, 0x63] 0 1) (.bytes [0, 1]) .none (.int 0)
    = .ok (.tuple [.list [], mkFile [1, 0x61, 0x62, 0x63] 4 1]) := by decide +kernel
-- the limit depends on the buffer size (five `01`, `max_offset = 2`): B = 4 reports 0..2, B = 2 also 3
example : Gen.PyScan.iter_find_needle (.int 4) 8 (mkFile [1, 1, 1, 1, 1] 0 0) (.bytes [1]) (.int 0) (.int 2)
    = .ok (.tuple [.list [.int 0, .int 1, .int 2], mkFile [1, 1, 1, 1, 1] 4 0]) := by decide +kernel
example : Gen.PyScan.iter_find_needle (.int 2) 8 (mkFile [1, 1, 1, 1, 1] 0 0) (.bytes [1]) (.int 0) (.int 2)
    = .ok (.tuple [.list [.int 0, .int 1, .int 2, .int 3], mkFile [1, 1, 1, 1, 1] 4 0]) := by decide +kernel
-- negative start offset: ValueError on BytesIO, OSError on an OS file
example : Gen.PyScan.iter_find_needle (.int 4) 8 (mkFile [1, 2] 0 0) (.bytes [1]) (.int (-1)) (.int 0) = .error .valueError := by
  decide +kernel
example : Gen.PyScan.iter_find_needle (.int 4) 8 (mkFile [1, 2] 0 1) (.bytes [1]) (.int (-1)) (.int 0) = .error .osError := by
  decide +kernel
-- too little fuel is a Timeout, never a wrong answer
example : Gen.PyScan.iter_find_needle (.int 1) 2 (mkFile [1, 1, 1] 0 0) (.bytes [1]) (.int 0) (.int 0) = .error .timeoutDiverge := by
  decide +kernel
-- wrong argument kinds: `len(None)`, `None.tell()`, a `str` needle (`bytes.find(str)`), a `bytes` limit (`int > bytes`)
example : Gen.PyScan.iter_find_needle (.int 4) 8 (mkFile [1, 2] 0 0) .none .none (.int 0) = .error .typeError := by decide +kernel
example : Gen.PyScan.iter_find_needle (.int 4) 8 .none (.bytes [1]) .none (.int 0) = .error .attributeError := by decide +kernel
example : Gen.PyScan.iter_find_needle (.int 4) 8 (mkFile [1, 2] 0 0) (lit "a") .none (.int 0) = .error .typeError := by decide +kernel
example : Gen.PyScan.iter_find_needle (.int 4) 8 (mkFile [1, 2] 0 0) (.bytes [1]) .none (.bytes [1]) = .error .typeError := by
  decide +kernel
-- an ArtifactKit header at offset 2 (`18 = 2 + 16`), size 3, key `01 02 03 04`
example : Gen.PyScan.iter_artifactkit_payloads 30
    (mkFile [9, 9, 18, 0, 0, 0, 3, 0, 0, 0, 1, 2, 3, 4, 1, 2, 3, 4, 5, 6, 7, 8, 0x11, 0x22, 0x33, 0x44] 0 0) (.int 0) .none
    = .ok (.tuple [.list [.inst Gen.PyScan.ArtifactKitPayload
        [.int 2, .int 3, .bytes [1, 2, 3, 4], .bytes [1, 2, 3, 4, 5, 6, 7, 8], .bytes [0x10, 0x20, 0x30]]],
        mkFile [9, 9, 18, 0, 0, 0, 3, 0, 0, 0, 1, 2, 3, 4, 1, 2, 3, 4, 5, 6, 7, 8, 0x11, 0x22, 0x33, 0x44] 26 0]) := by
  decide +kernel
example : Gen.PyScan.iter_artifactkit_payloads 5 (mkFile [16, 0, 0, 0] 0 1) (.int (-3)) .none = .error .osError := by decide +kernel
example : Gen.PyScan.iter_artifactkit_payloads 5 (mkFile [16, 0, 0, 0] 0 0) (.int 0) (lit "x") = .error .typeError := by decide +kernel

end C15Gen

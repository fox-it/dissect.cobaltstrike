import CsVerif.Gen.PyC2Prof
import CsVerif.Props.C12
import CsVerif.Lemmas.C12Gen
/-!
C12 — the tie between the source text and the model, by (untyped) translation.

`Gen/PyC2Prof.lean` is produced on every run by `tools/py2leanu.py` from the *source* of `c2profile.value_to_string`,
`c2profile.string_token_to_bytes` and the five methods of the class `c2profile.StringIterator`: every Python value is a
`PyU.V`, every Python operation one total function of `lean/CsVerif/Model/PyU.lean` / `PyU_T12.lean`.  A `StringIterator` is
the value `V.inst StringIteratorCls [buffer, index]`, threaded through the calls of its methods (a method that assigns an
attribute answers `(result, self afterwards)`); `for c in it:` is `it.__iter__()` followed by one `it.__next__()` per run of
the loop body (a separate definition run by `PyU.whileFuelS`) until `StopIteration`, which lives in the monad `PyU.PyS`
(`PyExc` plus `StopIteration`).  `lark.Token` is the class descriptor `Token` with the attributes `type` and `value`.

`gen_value_to_string` / `gen_value_to_string_str` / `gen_string_token_to_bytes` state that the translated definitions compute,
for every `bytes` argument / every latin-1 `str` argument / every `Token("STRING", text)` with arbitrary code points and every
fuel above the length of the token body, exactly the encoding of what the hand-written model (`C12.valueToString`,
`C12.valueToStringStr`, `C12.stringTokenToBytesCP`) computes — including the `ValueError`s of truncated `\x` / `\u` escapes and
of `int(·, 16)`, and never `StopIteration`.  So every theorem of `Props/C12.lean` is a theorem about the function text
(the corollaries below restate the central ones for the translated definitions), and an edit of one of the
functions that changes its meaning breaks the proof here.  Helper lemmas: `Lemmas/C12Gen.lean`.
-/
namespace C12Gen
open PyU

/-- `value_to_string(bs)` for every `bytes` argument -/
theorem gen_value_to_string (bs : Bytes) :
    Gen.PyC2Prof.value_to_string (.bytes bs) = .ok (latin (C12.valueToString bs)) :=
  gen_value_to_string_proof bs

/-- `value_to_string(s)` for every latin-1 `str` argument (the domain of the hand-written model `C12.valueToStringStr`) -/
theorem gen_value_to_string_str (t : C12.Txt) :
    Gen.PyC2Prof.value_to_string (latin t) = .ok (latin (C12.valueToStringStr t)) := by
  simp only [↓reduceIte, Gen.PyC2Prof.value_to_string, latin, PyU.isInstance, List.any, PyU.isInst1, Bool.or_false, Bool.false_eq_true,
    lit_dq, lit_bsl_dq, lit_bsl_sq, lit_sq, PyU.strReplace, replaceL_tn, PyU.ok_bind, PyU.fmt, beq_self_eq_true, cps_dq,
    C12.valueToStringStr, tn, List.map_append]
  rfl

/-- `string_token_to_bytes(Token("STRING", text))` for token text of arbitrary code points, for every fuel above the length of
the token body `text[1:-1]`: the model's result, in the monad with `StopIteration` (which is never raised) -/
theorem gen_string_token_to_bytes (text : List Nat) (fuel : Nat) (hf : text.length - 2 < fuel) :
    Gen.PyC2Prof.string_token_to_bytes fuel (stringToken text) = liftS ((C12.stringTokenToBytesCP text).map .bytes) :=
  gen_string_token_to_bytes_proof text fuel hf

/-- the same for latin-1 token text, against the byte-level decoder the property theorems are stated on -/
theorem gen_string_token_to_bytes_latin1 (t : C12.Txt) (fuel : Nat) (hf : t.length - 2 < fuel) :
    Gen.PyC2Prof.string_token_to_bytes fuel (tokenV (lit "STRING") (latin t)) = liftS ((C12.stringTokenToBytes t).map .bytes) := by
  have h := gen_string_token_to_bytes (t.map (·.toNat)) fuel (by simpa using hf)
  rw [C12.decode_latin1_codepoints] at h
  exact h

/-- an argument that is not a `Token` is returned as it is -/
theorem gen_string_token_to_bytes_not_token (v : V) (fuel : Nat) (h : isInstance v [Ty.cls Gen.PyC2Prof.Token] = false) :
    Gen.PyC2Prof.string_token_to_bytes fuel v = .ok v :=
  gen_string_token_to_bytes_not_token_proof v fuel h

/-- a `Token` whose type is not `"STRING"` is returned as it is -/
theorem gen_string_token_to_bytes_other_type (ty value : V) (fuel : Nat) (h : PyU.eq ty (lit "STRING") = false) :
    Gen.PyC2Prof.string_token_to_bytes fuel (tokenV ty value) = .ok (tokenV ty value) :=
  gen_string_token_to_bytes_other_type_proof ty value fuel h

/-! ### the property theorems, restated for the translated definitions -/

/-- `literal_roundtrip`: the text the source of `value_to_string` produces for `bs`, read by the source of
`string_token_to_bytes`, gives `bs` back — for every byte string and every fuel above four times its length -/
theorem gen_literal_roundtrip (bs : Bytes) (fuel : Nat) (hf : 4 * bs.length < fuel) :
    (do let s ← liftS (Gen.PyC2Prof.value_to_string (.bytes bs))
        Gen.PyC2Prof.string_token_to_bytes fuel (tokenV (lit "STRING") s)) = .ok (.bytes bs) := by
  have hl : (C12.valueToString bs).length - 2 < fuel := by
    have := C12.valueToString_length_le bs
    omega
  rw [gen_value_to_string]
  simp only [liftS, PyU.liftS, okS_bind]
  rw [gen_string_token_to_bytes_latin1 _ fuel hl, C12.literal_roundtrip]
  rfl

/-- `literal_single_token`: the text the source of `value_to_string` produces is exactly one STRING token, whatever follows -/
theorem gen_literal_single_token (bs : Bytes) (rest : C12.Txt) :
    ∃ t, Gen.PyC2Prof.value_to_string (.bytes bs) = .ok (latin t) ∧ C12.scanString (t ++ rest) = some (t, rest) :=
  ⟨C12.valueToString bs, gen_value_to_string bs, C12.literal_single_token bs rest⟩

/-- every character the source of `value_to_string` produces for `bytes` is printable ASCII -/
theorem gen_literal_printable_ascii (bs : Bytes) :
    ∃ t, Gen.PyC2Prof.value_to_string (.bytes bs) = .ok (latin t) ∧ ∀ c ∈ t, 0x20 ≤ c ∧ c < 0x7f :=
  ⟨C12.valueToString bs, gen_value_to_string bs, C12.literal_printable_ascii bs⟩

/-- `decode_units`: a token body that is any sequence of well-formed units decodes to the concatenation of the units' bytes -/
theorem gen_decode_units (us : List C12.Esc) (hwf : ∀ e ∈ us, e.WF) (fuel : Nat)
    (hf : ([C12.dq] ++ us.flatMap C12.Esc.text ++ [C12.dq]).length - 2 < fuel) :
    Gen.PyC2Prof.string_token_to_bytes fuel (tokenV (lit "STRING") (latin ([C12.dq] ++ us.flatMap C12.Esc.text ++ [C12.dq])))
      = .ok (.bytes (us.flatMap C12.Esc.vals)) := by
  rw [gen_string_token_to_bytes_latin1 _ fuel hf, C12.decode_units us hwf]; rfl

/-- `decode_truncated_escape`: `\x` with fewer than two following characters raises ValueError -/
theorem gen_decode_truncated_hex (us : List C12.Esc) (hwf : ∀ e ∈ us, e.WF) (r : C12.Txt) (hr : r.length < 2) (fuel : Nat)
    (hf : ([C12.dq] ++ us.flatMap C12.Esc.text ++ C12.bsl :: 120 :: r ++ [C12.dq]).length - 2 < fuel) :
    Gen.PyC2Prof.string_token_to_bytes fuel
        (tokenV (lit "STRING") (latin ([C12.dq] ++ us.flatMap C12.Esc.text ++ C12.bsl :: 120 :: r ++ [C12.dq])))
      = .error (.py .valueError) := by
  rw [gen_string_token_to_bytes_latin1 _ fuel hf, (C12.decode_truncated_escape us hwf r).1 hr]; rfl

/-! ### Non-vacuity: the translated definitions evaluated on concrete inputs -/

-- value_to_string(b'A"\\\'\n\x00\xff') = '"A\\"\\\\\'\\n\\x00\\xff"'
example : Gen.PyC2Prof.value_to_string (.bytes [0x41, 0x22, 0x5c, 0x27, 0x0a, 0x00, 0xff])
    = .ok (.str [0x22, 0x41, 0x5c, 0x22, 0x5c, 0x5c, 0x27, 0x5c, 0x6e, 0x5c, 0x78, 0x30, 0x30, 0x5c, 0x78, 0x66, 0x66, 0x22]) := by
  decide +kernel
-- value_to_string('a"b\\\'c') = '"a\\"b\'c"'
example : Gen.PyC2Prof.value_to_string (lit "a\"b\\'c") = .ok (lit "\"a\\\"b'c\"") := by decide +kernel
-- value_to_string(5) = '"5"', value_to_string(None) = '"None"'
example : Gen.PyC2Prof.value_to_string (.int 5) = .ok (lit "\"5\"") := by decide +kernel
example : Gen.PyC2Prof.value_to_string .none = .ok (lit "\"None\"") := by decide +kernel
-- string_token_to_bytes(Token("STRING", '"a\\x41\\n\\u00ffz\\\\"')) = b'aA\n\xffz\\'
example : Gen.PyC2Prof.string_token_to_bytes 40 (tokenV (lit "STRING") (lit "\"a\\x41\\n\\u00ffz\\\\\""))
    = .ok (.bytes [0x61, 0x41, 0x0a, 0xff, 0x7a, 0x5c]) := by decide +kernel
-- a truncated escape, a malformed hexadecimal number: ValueError
example : Gen.PyC2Prof.string_token_to_bytes 40 (tokenV (lit "STRING") (lit "\"a\\x4\"")) = .error (.py .valueError) := by
  decide +kernel
example : Gen.PyC2Prof.string_token_to_bytes 40 (tokenV (lit "STRING") (lit "\"\\xg1\"")) = .error (.py .valueError) := by
  decide +kernel
-- `int("+4", 16)`, an unknown escape and a lone trailing backslash: b'\x04\\'
example : Gen.PyC2Prof.string_token_to_bytes 40 (tokenV (lit "STRING") (lit "\"\\x+4\\q\\\"")) = .ok (.bytes [4, 0x5c]) := by
  decide +kernel
-- code points above U+00FF are masked with 0xFF: "\u0141" is read as "A"
example : Gen.PyC2Prof.string_token_to_bytes 40 (stringToken [0x22, 0x141, 0x22]) = .ok (.bytes [0x41]) := by decide +kernel
-- too little fuel: Timeout (4 characters need 5 runs of the loop body)
example : Gen.PyC2Prof.string_token_to_bytes 4 (tokenV (lit "STRING") (lit "\"abcd\"")) = .error (.py .timeoutDiverge) := by
  decide +kernel
example : Gen.PyC2Prof.string_token_to_bytes 5 (tokenV (lit "STRING") (lit "\"abcd\"")) = .ok (.bytes [0x61, 0x62, 0x63, 0x64]) := by
  decide +kernel
-- not a STRING token / not a token: returned unchanged; a token whose value is not a `str`: `ord(97)` is a TypeError
example : Gen.PyC2Prof.string_token_to_bytes 40 (tokenV (lit "NAME") (lit "\"a\"")) = .ok (tokenV (lit "NAME") (lit "\"a\"")) := by
  decide +kernel
example : Gen.PyC2Prof.string_token_to_bytes 40 (.int 5) = .ok (.int 5) := by decide +kernel
example : Gen.PyC2Prof.string_token_to_bytes 40 (tokenV (lit "STRING") (.bytes [0x22, 0x61, 0x22])) = .error (.py .typeError) := by
  decide +kernel

end C12Gen

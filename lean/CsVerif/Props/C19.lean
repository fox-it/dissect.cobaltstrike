import CsVerif.Lemmas.C19
/-!
C19 — "The beacon client keeps a stable identity and dispatches tasks exactly once".

Modelled, not verified: Mersenne Twister (`aesRand` is an abstract function of the normalised id), sha256,
CPython's UTF-8 codec (`utf8Encode` / `utf8DecodeIgnore` of Model/C19.lean, validated by the `enc`/`dec` correspondence streams),
float rounding in `get_sleep_time` (the theorem is about exact rational arithmetic), handler bodies (a handler
is `callable?`, `truthy?`, `raises?`, `responds?`; handlers that themselves re-register handlers are outside the model).
-/
namespace C19
open Client

/-! ### identity -/

/-- ∀ requested id (any integer): the id is rejected, or the presented id is even and in `[0, 2^31)`. -/
theorem beacon_id_range (id : Int) :
    normaliseId id = .error .valueError ∨
    ∃ r, normaliseId id = .ok r ∧ r % 2 = 0 ∧ 0 ≤ r ∧ r < 2147483648 := by
  rw [normaliseId_spec]
  split
  · exact Or.inl rfl
  · exact Or.inr ⟨_, rfl, by omega, by omega, by omega⟩

/-- in-range ids are presented with their lowest bit cleared and never rejected -/
theorem beacon_id_value (id : Int) (h0 : 0 ≤ id) (h1 : id < 2147483648) :
    normaliseId id = .ok (id - id % 2) := by
  rw [normaliseId_spec, if_neg (by omega)]
  congr 1
  omega

/-- exactly the ids whose residue modulo 2^32 lies in the upper half are rejected
(e.g. every id in `[-2^31, -1]`, `2^31 … 2^32-1`, `2^32 + 2^31`), … -/
theorem beacon_id_rejected_iff (id : Int) :
    normaliseId id = .error .valueError ↔ 2147483648 ≤ id % 4294967296 := by
  rw [normaliseId_spec]
  split <;> simp [*]

/-- … every other id (including `2^32 + k` and `-2^32 + k` for small `k ≥ 0`) is silently reduced modulo 2^32 -/
theorem beacon_id_accepted (id : Int) (h : id % 4294967296 < 2147483648) :
    normaliseId id = .ok (id % 4294967296 - id % 2) := by
  rw [normaliseId_spec, if_neg (by omega)]

/-- the presented id is a fixed point: asking for it again yields it again -/
theorem beacon_id_stable (id r : Int) (h : normaliseId id = .ok r) : normaliseId r = .ok r := by
  rw [normaliseId_spec] at h
  split at h
  · cases h
  · injection h with h
    rw [normaliseId_spec, if_neg (by omega)]
    congr 1
    omega

/-- without a requested id (`beacon_id=None`) the draw `getrandbits(32) & 0x7FFFFFFF` is never rejected -/
theorem default_id_accepted (rand32 : Int) :
    defaultId rand32 = .ok (rand32 % 2147483648 - rand32 % 2) ∧
    (rand32 % 2147483648 - rand32 % 2) % 2 = 0 ∧ 0 ≤ rand32 % 2147483648 - rand32 % 2 ∧
    rand32 % 2147483648 - rand32 % 2 < 2147483648 := by
  unfold defaultId
  rw [pyAndMask31_eq_mod, normaliseId_spec, if_neg (by omega)]
  refine ⟨?_, by omega, by omega, by omega⟩
  congr 1
  omega

/-- two runs that present the same beacon id use the same `aes_rand`, AES key and HMAC key — whatever the
requested ids and names were -/
theorem keys_function_of_id (p : Prims) (id₁ id₂ : Int) (c₁ u₁ q₁ c₂ u₂ q₂ : Txt) (a b : Identity)
    (h₁ : run p id₁ c₁ u₁ q₁ = .ok a) (h₂ : run p id₂ c₂ u₂ q₂ = .ok b) (h : a.beaconId = b.beaconId) :
    a.keys = b.keys := by
  rw [(run_ok h₁).2.1, (run_ok h₂).2.1, h]

/-- the same requested id gives the same presented id and keys, independent of the names -/
theorem keys_same_request (p : Prims) (id : Int) (c₁ u₁ q₁ c₂ u₂ q₂ : Txt) (a b : Identity)
    (h₁ : run p id c₁ u₁ q₁ = .ok a) (h₂ : run p id c₂ u₂ q₂ = .ok b) :
    a.beaconId = b.beaconId ∧ a.keys = b.keys := by
  have hid : a.beaconId = b.beaconId := Except.ok.inj ((run_ok h₁).1.symm.trans (run_ok h₂).1)
  exact ⟨hid, keys_function_of_id p id id c₁ u₁ q₁ c₂ u₂ q₂ a b h₁ h₂ hid⟩

/-- the id a successful run presents is even and in `[0, 2^31)`, and the keys are those derived from it;
both keys are 16 bytes when sha256 yields 32 -/
theorem run_identity (p : Prims) (id : Int) (c u q : Txt) (a : Identity) (h : run p id c u q = .ok a) :
    normaliseId id = .ok a.beaconId ∧ a.beaconId % 2 = 0 ∧ 0 ≤ a.beaconId ∧ a.beaconId < 2147483648 ∧
    a.keys = deriveKeys p a.beaconId ∧
    ((∀ x, (p.sha256 x).length = 32) → a.keys.aesKey.length = 16 ∧ a.keys.hmacKey.length = 16) := by
  obtain ⟨hn, hk, _⟩ := run_ok h
  rcases beacon_id_range id with he | ⟨r, hr, h1, h2, h3⟩
  · rw [hn] at he; cases he
  · obtain rfl := Except.ok.inj (hn.symm.trans hr)
    refine ⟨hn, h1, h2, h3, hk, fun hl => ?_⟩
    simp [hk, deriveKeys, hl]

/-! ### sleep -/

/-- `t = num/den = sleeptime − u·(sleeptime·jitter/100)` in exact arithmetic (float rounding is not modelled).
For `sleeptime ≥ 0`, `jitter ≥ 0` and a uniform draw `u = un/ud ∈ [0,1]`:
`sleeptime·(1 − jitter/100) ≤ t ≤ sleeptime` (both sides multiplied by the positive denominators), and for
`jitter ≤ 100` the lower end of the band — hence `t` — is non-negative (`time.sleep` rejects negative values). -/
theorem sleep_in_band (s j : Int) (u : Frac) (hs : 0 ≤ s) (hj0 : 0 ≤ j) (hu0 : 0 ≤ u.num) (hu1 : u.num ≤ u.den) :
    s * (100 - j) * u.den ≤ (getSleepTime s j u).num ∧
    (getSleepTime s j u).num ≤ s * (getSleepTime s j u).den ∧
    (getSleepTime s j u).den = 100 * u.den ∧
    (j ≤ 100 → 0 ≤ (getSleepTime s j u).num) := by
  obtain ⟨h1, h2⟩ := sleep_band_scaled s j u hs hj0 hu0 hu1
  refine ⟨h1, h2, rfl, fun hj1 => ?_⟩
  have : 0 ≤ s * (100 - j) * (u.den : Int) :=
    Int.mul_nonneg (Int.mul_nonneg hs (by omega)) (Int.natCast_nonneg _)
  omega

/-- jitter 0 or the draw `u = 0`: exactly `sleeptime` -/
theorem sleep_no_jitter (s : Int) (u : Frac) : (getSleepTime s 0 u).num = s * (getSleepTime s 0 u).den := by
  simp only [getSleepTime, Int.mul_zero, Int.sub_zero, Int.natCast_mul]
  simp only [Int.mul_comm]; rfl

/-! ### metadata -/

/-- `metadata.info` never exceeds 51 bytes, for all names (any code points, any length) -/
theorem info_fits (computer user process : Txt) (info : Bytes) (h : mkInfo computer user process = .ok info) :
    info.length ≤ 51 := by
  cases henc : utf8Encode (computer ++ [9] ++ user ++ [9] ++ process) with
  | error x => simp only [mkInfo, henc] at h; cases h
  | ok enc =>
    have := (mkInfo_sublist henc h).length_le
    rw [List.length_take] at this
    omega

/-- `metadata.info` is a subsequence of the bytes of the encoded `computer\tuser\tprocess` prefix: truncation only
removes bytes, it never invents any -/
theorem info_subsequence (computer user process : Txt) (info enc : Bytes)
    (he : utf8Encode (computer ++ [9] ++ user ++ [9] ++ process) = .ok enc)
    (h : mkInfo computer user process = .ok info) : List.Sublist info (enc.take 51) :=
  mkInfo_sublist he h

/-- exact characterisation: `metadata.info` is the encoding of the longest prefix of whole characters of
`computer\tuser\tprocess` whose encoding fits in 51 bytes (`fitPrefix`, see `info_prefix_longest`); it is a prefix of
the full encoding -/
theorem info_exact (computer user process : Txt) (enc : Bytes)
    (he : utf8Encode (computer ++ [9] ++ user ++ [9] ++ process) = .ok enc) :
    mkInfo computer user process = utf8Encode (fitPrefix (computer ++ [9] ++ user ++ [9] ++ process) 51) ∧
    ∃ info, mkInfo computer user process = .ok info ∧ info <+: enc := by
  have h1 : mkInfo computer user process =
      utf8Encode (fitPrefix (computer ++ [9] ++ user ++ [9] ++ process) 51) := by
    simp only [mkInfo, he]
    rw [decode_take_encode _ enc 51 he]
  obtain ⟨e, h2, h3, _⟩ := encode_fitPrefix _ enc 51 he
  exact ⟨h1, e, h1.trans h2, h3⟩

/-- `fitPrefix s n` is a prefix of `s`, needs at most `n` bytes, and the next character (if any) does not fit -/
theorem info_prefix_longest (s : Txt) (n : Nat) :
    fitPrefix s n <+: s ∧ byteLen (fitPrefix s n) ≤ n ∧
    (∀ c rest, s = fitPrefix s n ++ c :: rest → n < byteLen (fitPrefix s n) + cpLen c) := by
  fun_induction fitPrefix s n with
  | case1 n => exact ⟨List.prefix_refl _, Nat.zero_le _, nofun⟩
  | case2 a as n hfit ih =>
    obtain ⟨i1, i2, i3⟩ := ih
    refine ⟨by simpa using i1, ?_, fun c rest h => ?_⟩
    · simp only [byteLen, List.map_cons, List.sum_cons] at i2 ⊢; omega
    · have := i3 c rest (List.cons.inj h).2
      simp only [byteLen, List.map_cons, List.sum_cons] at this ⊢; omega
  | case3 a as n hfit =>
    refine ⟨List.nil_prefix, Nat.zero_le _, fun c rest h => ?_⟩
    obtain ⟨rfl, _⟩ := List.cons.inj h
    simp only [byteLen, List.map_nil, List.sum_nil]; omega

/-- the only way `mkInfo` fails is that the names cannot be encoded (lone surrogates) -/
theorem info_total (computer user process : Txt) (enc : Bytes)
    (he : utf8Encode (computer ++ [9] ++ user ++ [9] ++ process) = .ok enc) :
    ∃ info, mkInfo computer user process = .ok info := by
  obtain ⟨info, h, _⟩ := (info_exact computer user process enc he).2
  exact ⟨info, h⟩

/-- the serialised metadata (fixed part generated from the structure definition + info) fits PKCS#1 v1.5 with a
1024-bit or 2048-bit server key: `len ≤ k − 11` -/
theorem metadata_fits (computer user process : Txt) (info : Bytes) (h : mkInfo computer user process = .ok info)
    (k : Nat) (hk : k = 128 ∨ k = 256) : metadataLen info ≤ k - 11 := by
  have := info_fits computer user process info h
  have hf : Gen.Commands.metadataFixedLen = 59 := by decide
  unfold metadataLen
  rcases hk with rfl | rfl <;> omega

/-- before 3b4d3d6 (`info[:51]` on characters) the statement of `info_fits`/`metadata_fits` was false -/
theorem info_fits_refutes_old :
    ¬ ∀ (computer user process : Txt) (info : Bytes), Old.mkInfo computer user process = .ok info → info.length ≤ 51 := by
  intro h
  have := h (List.replicate 30 0x20AC) [] [] _ rfl
  revert this
  decide

/-! ### dispatch -/

/-- after any registration script the dict holds, for every key, exactly the handlers registered for it, in
registration order and with repetitions; attributes resolve instance-first -/
theorem task_map_content (regs : List Reg) :
    (∀ k, (build regs).stored k = registeredFor regs k) ∧ (∀ n, (build regs).getattr n = attrOf regs n) :=
  ⟨(build_spec regs).2.1, (build_spec regs).2.2⟩

/-- The central statement, for an arbitrary implementation `loop` of the beacon loop:
for every registration script (decorator / register_task / catch-all / on_* attributes, any order, repetitions) and
EVERY sequence of `get_task()` results (no task, commands known to `BeaconCommand`, and unknown command ids alike),
the loop runs to the end of the script without an escaping exception, the events are the concatenation over the
tasks of `specStep` — which depends on the task and the registrations only, not on the position in the sequence —
and the dict `task_map` (keys and list contents) is the same afterwards. -/
def DispatchExact (loop : Bool → Client → List (Option Int) → Client × List Event × Option PyExc) : Prop :=
  ∀ (regs : List Reg) (silent : Bool) (tasks : List (Option Int)),
    ∃ c', loop silent (build regs) tasks = (c', tasks.flatMap (specStep regs silent), none) ∧
      c'.view = (build regs).view

theorem dispatch_exact : DispatchExact runLoop := by
  intro regs silent tasks
  obtain ⟨hw, _, _⟩ := build_spec regs
  obtain ⟨c', h1, h2⟩ := runLoop_spec silent tasks (build regs) hw
  refine ⟨c', ?_, h2.view hw⟩
  rw [h1, (build_registered regs).specStepC]

/-- the behaviour before 7330121 (appending `on_<name>` to the stored list) falsifies the same statement:
one decorator handler for COMMAND_DIE, an `on_die` method, two COMMAND_DIE tasks -/
theorem dispatch_exact_refutes_old : ¬ DispatchExact Old.runLoop := by
  intro h
  let h1 : Handler := ⟨1, true, true, false, false⟩
  let h2 : Handler := ⟨2, true, true, false, false⟩
  let regs : List Reg := [.handle (.int 3) h1, .classAttr [111, 110, 95, 100, 105, 101] h2]
  obtain ⟨c', e, _⟩ := h regs false [some 3, some 3]
  have : (Old.runLoop false (build regs) [some 3, some 3]).2.1 = [some 3, some 3].flatMap (specStep regs false) := by
    rw [e]
  revert this
  decide

/-- the dict is also what the old behaviour changed: same witness, `task_map` differs after the loop -/
theorem task_map_unchanged_refutes_old :
    ¬ ∀ (regs : List Reg) (tasks : List (Option Int)),
      (Old.runLoop false (build regs) tasks).1.view = (build regs).view := by
  intro h
  have := h [.handle (.int 3) ⟨1, true, true, false, false⟩,
             .classAttr [111, 110, 95, 100, 105, 101] ⟨2, true, true, false, false⟩] [some 3]
  revert this
  decide

/-- the behaviour before c54c447 (`BeaconCommand(command_id)` unguarded: a command id that is not a member raised
ValueError out of the loop) falsifies the statement: one catch-all handler, one task with command id 9999 -/
theorem dispatch_exact_refutes_old_lookup : ¬ DispatchExact OldLookup.runLoop := by
  intro h
  obtain ⟨c', e, _⟩ := h [.catchAll ⟨1, true, true, false, false⟩] false [some 9999]
  have : (OldLookup.runLoop false (build [.catchAll ⟨1, true, true, false, false⟩]) [some 9999]).2.2 = none := by
    rw [e]
  revert this
  decide

/-- a task whose command id is not a `BeaconCommand` value is dispatched like any other: to the handlers registered
for that id (plus a truthy attribute `on_unknown_<id>`, should a subclass define one), else to the catch-all
handlers -/
theorem dispatch_unknown_command (regs : List Reg) (silent : Bool) (id : Int) (hu : commandName id = none) :
    methodName (some id) = txtOn_ ++ txtUnknown_ ++ intDecimal id ∧
    specStep regs silent (some id) =
      invoke (let own := registeredFor regs (some id) ++ truthyAttr (attrOf regs (txtOn_ ++ txtUnknown_ ++ intDecimal id))
              if own.isEmpty then registeredFor regs (some (-1)) ++ truthyAttr (attrOf regs txtOnCatchAll) else own)
        ++ [.sleep] := by
  refine ⟨methodName_unknown hu, ?_⟩
  simp only [specStep, specHandlers, methodName_unknown hu, reduceCtorEq, false_and, ↓reduceIte]

/-- own handlers first: when something is registered for the command (decorator/register_task entries, then the
truthy `on_<name>` attribute) exactly these are the handlers, the catch-all ones are not consulted -/
theorem dispatch_own_handlers (regs : List Reg) (k : Key)
    (h : registeredFor regs k ++ truthyAttr (attrOf regs (methodName k)) ≠ []) :
    specHandlers regs k = registeredFor regs k ++ truthyAttr (attrOf regs (methodName k)) := by
  unfold specHandlers
  simp only [List.isEmpty_iff, h, ↓reduceIte]

/-- catch-all iff none: with nothing registered for the command, exactly the catch-all handlers (key −1, then a
truthy `on_catch_all`) are used -/
theorem dispatch_catch_all (regs : List Reg) (k : Key)
    (h : registeredFor regs k ++ truthyAttr (attrOf regs (methodName k)) = []) :
    specHandlers regs k = registeredFor regs (some (-1)) ++ truthyAttr (attrOf regs txtOnCatchAll) := by
  unfold specHandlers
  simp only [h, List.isEmpty_nil, ↓reduceIte]

/-- each handler exactly once per occurrence, in list order: the calls made for a handler list are the ids of its
callable members, in order; a raising handler does not stop the later ones -/
theorem dispatch_calls_in_order (hs : List Handler) :
    callIds (invoke hs) = (hs.filter (·.callable)).map (·.id) := by
  induction hs with
  | nil => rfl
  | cons h hs ih =>
    simp only [invoke, List.flatMap_cons] at ih ⊢
    rw [callIds_append, ih]
    unfold invokeOne
    by_cases hc : h.callable
    · cases h.raises <;> cases h.responds <;> simp [hc, callIds]
    · simp [hc, callIds]

theorem dispatch_call_count (hs : List Handler) (i : Nat) :
    (callIds (invoke hs)).count i = (hs.filter fun h => h.callable && h.id == i).length := by
  rw [dispatch_calls_in_order, List.count_eq_countP, List.countP_eq_length_filter, List.filter_map, List.length_map,
    List.filter_filter]
  simp only [Function.comp, Bool.and_comm]

/-- `send_callback` happens exactly for the callable handlers that return a response without raising -/
theorem dispatch_sends (hs : List Handler) :
    (invoke hs).filterMap (fun e => match e with | .send i => some i | _ => none) =
      (hs.filter fun h => h.callable && !h.raises && h.responds).map (·.id) := by
  induction hs with
  | nil => rfl
  | cons h hs ih =>
    simp only [invoke, List.flatMap_cons, List.filterMap_append] at ih ⊢
    rw [ih]
    rcases h with ⟨i, c, t, r, s⟩
    cases c <;> cases r <;> cases s <;> simp [invokeOne]

/-! ### histories on one client object: nothing is cached -/

/-- observation steps (get_sleep_time, get_handlers, a loop iteration, a registration, reading the identity) and a
raising `run` leave `sleeptime`, `jitter` and the presented identity as they are -/
theorem observation_steps_keep_settings (p : Prims) (st : Session) (h : HStep)
    (hobs : (∀ s, h ≠ .setSleep s) ∧ (∀ j, h ≠ .setJitter j) ∧
      (∀ id s j c u q, h = .run id s j c u q → ∃ e, run p id c u q = .error e)) :
    (applyStep p st h).1.sleeptime = st.sleeptime ∧ (applyStep p st h).1.jitter = st.jitter ∧
    (applyStep p st h).1.ident = st.ident := by
  obtain ⟨h1, h2, h3⟩ := hobs
  cases h with
  | setSleep s => exact absurd rfl (h1 s)
  | setJitter j => exact absurd rfl (h2 j)
  | run id s j c u q =>
    obtain ⟨e, he⟩ := h3 id s j c u q rfl
    simp only [applyStep, he, and_self]
  | sleep u => simp only [applyStep]; split <;> exact ⟨rfl, rfl, rfl⟩
  | getHandlers k => exact ⟨rfl, rfl, rfl⟩
  | task silent t => simp only [applyStep]; split <;> exact ⟨rfl, rfl, rfl⟩
  | reg r => simp only [applyStep]; split <;> exact ⟨rfl, rfl, rfl⟩
  | «show» => simp only [applyStep]; split <;> exact ⟨rfl, rfl, rfl⟩

/-- `get_sleep_time()` depends on the history only through the CURRENT `sleeptime`/`jitter` attributes: after any
history that ends in the settings `(s, j)` the result is the stateless `getSleepTime s j u`, and for `s ≥ 0`,
`j ≥ 0`, `u ∈ [0,1]` it lies in the band of those settings (a memoised jitter window would falsify this) -/
theorem sleep_history_independent (p : Prims) (st₀ : Session) (pre : List HStep) (s j : Int) (u : Frac)
    (hs : (sessionAfter p st₀ pre).sleeptime = some s) (hj : (sessionAfter p st₀ pre).jitter = some j) :
    (applyStep p (sessionAfter p st₀ pre) (.sleep u)).2 = .frac (getSleepTime s j u) ∧
    (0 ≤ s → 0 ≤ j → 0 ≤ u.num → u.num ≤ u.den →
      s * (100 - j) * u.den ≤ (getSleepTime s j u).num ∧
      (getSleepTime s j u).num ≤ s * (getSleepTime s j u).den) := by
  refine ⟨?_, fun h0 h1 h2 h3 => sleep_band_scaled s j u h0 h1 h2 h3⟩
  simp only [applyStep, Session.sleepTime, hs, hj]

/-- whatever happened before: assigning the attributes (or a successful second `run`) makes the next
`get_sleep_time()` the one of the new settings -/
theorem sleep_after_update (p : Prims) (st₀ : Session) (pre : List HStep) (s j : Int) (u : Frac) :
    (applyStep p (sessionAfter p st₀ (pre ++ [.setSleep s, .setJitter j])) (.sleep u)).2
      = .frac (getSleepTime s j u) ∧
    (∀ id c n q a, run p id c n q = .ok a →
      (applyStep p (sessionAfter p st₀ (pre ++ [.run id s j c n q])) (.sleep u)).2 = .frac (getSleepTime s j u)) := by
  constructor
  · simp only [sessionAfter_append, sessionAfter_cons, sessionAfter_nil, applyStep, Session.sleepTime]
  · intro id c n q a ha
    simp only [sessionAfter_append, sessionAfter_cons, sessionAfter_nil, applyStep, Session.sleepTime, ha]

/-- identity is history independent: after any history, a successful `run` presents exactly the identity a fresh
client would (id, aes_rand, keys, info of the NEW arguments); a raising `run` keeps the previous one -/
theorem identity_history_independent (p : Prims) (st₀ : Session) (pre : List HStep) (id s j : Int) (c n q : Txt) :
    (∀ a, run p id c n q = .ok a →
      (applyStep p (sessionAfter p st₀ (pre ++ [.run id s j c n q])) .show).2 = .ident a) ∧
    (∀ e, run p id c n q = .error e →
      (sessionAfter p st₀ (pre ++ [.run id s j c n q])).ident = (sessionAfter p st₀ pre).ident) := by
  constructor
  · intro a ha
    simp only [sessionAfter_append, sessionAfter_cons, sessionAfter_nil, applyStep, ha]
  · intro e he
    simp only [sessionAfter_append, sessionAfter_cons, sessionAfter_nil, applyStep, he]

/-- dispatch is history independent: after ANY history on a fresh client (registrations interleaved with earlier
dispatches, get_handlers calls, runs, sleeps) `get_handlers(k)` returns, and a loop iteration invokes, exactly what
the registrations made so far prescribe — no handler list or name lookup survives from an earlier call.
`(… .sleepTime ⟨0, 1⟩).isOk`: `sleeptime` and `jitter` are set, so the `get_sleep_time()` ending the iteration does not raise. -/
theorem dispatch_history_independent (p : Prims) (pre : List HStep) :
    (∀ k, (applyStep p (sessionAfter p {} pre) (.getHandlers k)).2 = .handlers (specHandlers (regsOf pre) k)) ∧
    (∀ silent t, ((sessionAfter p {} pre).sleepTime ⟨0, 1⟩).isOk = true →
      (applyStep p (sessionAfter p {} pre) (.task silent t)).2 = .events (specStep (regsOf pre) silent t) none) ∧
    (∀ h, (sessionAfter p {} (pre ++ [h])).client.view =
      (sessionAfter p {} pre).client.view ∨ ∃ r, h = .reg r) := by
  have hw := (session_registered p pre).wf
  refine ⟨fun k => ?_, fun silent t hok => ?_, fun h => ?_⟩
  · simp only [applyStep]
    rw [(getHandlers_spec _ hw k).2, (session_registered p pre).specListC]
  · obtain ⟨h1, _⟩ := loopStep_spec (sessionAfter p {} pre).client hw silent t
    simp only [applyStep]
    cases hst : (sessionAfter p {} pre).sleepTime ⟨0, 1⟩ with
    | error e => simp [hst, Except.isOk, Except.toBool] at hok
    | ok f =>
      simp only [h1, (session_registered p pre).specStepC]
  · simp only [sessionAfter_append, sessionAfter_cons, sessionAfter_nil]
    cases h with
    | reg r => exact Or.inr ⟨r, rfl⟩
    | _ => exact Or.inl ((applyStep_extends p _ hw _ rfl).view hw)

/-! ### the generated command table -/

/-- obligations on the table regenerated from `BeaconCommand`: it is a function (no duplicate values), no member
is 0 (so `if task` never takes the `"empty_task"` branch for a real command) or −1 (the catch-all key), every name
carries the `COMMAND_` prefix, distinct commands have distinct `on_<name>` attributes, none of which is
`on_catch_all` or `on_empty_task`, and none starts with `on_unknown_` (the names used for ids outside the table) -/
theorem command_table_wellformed :
    (Gen.Commands.commandNames.map (·.1)).Nodup ∧
    (∀ p ∈ Gen.Commands.commandNames, p.1 ≠ 0 ∧ p.1 ≠ -1 ∧ txtCOMMAND_.isPrefixOf p.2 = true) ∧
    ((Gen.Commands.commandNames.map fun p => methodName (some p.1)).Nodup) ∧
    (∀ p ∈ Gen.Commands.commandNames,
      methodName (some p.1) ≠ txtOnCatchAll ∧ methodName (some p.1) ≠ methodName none ∧
      (txtOn_ ++ txtUnknown_).isPrefixOf (methodName (some p.1)) = false) := by
  -- sorted by value: a sublist of `0, …, 127` (the largest value is 102; the bound grows with the enum)
  have keys : (Gen.Commands.commandNames.map (·.1)).Nodup := by
    have : ((Gen.Commands.commandNames.map (·.1)).map Int.toNat).Sublist (List.range 128) := by decide +kernel
    exact nodup_of_map Int.toNat (this.nodup List.nodup_range)
  have h2 : ∀ p ∈ Gen.Commands.commandNames, p.1 ≠ 0 ∧ p.1 ≠ -1 ∧ txtCOMMAND_.isPrefixOf p.2 = true := by
    decide +kernel
  have name : ∀ p ∈ Gen.Commands.commandNames,
      methodName (some p.1) = txtOn_ ++ lowerAscii (removeAll txtCOMMAND_ p.2) :=
    fun p hp => methodName_known (lookup_of_mem keys hp) (h2 p hp).1
  refine ⟨keys, h2, ?_, fun p hp => ?_⟩
  · rw [List.map_congr_left name]
    -- distinct base-256 values, hence distinct names; the names themselves share their first characters and are slow to compare
    exact nodup_of_map (List.foldl (fun a c => a * 256 + c) 0) (by decide +kernel)
  · rw [name p hp]
    exact (by decide +kernel : ∀ p ∈ Gen.Commands.commandNames,
      txtOn_ ++ lowerAscii (removeAll txtCOMMAND_ p.2) ≠ txtOnCatchAll ∧
      txtOn_ ++ lowerAscii (removeAll txtCOMMAND_ p.2) ≠ methodName none ∧
      (txtOn_ ++ txtUnknown_).isPrefixOf (txtOn_ ++ lowerAscii (removeAll txtCOMMAND_ p.2)) = false) p hp

/-- ids outside the table never share an attribute name with `on_catch_all` / `on_empty_task` -/
theorem unknown_names_distinct (id : Int) (hu : commandName id = none) :
    methodName (some id) ≠ txtOnCatchAll ∧ methodName (some id) ≠ methodName none := by
  rw [methodName_unknown hu]
  constructor <;> (intro h; revert h; simp [txtOn_, txtUnknown_, txtOnCatchAll, txtEmptyTask, methodName])

/-! ### the hypotheses are satisfiable / the statements are not vacuous -/

example : normaliseId 2147483647 = .ok 2147483646 := by decide
example : normaliseId (-1) = .error .valueError := by decide
example : normaliseId (4294967296 + 5) = .ok 4 := by decide
example : normaliseId (-4294967296) = .ok 0 := by decide
example : defaultId 4294967295 = .ok 2147483646 := by decide
example : mkInfo (List.replicate 30 0x20AC) [0x75] [0x70] = .ok ((List.replicate 17 [0xE2, 0x82, 0xAC]).flatten) := by
  decide +kernel
example : mkInfo [0xD800] [] [] = .error .valueError := by decide
example : getSleepTime 60000 25 ⟨1, 2⟩ = ⟨10500000, 200⟩ := by decide
example : specStep [.handle (.int 3) ⟨1, true, true, false, true⟩, .catchAll ⟨9, true, true, false, false⟩] false (some 3)
    = [.call 1, .send 1, .sleep] := by decide
example : specStep [.handle (.int 3) ⟨1, true, true, false, true⟩, .catchAll ⟨9, true, true, false, false⟩] false (some 4)
    = [.call 9, .sleep] := by decide
example : commandName 9999 = none := by decide +kernel
example : specStep [.handle (.int 3) ⟨1, true, true, false, true⟩, .catchAll ⟨9, true, true, false, false⟩] false (some 9999)
    = [.call 9, .sleep] := by decide
example : specStep [.register (some 9999) ⟨1, true, true, false, false⟩,
      .classAttr (txtOn_ ++ txtUnknown_ ++ intDecimal 9999) ⟨2, true, true, false, false⟩,
      .catchAll ⟨9, true, true, false, false⟩] false (some 9999)
    = [.call 1, .call 2, .sleep] := by decide +kernel

end C19

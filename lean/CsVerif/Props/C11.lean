import CsVerif.Lemmas.C11
import CsVerif.Props.C10
/-! C11 property theorems: the dictionary view reports exactly what the profile says. -/
namespace C11
open Grammar (Item Form)
open C10 (Table Tok Forest Tree Parts Deriv Text)

/-! ### obligations on the tables generated from the code as it is now -/

/-- the list-valued keys of `as_dict` are exactly these nine -/
theorem gen_listProps : ProfileApi.listPropStrings =
    ["stage.transform-x86.header", "process-inject.transform-x86", "process-inject.execute", "http-post.server.output",
     "http-post.client.id", "http-post.client.output", "http-stager.server.output", "http-get.client.metadata",
     "http-get.server.output"] := rfl

/-- `listProps` (code points, used by the model) spells `listPropStrings` -/
theorem gen_listProps_codes :
    ProfileApi.listProps = ProfileApi.listPropStrings.map fun s => s.toList.map Char.toNat := by decide +kernel

/-- the only string constants of `as_dict` are the ones the model compares against -/
theorem gen_asDictStrings : ProfileApi.asDictStrings = ["\"default\"", ".", ";", "STRING", "set", "{", "{};", "}"] :=
  rfl

/-- no OPTION word can be mistaken for punctuation or for `set` -/
theorem gen_optionWords : Grammar.optionAlts.all (fun w => !C10.isFlush w && w != setKw) = true := by decide +kernel

def hasStmtArity (G : Table) (nm : Text) (nv : Nat) : Bool :=
  G.forms.any fun f => C10.label f == nameId G nm &&
    (match shapeOf G f with
      | .stmt _ n => n == nv
      | _ => false)

/-- a builder attribute of kind `_pair` / `_enable` / `set_option` names a statement of the grammar with two / no /
one argument; `_header` / `_parameter` attributes rely on the labels `header` / `parameter`; attributes whose name
starts with `_` (code point 95) are exempt -/
def ApiConforms (G : Table) (api : List ProfileApi.Cls) : Bool :=
  api.all fun c => c.attrs.all fun a =>
    a.1.head? == some 95 ||
      (match a.2 with
        | .pair => hasStmtArity G a.1 2
        | .enable => hasStmtArity G a.1 0
        | .header => hasStmtArity G nmHeader 2
        | .parameter => hasStmtArity G nmParameter 2
        | .setOption => a.1 == nmSetOption || hasStmtArity G a.1 1
        | .globalOption => a.1 == nmSetOption
        | .other => true)

/-- every two-argument statement of the grammar has a `_pair`-like attribute in some builder class (the global option
`set OPTION string ;` has `C2Profile.set_option`), every
argument-less statement an `_enable` attribute or an entry in the tables of `DataTransformBlock` -/
def ApiCovers (G : Table) (api : List ProfileApi.Cls) : Bool :=
  G.forms.all fun f =>
    match shapeOf G f with
    | .stmt _ 2 => api.any fun c => c.attrs.any fun a =>
        (nameId G a.1 == C10.label f && (a.2 == .pair || a.2 == .header || a.2 == .parameter)) ||
          (a.2 == .globalOption && C10.label f == nameId G nmOption)      -- `set OPTION string ;`
    | .stmt _ 0 =>
      (api.any fun c => c.attrs.any fun a => nameId G a.1 == C10.label f && a.2 == .enable) ||
        (ProfileApi.dtBareSteps ++ ProfileApi.dtBareTerminations.map dashToUnderscore).any fun nm =>
          nameId G nm == C10.label f
    | _ => true

/-- the names `from_execute_list` accepts map to argument-less / one-argument statements of the grammar -/
def ExecConforms (G : Table) : Bool :=
  ProfileApi.executeBare.all (fun nm => hasStmtArity G (dashToUnderscore (lowerAscii nm)) 0) &&
  ProfileApi.executeSpecial.all (fun p => hasStmtArity G p.2 1)

/-- What is evaluated about the grammar and the builder tables, in one evaluation: every part needs the shapes of all
forms, and these are then computed once.  The parts are named below.  (13 residue classes for `lookupWFMod`: about
the square root of the number of forms, where passes over the forms and pairs within a class cost the same.) -/
theorem gen_tableFacts :
    ShapesOK C10.gen = true ∧ lookupWFMod 13 C10.gen = true ∧ ApiConforms C10.gen ProfileApi.classes = true ∧
      ApiCovers C10.gen ProfileApi.classes = true ∧ ExecConforms C10.gen = true ∧
      (C10.gen.forms.filter (riskyForm C10.gen)).map (fun f => C10.gen.names.getD (C10.label f) []) =
        [[99, 111, 109, 109, 101, 110, 116, 95, 100, 110, 115, 95, 114, 101, 115, 111, 108, 118, 101, 114]] := by
  decide +kernel

/-- every form of the grammar is a statement `kw… arg… ;`, a block `kw variant? { … }`, a sequence of those, or a
single token; blocks contain statements only; a profile is a sequence of statements -/
theorem gen_shapesOK : ShapesOK C10.gen = true := by
  obtain ⟨h, _, _, _, _, _⟩ := gen_tableFacts
  exact h

/-- statement-like forms that share a tree label and can have the same number of children have the same keywords
(so the keywords of a tree node are determined by its label and its children) -/
theorem gen_lookupWF : LookupWF C10.gen = true := by
  obtain ⟨_, h, _, _, _, _⟩ := gen_tableFacts
  exact lookupWF_of_mod C10.gen (by decide) h

theorem gen_apiConforms : ApiConforms C10.gen ProfileApi.classes = true := by
  obtain ⟨_, _, h, _, _, _⟩ := gen_tableFacts
  exact h

theorem gen_apiCovers : ApiCovers C10.gen ProfileApi.classes = true := by
  obtain ⟨_, _, _, h, _, _⟩ := gen_tableFacts
  exact h

theorem gen_execConforms : ExecConforms C10.gen = true := by
  obtain ⟨_, _, _, _, h, _⟩ := gen_tableFacts
  exact h

/-- The pair branch of the walk (`len(line) > 2`, `x.type`) meets a plain keyword — and raises AttributeError — for
exactly one statement form of the grammar: `"#" "dns_resolver" string ";" -> comment_dns_resolver`
(known finding C11-comment-dns-resolver; that form cannot be lexed, it is only reachable through the builder). -/
theorem gen_riskyForms :
    (C10.gen.forms.filter (riskyForm C10.gen)).map (fun f => C10.gen.names.getD (C10.label f) []) =
      [[99, 111, 109, 109, 101, 110, 116, 95, 100, 110, 115, 95, 114, 101, 115, 111, 108, 118, 101, 114]] := by
  obtain ⟨_, _, _, _, _, h⟩ := gen_tableFacts
  exact h

/-! ### the dictionary is the specification -/

/-- Central theorem.  For any table with `ShapesOK`, `LookupWF`, `PrintWF` and any well-formed derivation from the
start symbol whose tokens are harmless (`tokensOK`: no token text is a piece of `{};` or the word `set` — true of
every lexed profile), the tree is profile-shaped and `as_dict` of the tree is the grouped specification:
for each key the values in source order, keys in order of first occurrence; if a statement raises, the first one
in source order decides the exception.  (Proved through the invariant `run_flatten`: after the statements of a
block the stack is again the path of the enclosing blocks.) -/
theorem asDict_eq_spec (G : Table) (hS : ShapesOK G = true) (hL : LookupWF G = true) (hP : C10.PrintWF G = true)
    (lp : List Text) (d : Deriv) (hd : d.WF G = true) (hstart : d.form.origin = G.start)
    (htok : tokensOK G (C10.toTree d) = true) :
    ∃ r, specDict G lp (C10.toTree d) = some r ∧
      asDictTree G lp (C10.toTree d) = some (match r with
        | .error e => .error e
        | .ok es => .ok (group es)) := by
  obtain ⟨ss, h1, h2, h3⟩ := deriv_link G hS hL hP hd hstart
  refine ⟨specStms lp [] ss, by simp [specDict, h1], ?_⟩
  have hok := h3 (tokOK_of_tree G htok)
  simp only [asDictTree, printItems, C10.print_eq_source G hP d hd, Option.map_some]
  have : d.yield.map (itemOfTok G) = ss.flatten := h2
  rw [this, asDict_flatten lp ss hok]
  cases specStms lp [] ss <;> rfl

/-- for the grammar and the `list_props` of the code as it is now -/
theorem asDict_eq_spec_gen (d : Deriv) (hd : d.WF C10.gen = true) (hstart : d.form.origin = C10.gen.start)
    (htok : tokensOK C10.gen (C10.toTree d) = true) :
    ∃ r, specDict C10.gen ProfileApi.listProps (C10.toTree d) = some r ∧
      asDictTree C10.gen ProfileApi.listProps (C10.toTree d) = some (match r with
        | .error e => .error e
        | .ok es => .ok (group es)) :=
  asDict_eq_spec C10.gen gen_shapesOK gen_lookupWF C10.gen_printWF _ d hd hstart htok

/-- `pairAtom` — the body of `for x in line[-2:]`, where `x.type` is read — fails only with AttributeError, and only
on a plain keyword -/
theorem pairAtom_attributeError {x : Item'} {e : PyExc} (h : pairAtom x = .error e) :
    e = .attributeError ∧ x.isToken = false := by
  cases x with
  | plain s => simp [pairAtom] at h; exact ⟨h.symm, rfl⟩
  | token b s => cases b <;> simp [pairAtom] at h

/-- STRING literals (they start with a double quote) are harmless tokens -/
theorem string_literal_tokOK (s : Text) (h : s.head? = some 34) : C10.isFlush s = false ∧ s ≠ setKw := by
  cases s with
  | nil => simp at h
  | cons c r =>
    simp only [List.head?_cons, Option.some.injEq] at h
    subst h
    exact ⟨isSubstr_head (by decide), by simp [setKw]⟩

/-- no list-property key contains a double quote … -/
theorem gen_listProps_unquoted : ProfileApi.listProps.all (fun p => !p.contains 34) = true := by decide +kernel

/-- … hence a block under a variant other than "default" is never a list property (its path contains the quoted
variant): there `base64;` is reported as a bare word and `prepend "x";` as an option, without decoding -/
theorem variant_path_not_listProp {path : List Text} {v : Text} (hv : v ∈ path) (hq : 34 ∈ v) :
    ProfileApi.listProps.contains (joinDot path) = false := by
  have h := gen_listProps_unquoted
  simp only [List.all_eq_true, Bool.not_eq_true', List.contains_eq_mem, decide_eq_false_iff_not] at h
  simp only [List.contains_eq_mem, decide_eq_false_iff_not]
  intro hm
  exact h _ hm (joinDot_contains hq path hv)

/-! ### the builder -/

/-- Builder half, first part (the second part, parsing the text back, is `builder_eq_parsed` below).  For every
builder call sequence whose tree passes the checker `derive`
("the names used are statements/blocks of the grammar in that place" — decidable, evaluated for every generated call
sequence by the driver): the tree is the tree of a well-formed derivation `d` from the start symbol, the
Reconstructor prints exactly the sentence of `d` (so the profile's own text is a sentence with that derivation), and
the dictionary is the specification.  Tokens made by `value_to_string` are always harmless (`builder_tokens_harmless`);
`tokensOK` remains a hypothesis because of the global option NAMES, which the builder does not check. -/
theorem builder_eq_parsed_partial (calls : Calls) (t : Tree) (d : Deriv)
    (_hb : buildProfile ProfileApi.classes C10.gen calls = .ok t) (hd : derive C10.gen t = some d)
    (htok : tokensOK C10.gen t = true) :
    d.WF C10.gen = true ∧ d.form.origin = C10.gen.start ∧ C10.toTree d = t ∧
      C10.printTree C10.gen t = some d.yield ∧
      ∃ r, specDict C10.gen ProfileApi.listProps t = some r ∧
        asDictTree C10.gen ProfileApi.listProps t = some (match r with
          | .error e => .error e
          | .ok es => .ok (group es)) := by
  obtain ⟨h1, h2, h3⟩ := derive_sound C10.gen hd
  subst h3
  exact ⟨h1, h2, rfl, C10.print_eq_source C10.gen C10.gen_printWF d h1, asDict_eq_spec_gen d h1 h2 htok⟩

/-- Parse-back direction of the builder half (closed by C10's `text_of_derivation_parses_gen`): for every builder call sequence
whose tree passes `derive`, whose tokens are lexable and `tokOK` (every named token's text matches its terminal — for
STRING tokens that is the quote `value_to_string` always writes, for the global option NAMES, which the builder does
not check, it means "is a word of the terminal OPTION"), the profile's own text exists and `from_text` of it is the
derivation `d` again, i.e. the builder's tree. -/
theorem builder_eq_parsed (calls : Calls) (t : Tree) (d : Deriv) (idc : Nat → Bool) (hc : C10.IdcOK idc)
    (_hb : buildProfile ProfileApi.classes C10.gen calls = .ok t) (hd : derive C10.gen t = some d)
    (hok : ∀ tk ∈ d.yield, C10.tokOK C10.gen tk = true)
    (hl : ∀ tk ∈ d.yield, C10.lexableTok C10.gen.words (C10.gen.tokText tk) = true) :
    ∃ text, C10.asText C10.gen idc t = some text ∧ C10.parseText C10.gen text = .ok d ∧ C10.toTree d = t := by
  obtain ⟨h1, h2, h3⟩ := derive_sound C10.gen hd
  subst h3
  obtain ⟨text, e1, e2⟩ := C10.text_of_derivation_parses_gen idc hc d h1 h2 hok hl
  exact ⟨text, e1, e2, rfl⟩

/-- `builder_eq_parsed` WITHOUT the hypothesis `tokOK`.  It is FALSE (`builder_eq_parsed_full_false`): the builder
accepts any global option name. -/
def builder_eq_parsed_full : Prop :=
  ∀ (calls : Calls) (t : Tree) (d : Deriv) (idc : Nat → Bool), C10.IdcOK idc →
    buildProfile ProfileApi.classes C10.gen calls = .ok t → derive C10.gen t = some d →
    (∀ tk ∈ d.yield, C10.lexableTok C10.gen.words (C10.gen.tokText tk) = true) →
    ∃ text d', C10.asText C10.gen idc t = some text ∧ C10.parseText C10.gen text = .ok d' ∧ C10.toTree d' = t

/-- `C2Profile().set_option("stage", "x")`: the option name is a keyword of the grammar, not a word of OPTION -/
def optionNameCex : Calls := .setOption [115, 116, 97, 103, 101] (.str [120]) .done

def idcAscii : Nat → Bool := fun c => c == 95 || (48 ≤ c && c ≤ 57) || (65 ≤ c && c ≤ 90) || (97 ≤ c && c ≤ 122)

/-- the tree of `optionNameCex` passes `derive`, its tokens are lexable, its text is `set stage "x";` — and that text
does not parse (the real library answers `UnexpectedToken … Expected one of: OPTION`) -/
def optionNameCexHolds : Bool :=
  match buildProfile ProfileApi.classes C10.gen optionNameCex with
  | .ok t =>
    match derive C10.gen t with
    | some d =>
      d.yield.all (fun tk => C10.lexableTok C10.gen.words (C10.gen.tokText tk)) &&
        (match C10.asText C10.gen idcAscii t with
          | some text => C10.parseText C10.gen text == .fail
          | none => false)
    | none => false
  | .error _ => false

theorem builder_eq_parsed_full_false : ¬ builder_eq_parsed_full := by
  intro h
  have hc : optionNameCexHolds = true := by decide +kernel
  unfold optionNameCexHolds at hc
  split at hc
  · rename_i t hb
    split at hc
    · rename_i d hd
      simp only [Bool.and_eq_true, List.all_eq_true] at hc
      obtain ⟨hl, hp⟩ := hc
      obtain ⟨text, d', e1, e2, _⟩ := h optionNameCex t d idcAscii ⟨by decide, by decide, by decide⟩ hb hd hl
      rw [e1] at hp
      simp only [e2] at hp
      cases hp
    · cases hc
  · cases hc

/-- bytes handed to a builder call that ends up in a list property are reported as the same bytes
(C12's `literal_roundtrip` through `value_to_string` and `string_token_to_bytes`) -/
theorem builder_bytes_roundtrip (b : Bytes) :
    listAtom (.token true (valueToString (.bytes b))) = .ok (.bytes b) := by
  simp only [listAtom, valueToString]
  rw [C12.decode_latin1_codepoints, C12.literal_roundtrip]

/-- a STRING token made by `value_to_string` can never be mistaken for punctuation or for `set` -/
theorem builder_tokens_harmless (v : PyVal) :
    C10.isFlush (valueToString v) = false ∧ valueToString v ≠ setKw := by
  obtain ⟨r, hr⟩ := valueToString_head v
  rw [hr]
  exact ⟨isSubstr_head (by decide), by simp [setKw]⟩

/-! ### the cache -/

/-- For any interleaving of modifications and accesses on a freshly constructed profile object, every access returns
the dictionary (or the exception) of the CURRENT tree — under the explicit assumption that the hash of the tree
(`hash(self.tree)`, the cache key) does not collide between the trees the history goes through. -/
theorem dict_tracks_modification {H : Type} [DecidableEq H] (hash : Tree → H) (compute : Tree → Option (Py Dict))
    (t : Tree) (ops : List Op)
    (hinj : ∀ a ∈ treesOf t ops, ∀ b ∈ treesOf t ops, hash a = hash b → a = b) :
    runHist hash compute (PState.fresh t) ops = expected compute t ops := by
  apply runHist_correct hash compute (treesOf t ops) hinj ops (PState.fresh t)
  · intro x hx; exact hx
  · intro h hh; simp [PState.fresh] at hh

/-- the assumption is needed: with a colliding hash the second access returns the dictionary of the OLD tree -/
theorem stale_cache_with_colliding_hash :
    let hash : Tree → Unit := fun _ => ()
    let compute : Tree → Option (Py Dict) := fun t => some (.ok [([t.label], [])])
    let t1 : Tree := ⟨1, .nil⟩
    let t2 : Tree := ⟨2, .nil⟩
    let ops := [Op.access, Op.modify (fun _ => t2), Op.access]
    runHist hash compute (PState.fresh t1) ops = [compute t1, compute t1] ∧
      expected compute t1 ops = [compute t1, compute t2] ∧ compute t1 ≠ compute t2 := by
  intro hash compute t1 t2 ops
  refine ⟨by rfl, by rfl, by decide⟩

/-! ### non-vacuity (through source text, independent of how names are interned) -/

/-- `http-get{client{metadata{base64;prepend"\x41";header"C";}header"a""b";}}set sleeptime"5";http-get"v"{set uri"/";}` -/
def exampleSrc : Text :=
  [104, 116, 116, 112, 45, 103, 101, 116, 123, 99, 108, 105, 101, 110, 116, 123, 109, 101, 116, 97, 100, 97, 116, 97, 123,
   98, 97, 115, 101, 54, 52, 59, 112, 114, 101, 112, 101, 110, 100, 34, 92, 120, 52, 49, 34, 59, 104, 101, 97, 100, 101,
   114, 34, 67, 34, 59, 125, 104, 101, 97, 100, 101, 114, 34, 97, 34, 34, 98, 34, 59, 125, 125, 115, 101, 116, 32, 115,
   108, 101, 101, 112, 116, 105, 109, 101, 34, 53, 34, 59, 104, 116, 116, 112, 45, 103, 101, 116, 34, 118, 34, 123, 115,
   101, 116, 32, 117, 114, 105, 34, 47, 34, 59, 125]

/-- the hypotheses of `asDict_eq_spec_gen` hold for the derivation of `exampleSrc`, and the dictionary is what one reads:
`http-get.client.metadata` ↦ [base64, (prepend, b"A"), (header, b"C")], `http-get.client.header` ↦ [(a, b)],
`sleeptime` ↦ [5], `http-get."v".uri` ↦ [/] -/
def exampleHolds : Bool :=
  match C10.parseText C10.gen exampleSrc with
  | .ok d =>
    d.WF C10.gen && d.form.origin == C10.gen.start && tokensOK C10.gen (C10.toTree d) &&
    (derive C10.gen (C10.toTree d)).isSome &&
    asDictTree C10.gen ProfileApi.listProps (C10.toTree d) == some (.ok
      [([104, 116, 116, 112, 45, 103, 101, 116, 46, 99, 108, 105, 101, 110, 116, 46, 109, 101, 116, 97, 100, 97, 116, 97],
        [.atom (.str [98, 97, 115, 101, 54, 52]),
         .tuple [.str [112, 114, 101, 112, 101, 110, 100], .bytes [65]],
         .tuple [.str [104, 101, 97, 100, 101, 114], .bytes [67]]]),
       ([104, 116, 116, 112, 45, 103, 101, 116, 46, 99, 108, 105, 101, 110, 116, 46, 104, 101, 97, 100, 101, 114],
        [.tuple [.str [97], .str [98]]]),
       ([115, 108, 101, 101, 112, 116, 105, 109, 101], [.atom (.str [53])]),
       ([104, 116, 116, 112, 45, 103, 101, 116, 46, 34, 118, 34, 46, 117, 114, 105], [.atom (.str [47])])])
  | _ => false

example : exampleHolds = true := by decide +kernel

/-- a builder call sequence that satisfies the hypotheses of `builder_eq_parsed_partial` and `builder_eq_parsed`:
`C2Profile(sleeptime="5")` then `set_config_block("stage", StageBlock(name="x"))` -/
def exampleCalls : Calls :=
  .kwVal [115, 108, 101, 101, 112, 116, 105, 109, 101] (.str [53])
    (.setConfigBlock [115, 116, 97, 103, 101]
      (.cls ((ProfileApi.classes.map (·.pyName)).idxOf "StageBlock") (.kwVal [110, 97, 109, 101] (.bytes [120, 0]) .done)) .done)

example : (match buildProfile ProfileApi.classes C10.gen exampleCalls with
    | .ok t => (derive C10.gen t).isSome && tokensOK C10.gen t && t.kids != .nil &&
        (match derive C10.gen t with
          | some d => d.yield.all (fun tk => C10.tokOK C10.gen tk && C10.lexableTok C10.gen.words (C10.gen.tokText tk))
          | none => false)
    | .error _ => false) = true := by decide +kernel

end C11

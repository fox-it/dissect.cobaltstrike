import CsVerif.Lemmas.C03
/-!
C03 property theorems: structured settings decode Cobalt Strike's binary encodings exactly.

Encoders (`enc*`), program types (`TStep`, `RStep`, `EItem`), their well-formedness predicates and the reference tables
of the decoders are defined in `Lemmas/C03.lean`, the remaining reference tables (`ref*`) below; the model is `Model/C03.lean`.
-/
namespace C03
open Gen.Beacon

/-! ## Generated-table obligations (re-checked against the imported package on every run) -/

def refBofAllocator : List (Nat × String) := [(0, "VirtualAlloc"), (1, "MapViewOfFile"), (2, "HeapAlloc")]
def refBeaconProtocol : List (Nat × String) :=
  [(0, "http"), (1, "dns"), (2, "smb"), (4, "tcp"), (8, "https"), (16, "bind")]
def refCryptoScheme : List (Nat × String) := [(0, "CRYPTO_LICENSED_PRODUCT"), (1, "CRYPTO_TRIAL_PRODUCT")]
/-- BeaconGate API names in Cobalt Strike's order: comms, core, cleanup -/
def refGateFields : List String := [
  "InternetOpenA", "InternetConnectA", "VirtualAlloc", "VirtualAllocEx", "VirtualProtect", "VirtualProtectEx",
  "VirtualFree", "GetThreadContext", "SetThreadContext", "ResumeThread", "CreateThread", "CreateRemoteThread",
  "OpenProcess", "OpenThread", "CloseHandle", "CreateFileMappingA", "MapViewOfFile", "UnmapViewOfFile",
  "VirtualQuery", "DuplicateHandle", "ReadProcessMemory", "WriteProcessMemory", "ExitThread"]

theorem table_transformStep : transformStep = refTransformStep := transformStep_eq_ref
theorem table_injectExecutor : injectExecutor = refInjectExecutor := injectExecutor_eq_ref
theorem table_bofAllocator : bofAllocator = refBofAllocator := by decide +kernel
theorem table_beaconProtocol : beaconProtocol = refBeaconProtocol := by decide +kernel
theorem table_cryptoScheme : cryptoScheme = refCryptoScheme := by decide +kernel
theorem table_beaconGateFields : beaconGateFields = refGateFields := by decide +kernel

/-- the three groups of `beacon_gate_options_string` partition the structure's fields, in field order -/
theorem table_gate_groups : gateAll = beaconGateFields ∧ beaconGateFields.Nodup ∧ beaconGateFields.length = 23 := by
  decide +kernel

/-- opcode sets of `parse_transform_binary` resolved through the generated enum -/
theorem table_transform_opcode_sets :
    tsv "BUILD" = some 7 ∧ enableVals = refEnable.map some ∧ argVals = refArg.map some :=
  ⟨tsv_build, enableVals_eq, argVals_eq⟩

/-- opcodes of `parse_recover_binary` resolved through the generated enum -/
theorem table_recover_opcodes :
    [tsv "APPEND", tsv "PREPEND", tsv "BASE64", tsv "PRINT", tsv "NETBIOS", tsv "NETBIOSU", tsv "BASE64URL",
      tsv "MASK"] = [some 1, some 2, some 3, some 4, some 8, some 11, some 13, some 15] := by
  obtain ⟨a1, a2, a3, a4, a8, a11, a13, a15⟩ := tsv_vals
  rw [a1, a2, a3, a4, a8, a11, a13, a15]

theorem table_execute_opcodes : iev "CreateThread_" = some 6 ∧ iev "CreateRemoteThread_" = some 7 := iev_vals

/-- the hand-written dispatch table of the model has exactly the keys of SETTING_TO_PRETTYFUNC, in dict order -/
theorem table_prettyKeys : prettyTable.map (·.1) = prettyKeys := by decide +kernel

/-- names under which the derived properties look settings up, and the settings that carry them -/
theorem table_setting_names_used :
    enumName settingNames 1 = some "SETTING_PROTOCOL" ∧ enumName settingNames 2 = some "SETTING_PORT" ∧
    enumName settingNames 7 = some "SETTING_PUBKEY" ∧ enumName settingNames 8 = some "SETTING_DOMAINS" ∧
    enumName settingNames 31 = some "SETTING_CRYPTO_SCHEME" ∧ enumName settingNames 37 = some "SETTING_WATERMARK" ∧
    enumName settingNames 40 = some "SETTING_KILLDATE" ∧ enumName settingNames 18 = some "SETTING_KILLDATE_DAY" ∧
    typeShort = 1 ∧ typeInt = 2 ∧ typePtr = 3 := by decide +kernel

/-! ## HTTP transform programs (`parse_transform_binary`) -/

instance : DecidablePred TStep.WF := fun st => by
  cases st <;> simp only [TStep.WF] <;> exact inferInstance

/-- Compositional form: a well-formed program followed by arbitrary bytes decodes to the program's view
followed by whatever the remaining bytes decode to. -/
theorem transform_roundtrip_append (build : String) (p : List TStep) (h : ∀ st ∈ p, st.WF) (t : Bytes) :
    parseTransform build (encTransform p ++ t) = p.filterMap (TStep.view build) ++ parseTransform build t :=
  decode_flatMap (parseTransform build) encStep (TStep.view build) p
    (fun st hst => parseTransform_step build st (h st hst)) t

/-- parse (enc p) = p: every BUILD / enable / argument step is decoded with its name and exact argument bytes
(any length, including empty), in order; undefined and unused opcodes (`skip`) contribute nothing. -/
theorem transform_roundtrip (build : String) (p : List TStep) (h : ∀ st ∈ p, st.WF) :
    parseTransform build (encTransform p) = p.filterMap (TStep.view build) := by
  have := transform_roundtrip_append build p h []
  rw [parseTransform_short build [] (by decide +kernel)] at this
  simpa using this

/-- a zero opcode ends the program: everything after it is ignored; so is a tail of fewer than 4 bytes -/
theorem transform_prefix_stable (build : String) (p : List TStep) (h : ∀ st ∈ p, st.WF) (junk : Bytes) :
    parseTransform build (encTransform p ++ (be32 0 ++ junk)) = p.filterMap (TStep.view build) ∧
    (junk.length < 4 → parseTransform build (encTransform p ++ junk) = p.filterMap (TStep.view build)) := by
  constructor
  · rw [transform_roundtrip_append build p h, parseTransform_zero]; simp
  · intro hj
    rw [transform_roundtrip_append build p h, parseTransform_short build junk hj]; simp

/-- the views are exactly the encoded steps: names are Cobalt Strike's, and distinct steps have distinct views -/
theorem transform_view_names :
    (∀ build b, TStep.view build (.build b) = some (some "BUILD", .str (buildMap build b))) ∧
    (refEnable.map fun v => (v, enumName refTransformStep v)) =
      [(3, some "BASE64"), (13, some "BASE64URL"), (8, some "NETBIOS"), (11, some "NETBIOSU"),
       (12, some "URI_APPEND"), (4, some "PRINT"), (15, some "MASK")] ∧
    (refArg.map fun v => (v, enumName refTransformStep v)) =
      [(10, some "_HEADER"), (6, some "HEADER"), (5, some "PARAMETER"), (9, some "_PARAMETER"),
       (16, some "_HOSTHEADER"), (1, some "APPEND"), (2, some "PREPEND")] := by
  refine ⟨fun _ _ => rfl, by decide, by decide +kernel⟩

theorem transform_view_injective (build : String) (v w : Nat) (a b : Bytes)
    (hv : v ∈ refEnable ++ refArg) (hw : w ∈ refEnable ++ refArg) :
    (TStep.view build (.enable v) = TStep.view build (.enable w) → v = w) ∧
    (TStep.view build (.arg v a) = TStep.view build (.arg w b) → v = w ∧ a = b) := by
  have key : ∀ v ∈ refEnable ++ refArg, ∀ w ∈ refEnable ++ refArg,
      enumName refTransformStep v = enumName refTransformStep w → v = w := by decide +kernel
  constructor
  · intro h
    simp only [TStep.view, Option.some.injEq, Prod.mk.injEq, and_true] at h
    exact key v hv w hw h
  · intro h
    simp only [TStep.view, Option.some.injEq, Prod.mk.injEq, TVal.bytes.injEq] at h
    exact ⟨key v hv w hw h.1, h.2⟩

/-- non-vacuity: three BUILD blocks, every kind of step, empty and non-empty arguments, unknown opcodes -/
example : parseTransform "metadata" (encTransform
    [.build 0, .enable 3, .arg 1 [], .skip 14, .arg 6 [0x41, 0, 0xFF], .build 1, .enable 4, .skip 17, .build 5]) =
    [(some "BUILD", .str "metadata"), (some "BASE64", .flag), (some "APPEND", .bytes []),
     (some "HEADER", .bytes [0x41, 0, 0xFF]), (some "BUILD", .str "output"), (some "PRINT", .flag),
     (some "BUILD", .str "UNKNOWN BUILD ARG")] := by
  rw [transform_roundtrip _ _ (by decide +kernel)]; decide +kernel

/-! ## Recover programs (`parse_recover_binary`) -/

instance : DecidablePred RStep.WF := fun st => by
  cases st <;> simp only [RStep.WF] <;> exact inferInstance

theorem recover_roundtrip_append (p : List RStep) (h : ∀ st ∈ p, st.WF) (t : Bytes) :
    parseRecover (encRecover p ++ t) = p.filterMap RStep.view ++ parseRecover t :=
  decode_flatMap parseRecover encRStep RStep.view p (fun st hst => parseRecover_step st (h st hst)) t

/-- parse (enc p) = p for recover programs: append/prepend with their 32-bit lengths, the six flag steps,
in order; unknown steps are skipped; a zero opcode ends the program. -/
theorem recover_roundtrip (p : List RStep) (h : ∀ st ∈ p, st.WF) (junk : Bytes) :
    parseRecover (encRecover p) = p.filterMap RStep.view ∧
    parseRecover (encRecover p ++ (be32 0 ++ junk)) = p.filterMap RStep.view := by
  constructor
  · have := recover_roundtrip_append p h []
    rw [parseRecover_nil] at this
    simpa using this
  · rw [recover_roundtrip_append p h, parseRecover_unfold 0 (by decide)]
    exact List.append_nil _

theorem recover_view_names :
    (refRecLen ++ refRecFlag).map (fun v => (v, recName v)) =
      [(1, "append"), (2, "prepend"), (3, "base64"), (4, "print"), (8, "netbios"), (11, "netbiosu"),
       (13, "base64url"), (15, "mask")] := by decide +kernel

example : parseRecover (encRecover [.flag 3, .len 2 0, .skip 7, .len 1 4294967295, .flag 15]) =
    [("base64", .flag), ("prepend", .len 0), ("append", .len 4294967295), ("mask", .flag)] := by
  rw [(recover_roundtrip _ (by decide +kernel) []).1]; decide +kernel

/-! ## Process-inject execute lists (`parse_execute_list`) -/

/-- parse (enc items) = items: plain opcodes give the executor name (`None` for an undefined opcode),
CreateThread_/CreateRemoteThread_ give `Name "module!function+0xoffset"` with the offset omitted when 0;
NUL padding of the two strings is stripped; a zero byte (or the end of the data) terminates the list. -/
theorem execute_roundtrip (items : List EItem) (h : ∀ it ∈ items, it.WF) (junk : Bytes) :
    parseExecute (encExecute items) = .ok (items.map EItem.view) ∧
    parseExecute (encExecute items ++ 0 :: junk) = .ok (items.map EItem.view) := by
  constructor
  · have := parseExecute_enc_append items h []
    rw [parseExecute_nil] at this
    simpa [Except.map] using this
  · rw [parseExecute_enc_append items h, parseExecute_zero]
    simp [Except.map]

/-- the same for module / function names that are arbitrary valid UTF-8 (not ending in NUL): the decoded text
appears in the rendering; `decodedText` is what `bytes.decode()` returns -/
theorem execute_roundtrip_utf8 (items : List EItem) (h : ∀ it ∈ items, it.WFu) (junk : Bytes) :
    parseExecute (encExecute items) = .ok (items.map EItem.viewU) ∧
    parseExecute (encExecute items ++ 0 :: junk) = .ok (items.map EItem.viewU) := by
  constructor
  · have := parseExecute_enc_appendU items h []
    rw [parseExecute_nil] at this
    simpa [Except.map] using this
  · rw [parseExecute_enc_appendU items h, parseExecute_zero]
    simp [Except.map]

/-- a module or function name that is not valid UTF-8 aborts the whole list with a ValueError
(UnicodeDecodeError), whatever follows -/
theorem execute_invalid_utf8 (v off : Nat) (m : Bytes) (mp : Nat) (f : Bytes) (fp : Nat) (t : Bytes)
    (hv : v = 6 ∨ v = 7) (hoff : off < 65536) (hm : m.length + mp < 4294967296)
    (hf : f.length + fp < 4294967296) (hmn : NoTrailNul m) (hfn : NoTrailNul f)
    (hbad : (∃ e, utf8Decode m = .error e) ∨ ((∃ ms, utf8Decode m = .ok ms) ∧ ∃ e, utf8Decode f = .error e)) :
    parseExecute (encEItem (.call v off m mp f fp) ++ t) = .error .valueError := by
  rcases hbad with ⟨e, he⟩ | ⟨hms, e, he⟩
  · have := utf8Decode_error_kind m e he
    subst this
    exact parseExecute_call_invalid v off m mp f fp t hv hoff hm hf hmn hfn _ (Or.inl he)
  · have := utf8Decode_error_kind f e he
    subst this
    exact parseExecute_call_invalid v off m mp f fp t hv hoff hm hf hmn hfn _ (Or.inr ⟨hms, he⟩)

/-- `é` = C3 A9 is a valid name, C0 80 (overlong NUL) is not: both hypotheses are satisfiable -/
example : ValidName [0xC3, 0xA9] ∧ ∃ e, utf8Decode [0xC0, 0x80] = .error e :=
  ⟨⟨⟨_, utf8_examples.1⟩, by unfold NoTrailNul; decide⟩, ⟨_, utf8_examples.2.2.1⟩⟩

theorem execute_view_names :
    ((List.range 10).map fun v => (EItem.view (.plain v)).map (String.ofList ∘ List.map Char.ofNat)) =
      [none, some "CreateThread", some "SetThreadContext", some "CreateRemoteThread", some "RtlCreateUserThread",
       some "NtQueueApcThread", some "CreateThread_", some "CreateRemoteThread_", some "NtQueueApcThread_s", none] := by
  decide +kernel

/-- the rendered strings determine the items: defined plain opcodes have distinct names, a plain name never equals
a quoted call, and a call `Name "module!function+0xoff"` determines opcode, offset, module and function whenever the
module contains no `!` and the function no `+` (the NUL padding is, by design, not observable). -/
theorem execute_view_injective :
    (∀ v ∈ [1, 2, 3, 4, 5, 8], ∀ w ∈ [1, 2, 3, 4, 5, 8], EItem.view (.plain v) = EItem.view (.plain w) → v = w) ∧
    (∀ v w off m mp f fp, EItem.view (.plain v) ≠ EItem.view (.call w off m mp f fp)) ∧
    (∀ v off m mp f fp v' off' m' mp' f' fp', (v = 6 ∨ v = 7) → (v' = 6 ∨ v' = 7) →
      (33 : UInt8) ∉ m → (33 : UInt8) ∉ m' → (43 : UInt8) ∉ f → (43 : UInt8) ∉ f' →
      EItem.view (.call v off m mp f fp) = EItem.view (.call v' off' m' mp' f' fp') →
      v = v' ∧ off = off' ∧ m = m' ∧ f = f') := by
  refine ⟨by decide +kernel, plain_ne_call, ?_⟩
  -- the rendering is `Name "module!function+0xoff"`: 32 is the space, 34 `"`, 33 `!`, 43 `+`
  intro v off m mp f fp v' off' m' mp' f' fp' hv hv' hm hm' hf hf' h
  simp only [EItem.view, Option.some.injEq, List.append_assoc, List.cons_append, List.nil_append] at h
  obtain ⟨hname, hrest⟩ := append_sep_inj 32 _ _ _ _ (callName_no_space v) (callName_no_space v') h
  have hvv := callName_inj v v' hv hv' hname
  simp only [List.cons.injEq, true_and] at hrest
  have hm33 := not_mem_map_toNat m 33 hm
  have hm33' := not_mem_map_toNat m' 33 hm'
  obtain ⟨hmm, hrest2⟩ := append_sep_inj 33 _ _ _ _ hm33 hm33' hrest
  have hmeq := map_toNat_injective m m' hmm
  have hf43 := not_mem_map_toNat f 43 hf
  have hf43' := not_mem_map_toNat f' 43 hf'
  change List.map (·.toNat) f ++ (offPart off ++ [34]) = List.map (·.toNat) f' ++ (offPart off' ++ [34]) at hrest2
  rw [← List.append_assoc, ← List.append_assoc] at hrest2
  have hrest3 := List.append_cancel_right hrest2
  by_cases h0 : off = 0 <;> by_cases h0' : off' = 0
  · subst h0; subst h0'
    simp only [offPart, ne_eq, not_true_eq_false, ↓reduceIte, List.append_nil] at hrest3
    exact ⟨hvv, rfl, hmeq, map_toNat_injective f f' hrest3⟩
  · exfalso
    subst h0
    rw [offPart_pos off' h0'] at hrest3
    simp only [offPart, ne_eq, not_true_eq_false, ↓reduceIte, List.append_nil] at hrest3
    exact hf43 (hrest3 ▸ by simp)
  · exfalso
    subst h0'
    rw [offPart_pos off h0] at hrest3
    simp only [offPart, ne_eq, not_true_eq_false, ↓reduceIte, List.append_nil] at hrest3
    exact hf43' (hrest3 ▸ by simp)
  · rw [offPart_pos off h0, offPart_pos off' h0'] at hrest3
    obtain ⟨hff, hd⟩ := append_sep_inj 43 _ _ _ _ hf43 hf43' hrest3
    simp only [List.cons.injEq, true_and] at hd
    exact ⟨hvv, toDigits16_injective _ _ (map_charToNat_injective _ _ hd), hmeq, map_toNat_injective f f' hff⟩

instance : DecidablePred NoTrailNul := fun b => by unfold NoTrailNul; exact inferInstance
instance : DecidablePred AsciiName := fun b => by unfold AsciiName; exact inferInstance
instance : DecidablePred EItem.WF := fun it => by
  cases it <;> simp only [EItem.WF] <;> exact inferInstance

/-- `CreateThread "ntdll!RtlUserThreadStart+0x21"` with NUL-terminated strings, then a plain and an undefined opcode -/
example : parseExecute (encExecute [.call 6 0x21 (asc "ntdll") 1 (asc "RtlUserThreadStart") 1,
      .plain 8, .plain 200, .call 7 0 (asc "k") 0 [] 3]) =
    .ok [some (strCps "CreateThread \"ntdll!RtlUserThreadStart+0x21\""), some (strCps "NtQueueApcThread_s"), none,
      some (strCps "CreateRemoteThread \"k!\"")] := by
  rw [(execute_roundtrip _ (by decide +kernel) []).1]; decide +kernel

/-! ## Process-inject transforms, sleep-mask sections, pivot frames -/

theorem inj_transform_roundtrip (a p junk : Bytes) (ha : a.length < 4294967296) (hp : p.length < 4294967296) :
    parseInjTransform (encInjTransform a p ++ junk) = [("append", a), ("prepend", p)] := by
  unfold parseInjTransform encInjTransform
  simp only [List.append_assoc, take4_be32, drop4_be32, u32be_be32 _ ha, ne_eq, be32_ne_nil', not_false_eq_true, ↓reduceIte]
  rw [List.drop_left' rfl, List.take_left' rfl]
  simp only [take4_be32, drop4_be32, u32be_be32 _ hp, be32_ne_nil', not_false_eq_true, ↓reduceIte]
  rw [List.take_left' rfl]
  rfl

theorem inj_transform_empty : parseInjTransform [] = [] := by decide

/-- the section table decodes to exactly the encoded (start, end) rows, in order, minus the (0,0) rows -/
theorem gargle_roundtrip (rows : List (Nat × Nat)) (h : ∀ r ∈ rows, r.1 < 4294967296 ∧ r.2 < 4294967296) :
    parseGarglePairs (encGargle rows) = rows.filter (· ≠ (0, 0)) ∧
    parseGargle (encGargle rows) = (rows.filter (· ≠ (0, 0))).map fmtRange := by
  have := parseGarglePairs_enc_append rows h []
  rw [parseGarglePairs_nil] at this
  simp only [List.append_nil] at this
  exact ⟨this, by rw [parseGargle, this]⟩

/-- the textual rendering `0x<start>-0x<end>` determines the row (lower-case hex without padding) -/
theorem gargle_format_injective (p q : Nat × Nat) (h : fmtRange p = fmtRange q) : p = q := by
  have h' := congrArg String.toList h
  simp only [fmtRange, hexStr, String.toList_append, String.toList_ofList, List.append_assoc] at h'
  have e1 : "0x".toList = ['0', 'x'] := by decide
  have e2 : "-0x".toList = ['-', '0', 'x'] := by decide
  rw [e1, e2] at h'
  simp only [List.cons_append, List.nil_append, List.cons.injEq, true_and] at h'
  obtain ⟨ha, hb⟩ := append_sep_inj '-' _ _ _ _ (fun hm => toDigits16_no_dash p.1 _ hm rfl)
    (fun hm => toDigits16_no_dash q.1 _ hm rfl) h'
  simp only [List.cons.injEq, true_and] at hb
  exact Prod.ext (toDigits16_injective _ _ ha) (toDigits16_injective _ _ hb)

example : parseGargle (encGargle [(4096, 172032), (0, 0), (0, 15)]) = ["0x1000-0x2a000", "0x0-0xf"] := by
  rw [(gargle_roundtrip _ (by decide +kernel)).2]; decide +kernel

/-- the frame header is exactly the `length - 4` bytes that follow the 16-bit length; for a length below 4
Python's `read(negative)` returns everything that follows -/
theorem pivot_roundtrip (d junk : Bytes) (h : d.length + 4 < 65536) :
    parsePivot (encPivot d ++ junk) = d := by
  unfold parsePivot encPivot rdInt
  simp only [List.append_assoc, take2_be16, drop2_be16, u16be_be16 _ h]
  have : ¬ (((d.length + 4 : Nat) : Int) - 4 < 0) := by omega
  simp only [this, ↓reduceIte]
  have : (((d.length + 4 : Nat) : Int) - 4).toNat = d.length := by omega
  rw [this, List.take_left' rfl]

theorem pivot_short_length (n : Nat) (t : Bytes) (h : n < 4) : parsePivot (be16 n ++ t) = t := by
  unfold parsePivot rdInt
  simp only [take2_be16, drop2_be16, u16be_be16 _ (by omega : n < 65536)]
  have : ((n : Nat) : Int) - 4 < 0 := by omega
  simp only [this, ↓reduceIte]

/-! ## NUL-terminated strings and the public-key digest -/

/-- the text before the first NUL, exactly (high bytes are kept: latin-1 never drops anything) -/
theorem nullstr_terminated (s t : Bytes) (h : ∀ x ∈ s, x ≠ 0) :
    nullTerminatedStr (s ++ 0 :: t) = s ∧ nullTerminatedStr s = s ∧ nullTerminatedBytes (s ++ 0 :: t) = s :=
  ⟨nullTerminatedBytes_append s t h, nullTerminatedBytes_no_nul s h, nullTerminatedBytes_append s t h⟩

/-- for arbitrary data: the result is NUL-free, a prefix of the data, and followed by a NUL or the end -/
theorem nullstr_characterisation (s : Bytes) :
    (∀ x ∈ nullTerminatedStr s, x ≠ 0) ∧ nullTerminatedStr s <+: s ∧
    (s = nullTerminatedStr s ∨ ∃ t, s = nullTerminatedStr s ++ 0 :: t) :=
  ⟨nullTerminatedBytes_mem s, nullTerminatedBytes_prefix s, nullTerminatedBytes_split s⟩

/-- the digest is taken over the key without its NUL padding, whatever the hash function is -/
theorem pubkey_digest_preimage (sha : Bytes → Bytes) (k : Bytes) (h : NoTrailNul k) (n : Nat) :
    sha256sumPubkey sha (k ++ List.replicate n 0) = Hex.encode (sha k) ∧
    rstripNul (k ++ List.replicate n 0) = k :=
  ⟨by rw [sha256sumPubkey, rstripNul_pad k h n], rstripNul_pad k h n⟩

theorem rstripNul_result (b : Bytes) : NoTrailNul (rstripNul b) := by
  unfold NoTrailNul rstripNul
  rw [List.getLast?_reverse]
  cases h : List.dropWhile (fun x => x == 0) b.reverse with
  | nil => simp
  | cons x xs =>
    have := List.head_dropWhile_not (fun x => x == (0 : UInt8)) (l := b.reverse) (by rw [h]; simp)
    simp only [h, List.head_cons] at this
    simp only [List.head?_cons, ne_eq, Option.some.injEq]
    intro hx; subst hx; simp at this

/-! ## BeaconGate -/

/-- For every set of enabled APIs `o` (hence for every one of the 2^23 flag vectors, see `gate_options`):
  1. expanding the reported groups and adding the individually listed names gives exactly `o`;
  2. `All` is reported iff every API is enabled; `Comms`/`Core`/`Cleanup` iff the group is enabled and `All` is not;
  3. groups appear at most once and in the order All, Comms, Core, Cleanup;
  4. the individually listed names are a sub-list of `o` (no duplicates when `o` has none);
  5. no name covered by a reported group is listed individually. -/
theorem gate_sound_complete (o : List String) :
    (∀ x, (x ∈ (gateString o).2 ∨ ∃ g ∈ (gateString o).1, x ∈ expandGroup g) ↔ x ∈ o) ∧
    (("All" ∈ (gateString o).1 ↔ ∀ x ∈ gateAll, x ∈ o) ∧
     ("Comms" ∈ (gateString o).1 ↔ (∀ x ∈ gateComms, x ∈ o) ∧ ¬ ∀ x ∈ gateAll, x ∈ o) ∧
     ("Core" ∈ (gateString o).1 ↔ (∀ x ∈ gateCore, x ∈ o) ∧ ¬ ∀ x ∈ gateAll, x ∈ o) ∧
     ("Cleanup" ∈ (gateString o).1 ↔ (∀ x ∈ gateCleanup, x ∈ o) ∧ ¬ ∀ x ∈ gateAll, x ∈ o)) ∧
    (gateString o).1.Sublist ["All", "Comms", "Core", "Cleanup"] ∧
    (gateString o).2.Sublist o ∧
    (∀ x ∈ (gateString o).2, ∀ g ∈ (gateString o).1, x ∉ expandGroup g) := by
  rw [gateString_eq_spec]
  refine ⟨gateSpec_cover o, ?_, gateSpec_groups_sublist o, gateSpec_sublist o, gateSpec_no_overlap o⟩
  obtain ⟨g0, g1, g2, g3⟩ := gateSpec_groups o
  simp only [← isSuperset_iff, Bool.not_eq_true]
  exact ⟨g0, g1, g2, g3⟩

/-- the enabled set of a flag vector: the fields whose byte is non-zero, each once -/
theorem gate_options (flags : List UInt8) :
    (∀ x, x ∈ gateOptions flags ↔ ∃ b, (x, b) ∈ beaconGateFields.zip flags ∧ b ≠ 0) ∧ (gateOptions flags).Nodup :=
  ⟨mem_gateOptions flags, eraseDups_nodup _⟩

theorem gate_parse (data : Bytes) :
    (data.length < 23 → parseBeaconGate data = .error .eofError) ∧
    (23 ≤ data.length → parseBeaconGate data = .ok (data.take 23)) := by
  have h23 : beaconGateFields.length = 23 := by decide +kernel
  unfold parseBeaconGate
  rw [h23]
  constructor
  · intro h; simp [h]
  · intro h; have : ¬ data.length < 23 := by omega
    simp [this]

/-- all ones → `All`; all zeros → nothing; Core off, rest on → Comms, Cleanup -/
example : beaconGatePretty (List.replicate 23 1) = .ok (["All"], []) ∧
    beaconGatePretty (List.replicate 23 0) = .ok ([], []) ∧
    beaconGatePretty ([1, 1] ++ List.replicate 20 0 ++ [7]) = .ok (["Comms", "Cleanup"], []) ∧
    beaconGatePretty ([0, 1] ++ List.replicate 20 1 ++ [0]) = .ok (["Core"], ["InternetConnectA"]) := by decide +kernel

/-! ## DNS idle address, BOF allocator, protocol, trial flag -/

theorem dns_idle_quad (a b c d : UInt8) :
    dnsIdle (u32be [a, b, c, d]) = .ok s!"{a.toNat}.{b.toNat}.{c.toNat}.{d.toNat}" := by
  have hx : u32be [a, b, c, d] = ((a.toNat * 256 + b.toNat) * 256 + c.toNat) * 256 + d.toNat := by
    simp only [u32be, List.take, beNat, Nat.zero_mul, Nat.zero_add]
  rw [hx]
  exact dnsIdle_digits _ _ _ _ a.toNat_lt b.toNat_lt c.toNat_lt d.toNat_lt

theorem dns_idle_domain (x : Nat) :
    (x < 4294967296 → dnsIdle x = .ok (dottedQuad x)) ∧ (4294967296 ≤ x → dnsIdle x = .error .valueError) := by
  unfold dnsIdle
  constructor
  · intro h; simp [h]
  · intro h; have : ¬ x < 4294967296 := by omega
    simp [this]

example : dnsIdle 134744072 = .ok "8.8.8.8" := by decide +kernel

theorem bof_allocator_names :
    (List.range 4).map bofAllocatorName = [some "VirtualAlloc", some "MapViewOfFile", some "HeapAlloc", none] := by
  decide +kernel

/-- on the defined flag values the protocol name is the member name (combined / undefined values follow
Python's `enum.Flag` naming, modelled by `flagName` and covered by the correspondence only) -/
theorem protocol_defined_values :
    [0, 1, 2, 4, 8, 16].map protocolName =
      [some "http", some "dns", some "smb", some "tcp", some "https", some "bind"] := by decide +kernel

theorem derived_scalars (cfg : List RawSetting) :
    (isTrial cfg = true ↔ rawGet cfg "SETTING_CRYPTO_SCHEME" = some (.int 1)) ∧
    (port cfg = rawGet cfg "SETTING_PORT") ∧ (watermark cfg = rawGet cfg "SETTING_WATERMARK") ∧
    (∀ b, rawGet cfg "SETTING_PUBKEY" = some (.bytes b) → publicKey cfg = some (rstripNul b)) ∧
    (∀ x, rawGet cfg "SETTING_PROTOCOL" = some (.int x) → protocol cfg = some (protocolName x)) := by
  have hc : enumVal cryptoScheme "CRYPTO_TRIAL_PRODUCT" = some 1 := by decide +kernel
  refine ⟨?_, rfl, rfl, ?_, ?_⟩
  · unfold isTrial
    rw [hc]
    cases h : rawGet cfg "SETTING_CRYPTO_SCHEME" with
    | none => simp
    | some v => cases v <;> simp
  · intro b hb; simp [publicKey, hb]
  · intro x hx; simp [protocol, hx]

/-! ## Domain / URI pairs -/

/-- For a SETTING_DOMAINS value `d1,u1,d2,u2,…` (items free of `,` and NUL), NUL-terminated with arbitrary
bytes after the terminator: the pairs are exactly the encoded ones in order; `domains`/`uris` are their
order-preserving de-duplications; every pair's members occur in them; neither list repeats an entry. -/
theorem domains_pairs (cfg : List RawSetting) (ps : List (Bytes × Bytes)) (junk : Bytes) (hne : ps ≠ [])
    (hitems : ∀ i ∈ interleave ps, ∀ x ∈ i, x ≠ 44 ∧ x ≠ 0)
    (hcfg : rawGet cfg "SETTING_DOMAINS" = some (.bytes (joinComma (interleave ps) ++ 0 :: junk))) :
    domainUriPairs cfg = ps.map (fun p => (p.1, some p.2)) ∧
    domains cfg = dedup (ps.map (·.1)) ∧ uris cfg = dedup (ps.map (fun p => some p.2)) ∧
    (∀ p ∈ ps, p.1 ∈ domains cfg ∧ some p.2 ∈ uris cfg) ∧
    (domains cfg).Nodup ∧ (uris cfg).Nodup := by
  have hjoin : ∀ x ∈ joinComma (interleave ps), x ≠ 0 := by
    have : ∀ (l : List Bytes), (∀ i ∈ l, ∀ x ∈ i, x ≠ 44 ∧ x ≠ 0) → ∀ x ∈ joinComma l, x ≠ 0 := by
      intro l
      induction l with
      | nil => simp [joinComma]
      | cons a r ih =>
        cases r with
        | nil => intro h x hx; exact (h a (by simp) x (by simpa [joinComma] using hx)).2
        | cons b r =>
          intro h x hx
          simp only [joinComma, List.mem_append, List.mem_cons] at hx
          rcases hx with hx | hx | hx
          · exact (h a (by simp) x hx).2
          · subst hx; decide +kernel
          · exact ih (fun i hi => h i (by simp [hi])) x hx
    exact this _ hitems
  have hil : interleave ps ≠ [] := by
    cases ps with
    | nil => exact absurd rfl hne
    | cons p r => simp [interleave]
  have hpairs : domainUriPairs cfg = ps.map (fun p => (p.1, some p.2)) := by
    unfold domainUriPairs
    rw [hcfg]
    simp only [nullTerminatedStr]
    rw [nullTerminatedBytes_append _ _ hjoin,
      splitComma_join _ hil (fun i hi x hx => (hitems i hi x hx).1), grouper2_interleave]
  have hd : domains cfg = dedup (ps.map (·.1)) := by
    unfold domains; rw [hpairs, List.map_map]; rfl
  have hu : uris cfg = dedup (ps.map (fun p => some p.2)) := by
    unfold uris; rw [hpairs, List.map_map]; rfl
  refine ⟨hpairs, hd, hu, ?_, ?_, ?_⟩
  · intro p hp
    rw [hd, hu, mem_dedup, mem_dedup]
    exact ⟨List.mem_map.mpr ⟨p, hp, rfl⟩, List.mem_map.mpr ⟨p, hp, rfl⟩⟩
  · rw [hd]; exact nodup_dedup _
  · rw [hu]; exact nodup_dedup _

/-- an odd number of items: the last domain is paired with `None` -/
theorem domains_pairs_odd (ps : List (Bytes × Bytes)) (d : Bytes) :
    grouper2 (interleave ps ++ [d]) = (ps.map fun p => (p.1, some p.2)) ++ [(d, none)] := by
  induction ps with
  | nil => rfl
  | cons p r ih => simp [interleave, grouper2, ih]

/-- hypotheses of `domains_pairs` are satisfiable by a real TLV setting (index 8, TYPE_PTR) -/
example : rawGet [⟨8, 3, asc "a.com,/x,b.com,/x" ++ [0, 0, 0]⟩] "SETTING_DOMAINS" =
    some (.bytes (joinComma (interleave [(asc "a.com", asc "/x"), (asc "b.com", asc "/x")]) ++ 0 :: [0, 0])) := by
  decide +kernel

/-! ## SETTING_TO_PRETTYFUNC dispatch: the parsers above are what `settings[...]` shows -/

theorem pretty_dispatch (sha : Bytes → Bytes) (b : Bytes) :
    prettyVal sha ⟨11, 3, b⟩ = some (.ok (.recover (parseRecover b))) ∧
    prettyVal sha ⟨12, 3, b⟩ = some (.ok (.transform (parseTransform "metadata" b))) ∧
    prettyVal sha ⟨13, 3, b⟩ = some (.ok (.transform (parseTransform "id" b))) ∧
    prettyVal sha ⟨51, 3, b⟩ = some ((parseExecute b).map .execute) ∧
    prettyVal sha ⟨46, 3, b⟩ = some (.ok (.injTransform (parseInjTransform b))) ∧
    prettyVal sha ⟨47, 3, b⟩ = some (.ok (.injTransform (parseInjTransform b))) ∧
    prettyVal sha ⟨42, 3, b⟩ = some (.ok (.gargle (parseGargle b))) ∧
    prettyVal sha ⟨57, 3, b⟩ = some (.ok (.bytes (parsePivot b))) ∧
    prettyVal sha ⟨58, 3, b⟩ = some (.ok (.bytes (parsePivot b))) ∧
    prettyVal sha ⟨8, 3, b⟩ = some (.ok (.lstr (nullTerminatedStr b))) ∧
    prettyVal sha ⟨7, 3, b⟩ = some (.ok (.text (sha256sumPubkey sha b))) ∧
    prettyVal sha ⟨78, 3, b⟩ = some ((beaconGatePretty b).map .gate) ∧
    prettyVal sha ⟨19, 2, b⟩ = some ((dnsIdle (u32be b)).map .text) ∧
    prettyVal sha ⟨16, 1, b⟩ = some (.ok (.optText (bofAllocatorName (u16be b)))) := by
  exact ⟨rfl, rfl, rfl, rfl, rfl, rfl, rfl, rfl, rfl, rfl, rfl, rfl, rfl, rfl⟩

/-! ## Kill date

`killdate` falls back to SETTING_KILLDATE_YEAR/MONTH/DAY when SETTING_KILLDATE is absent or zero, but the
name-indexed view never has the keys SETTING_KILLDATE_YEAR / SETTING_KILLDATE_MONTH (values 16 and 17 resolve to
SETTING_BOF_ALLOCATOR / SETTING_SYSCALL_METHOD, and 16 is prettified to an allocator name), so the legacy date
of a Cobalt Strike < 3.12 beacon is never derived.  Recorded as finding C03-killdate-legacy-fallback-dead. -/

def killdate_legacy_full : Prop :=
  ∀ y m d : Nat, 0 < y → y < 65536 → 0 < m → m < 65536 → 0 < d → d < 65536 →
    killdate (fun _ => []) [⟨16, 1, be16 y⟩, ⟨17, 1, be16 m⟩, ⟨18, 1, be16 d⟩] =
      some (.ok (some (fmt02 y ++ "-" ++ fmt02 m ++ "-" ++ fmt02 d)))

theorem killdate_legacy_full_fails : ¬ killdate_legacy_full := by
  intro h
  have := h 2020 12 31 (by decide +kernel) (by decide +kernel) (by decide +kernel) (by decide +kernel) (by decide +kernel) (by decide +kernel)
  revert this
  decide +kernel

/-- what the code does instead: the legacy settings never produce a date -/
theorem killdate_legacy_is_none :
    killdate (fun _ => []) [⟨16, 1, be16 2020⟩, ⟨17, 1, be16 12⟩, ⟨18, 1, be16 31⟩] = some (.ok none) := by decide +kernel

/-- SETTING_KILLDATE = YYYYMMDD (four-digit year, any two-digit month/day, e.g. 9999-99-99) is rendered
`YYYY-MM-DD` with zero padding, for every such value -/
theorem killdate_yyyymmdd_format (sha : Bytes → Bytes) (y m d : Nat) (h1 : 1000 ≤ y) (h2 : y < 10000)
    (hm : m < 100) (hd : d < 100) :
    killdate sha [⟨40, 2, be32 ((y * 100 + m) * 100 + d)⟩] =
      some (.ok (some (fmt02 y ++ "-" ++ fmt02 m ++ "-" ++ fmt02 d))) := by
  have hlt : (y * 100 + m) * 100 + d < 4294967296 := by omega
  have hkey : settingKey ⟨40, 2, be32 ((y * 100 + m) * 100 + d)⟩ = "SETTING_KILLDATE" := by
    have h40 : enumName settingNames 40 = some "SETTING_KILLDATE" := by decide
    simp [settingKey, settingWatermarkHash, h40]
  have hval : prettyVal sha ⟨40, 2, be32 ((y * 100 + m) * 100 + d)⟩ =
      some (.ok (.int ((y * 100 + m) * 100 + d))) := by
    have hf : prettyTable.find? (·.1 == 40) = none := by decide
    simp [prettyVal, settingWatermarkHash, hf, parseVal, typeShort, typeInt, plainVal, u32be_be32 _ hlt]
  unfold killdate
  simp only [settingsView, hval, hkey]
  exact killdateOf_yyyymmdd y m d h1 h2 hm hd

/-- other shapes of SETTING_KILLDATE (concrete values): the int is split by decimal digits; fewer than 7 digits
raise ValueError (`int("")`); zero / absent gives `None` -/
theorem killdate_partial :
    killdate (fun _ => []) [⟨40, 2, be32 20201231⟩] = some (.ok (some "2020-12-31")) ∧
    killdate (fun _ => []) [⟨40, 2, be32 2020123⟩] = some (.ok (some "2020-12-03")) ∧
    killdate (fun _ => []) [⟨40, 2, be32 202012⟩] = some (.error .valueError) ∧
    killdate (fun _ => []) [⟨40, 2, be32 0⟩] = some (.ok none) ∧
    killdate (fun _ => []) [] = some (.ok none) := by decide +kernel

end C03

import CsVerif.Lemmas.C06
/-!
C06 property theorems: Beacon metadata survives RSA transport; session keys derive from it.

RSA/PKCS#1 v1.5 and SHA-256 are parameters (`Crypto`); every theorem that needs a fact about them takes
`CryptoLaws c`.  `toy_laws` shows the laws are satisfiable.
-/
namespace C06
open Gen.C2Struct

/-! ### obligations on the generated tables (re-checked against c_c2.py / c2.py on every run) -/

/-- The structure definition is the one the model and the theorems below were written for. -/
theorem layout_generated :
    beaconMetadataFields =
      [⟨"magic", .uint, 4⟩, ⟨"size", .uint, 4⟩, ⟨"aes_rand", .chars, 16⟩, ⟨"ansi_cp", .uint, 2⟩,
       ⟨"oem_cp", .uint, 2⟩, ⟨"bid", .uint, 4⟩, ⟨"pid", .uint, 4⟩, ⟨"port", .uint, 2⟩, ⟨"flag", .uint, 1⟩,
       ⟨"ver_major", .uint, 1⟩, ⟨"ver_minor", .uint, 1⟩, ⟨"ver_build", .uint, 2⟩, ⟨"ptr_x64", .uint, 4⟩,
       ⟨"ptr_gmh", .uint, 4⟩, ⟨"ptr_gpa", .uint, 4⟩, ⟨"ip", .uint, 4⟩, ⟨"info", .dynChars, 0⟩] := by
  decide +kernel

/-- cstruct's offsets are the running sums of the widths: no holes, so the only padding `dumps()` can
insert is the NUL fill after a too-short `aes_rand` (modelled by `padTo`). -/
theorem offsets_consecutive :
    beaconMetadataOffsets =
      (List.range beaconMetadataFields.length).map
        (fun i => ((beaconMetadataFields.take i).map (·.width)).sum) := by
  decide +kernel

/-- big-endian, `info` length is `size - 51`, and 51 is the static part minus `magic` and `size`. -/
theorem endian_and_info_expr :
    bigEndian = true ∧ infoLenField = "size" ∧ infoLenSub = 51 ∧ headerLen = infoLenSub + W "magic" + W "size" := by
  decide +kernel

/-- `InWidth` spelled out: every integer field at its full width. -/
theorem inWidth_explicit (m : Metadata) :
    InWidth m ↔
      m.magic < 2 ^ 32 ∧ m.size < 2 ^ 32 ∧ m.ansi_cp < 2 ^ 16 ∧ m.oem_cp < 2 ^ 16 ∧
      m.bid < 2 ^ 32 ∧ m.pid < 2 ^ 32 ∧ m.port < 2 ^ 16 ∧ m.flag < 2 ^ 8 ∧ m.ver_major < 2 ^ 8 ∧
      m.ver_minor < 2 ^ 8 ∧ m.ver_build < 2 ^ 16 ∧ m.ptr_x64 < 2 ^ 32 ∧ m.ptr_gmh < 2 ^ 32 ∧
      m.ptr_gpa < 2 ^ 32 ∧ m.ip < 2 ^ 32 := by
  simp only [InWidth, W_magic, W_size, W_ansi_cp, W_oem_cp, W_bid, W_pid, W_port, W_flag, W_ver_major,
    W_ver_minor, W_ver_build, W_ptr_x64, W_ptr_gmh, W_ptr_gpa, W_ip, Nat.reducePow]

/-! ### the byte layout -/

/-- `dumps()` succeeds exactly when every integer field fits; otherwise `struct.error`. -/
theorem dumps_ok_iff (m : Metadata) :
    (∃ d, dumpsMetadata m = .ok d) ↔ InWidth m := by
  exact ⟨fun ⟨_, h⟩ => (dumps_ok_inv h).1, fun hw => ⟨_, dumps_ok m hw⟩⟩

theorem dumps_overflow (m : Metadata) (h : ¬ InWidth m) : dumpsMetadata m = .error .structError :=
  if_neg h

/-- `len(metadata)`: 59 bytes of fixed fields plus the info string (for a 16-byte `aes_rand`). -/
theorem dumps_length (m : Metadata) (d : Bytes) (haes : m.aes_rand.length = 16)
    (h : dumpsMetadata m = .ok d) : d.length = 59 + m.info.length := by
  rw [(dumps_ok_inv h).2, rawDumps_length16 m haes]

/-- Parsing what was dumped gives the same metadata back, field for field, for all in-width field
values and every info string, when `size` is consistent; trailing bytes are ignored. -/
theorem parse_dumps (m : Metadata) (t : Bytes) (hw : InWidth m) (haes : m.aes_rand.length = 16)
    (hsize : m.size = 51 + m.info.length) :
    ∃ d, dumpsMetadata m = .ok d ∧ parseMetadata d = .ok m ∧ parseMetadata (d ++ t) = .ok m := by
  exact ⟨rawDumps m, dumps_ok m hw, parse_rawDumps m hw haes hsize, parse_rawDumps_append m t hw haes hsize⟩

/-- The reader raises nothing but `EOFError`, and does so whenever the 59-byte header is incomplete or
fewer than `size - 51` info bytes follow it. -/
theorem parse_only_eof (b : Bytes) (e : PyExc) (h : parseMetadata b = .error e) : e = .eofError :=
  parse_error_eof b e h

theorem parse_short_header (b : Bytes) (h : b.length < 59) : parseMetadata b = .error .eofError :=
  parse_short b h

theorem parse_short_info (b : Bytes) (h0 : 59 ≤ b.length) (h : b.length - 59 < sizeField b - 51) :
    parseMetadata b = .error .eofError :=
  parse_truncated b h

/-- What a successful parse returns: `size < 51` reads an empty info (cstruct's `max(0, size - 51)`). -/
theorem parse_ok_shape (b : Bytes) (m : Metadata) (h : parseMetadata b = .ok m) :
    59 ≤ b.length ∧ m.magic = magicField b ∧ m.size = sizeField b ∧ m.aes_rand = (b.drop 8).take 16 ∧
    m.info = (b.drop 59).take (m.size - 51) ∧ m.info.length = m.size - 51 := by
  obtain ⟨h1, h2, h3, h4, h5, h6⟩ := parse_ok_facts b m h
  refine ⟨h1, h2, h3, h4, by rw [h3]; exact h6, ?_⟩
  rw [h6, h3, List.length_take, List.length_drop]
  omega

/-! ### encrypt_metadata -/

/-- `encrypt_metadata` makes the size field consistent: `size = len(dumps) - 8 = 51 + |info|`, and that
is what the encrypted bytes say too. -/
theorem size_consistent (m m' : Metadata) (hw : InWidth m) (haes : m.aes_rand.length = 16)
    (h : sized m = .ok m') :
    m' = { m with size := 51 + m.info.length } ∧
    (∀ d, dumpsMetadata m' = .ok d → m'.size = d.length - 8 ∧ sizeField d = d.length - 8 ∧
      m'.info.length = m'.size - 51) := by
  rw [sized_ok m hw haes] at h
  injection h with h
  subst h
  refine ⟨rfl, ?_⟩
  intro d hd
  obtain ⟨hw', rfl⟩ := dumps_ok_inv hd
  have hl := rawDumps_length16 { m with size := 51 + m.info.length } haes
  have hp := parse_rawDumps { m with size := 51 + m.info.length } hw' haes rfl
  have hf := (parse_ok_facts _ _ hp).2.2.1
  simp only at hf hl
  refine ⟨by simp only; omega, by rw [← hf]; omega, by simp only; omega⟩

/-- A stale out-of-range field makes `len(metadata)` raise `struct.error` before anything is encrypted. -/
theorem encrypt_overflow (c : Crypto) (m : Metadata) (r : Rand) (h : ¬ InWidth m) :
    encryptMetadata c m r = .error .structError := by
  simp [encryptMetadata, sized, dumps_overflow m h]

/-- Metadata that does not fit the modulus (`59 + |info| > k - 11`) is rejected with ValueError. -/
theorem too_long_rejected (c : Crypto) (hc : CryptoLaws c) (m : Metadata) (r : Rand)
    (hw : InWidth m) (haes : m.aes_rand.length = 16) (hsz : 51 + m.info.length < 2 ^ 32)
    (hlong : ¬ (59 + m.info.length + 11 ≤ c.modulusBytes)) :
    encryptMetadata c m r = .error (.py .valueError) := by
  rw [encrypt_eq c m r hw haes hsz,
    hc.enc_too_long _ r (by rw [rawDumps_length16 { m with size := 51 + m.info.length } haes]; exact hlong)]
  rfl

/-! ### the central statement -/

/-- **Round trip.**  For every metadata whose integer fields fit their widths, every 16-byte
`aes_rand` and every info string with `59 + |info| ≤ k - 11`, encryption succeeds, the blob has modulus
length, and decrypting it with the matching key returns the same metadata field for field with `size`
made consistent (`51 + |info| = |dumps| - 8`) — provided the caller set the 0xBEEF magic, which
`encrypt_metadata` does not do itself; with any other magic the blob is rejected with ValueError.
(`hsz` only matters for absurd moduli of more than 2^32 bytes; see the RSA-1024/2048 corollaries.) -/
theorem metadata_roundtrip (c : Crypto) (hc : CryptoLaws c) (m : Metadata) (r : Rand)
    (hw : InWidth m) (haes : m.aes_rand.length = 16)
    (hfit : 59 + m.info.length ≤ c.modulusBytes - 11) (hsz : 51 + m.info.length < 2 ^ 32) :
    ∃ blob, encryptMetadata c m r = .ok blob ∧ blob.length = c.modulusBytes ∧
      decryptMetadata c blob =
        if m.magic = 0xBEEF then .ok { m with size := 51 + m.info.length } else .error .valueError := by
  have hw' := inWidth_setSize m (51 + m.info.length) hw hsz
  have hlen' : (rawDumps { m with size := 51 + m.info.length }).length = 59 + m.info.length :=
    rawDumps_length16 { m with size := 51 + m.info.length } haes
  obtain ⟨blob, hb⟩ := hc.enc_ok (rawDumps { m with size := 51 + m.info.length }) r (by rw [hlen']; omega)
  refine ⟨blob, ?_, hc.enc_length _ _ _ hb, ?_⟩
  · rw [encrypt_eq c m r hw haes hsz, hb]
    rfl
  · have hp := parse_rawDumps { m with size := 51 + m.info.length } hw' haes rfl
    rw [decryptMetadata_eq, hc.dec_enc _ _ _ hb]
    simp only [hp]
    rfl

/-- RSA-1024 (`k = 128`): every info string of length 0..58. -/
theorem metadata_roundtrip_rsa1024 (c : Crypto) (hc : CryptoLaws c) (hk : c.modulusBytes = 128)
    (m : Metadata) (r : Rand) (hw : InWidth m) (haes : m.aes_rand.length = 16)
    (hmagic : m.magic = 0xBEEF) (hinfo : m.info.length ≤ 58) :
    ∃ blob, encryptMetadata c m r = .ok blob ∧ blob.length = 128 ∧
      decryptMetadata c blob = .ok { m with size := 51 + m.info.length } := by
  obtain ⟨blob, h1, h2, h3⟩ := metadata_roundtrip c hc m r hw haes (by omega) (by omega)
  exact ⟨blob, h1, by omega, by rw [h3, if_pos hmagic]⟩

/-- RSA-2048 (`k = 256`): every info string of length 0..186. -/
theorem metadata_roundtrip_rsa2048 (c : Crypto) (hc : CryptoLaws c) (hk : c.modulusBytes = 256)
    (m : Metadata) (r : Rand) (hw : InWidth m) (haes : m.aes_rand.length = 16)
    (hmagic : m.magic = 0xBEEF) (hinfo : m.info.length ≤ 186) :
    ∃ blob, encryptMetadata c m r = .ok blob ∧ blob.length = 256 ∧
      decryptMetadata c blob = .ok { m with size := 51 + m.info.length } := by
  obtain ⟨blob, h1, h2, h3⟩ := metadata_roundtrip c hc m r hw haes (by omega) (by omega)
  exact ⟨blob, h1, by omega, by rw [h3, if_pos hmagic]⟩

/-! ### rejection: always ValueError, never another exception -/

/-- A blob that pycryptodome cannot decrypt — the call raised, returned the sentinel, or returned
empty bytes — is rejected with ValueError. -/
theorem undecryptable_rejected (c : Crypto) (hc : CryptoLaws c) (blob : Bytes)
    (h : (∃ e, c.rsaDec blob = .error e) ∨ c.rsaDec blob = .ok none ∨ c.rsaDec blob = .ok (some [])) :
    decryptMetadata c blob = .error .valueError := by
  rw [decryptMetadata_eq]
  rcases h with ⟨e, he⟩ | h | h
  · rw [he, hc.dec_raises_only_valueError blob e he]
  · rw [h]
  · simp only [h, parse_short [] (by decide)]

/-- Blobs of any length other than the modulus length are rejected with ValueError. -/
theorem wrong_length_rejected (c : Crypto) (hc : CryptoLaws c) (blob : Bytes)
    (h : blob.length ≠ c.modulusBytes) : decryptMetadata c blob = .error .valueError :=
  undecryptable_rejected c hc blob (.inl ⟨_, hc.dec_bad_length blob h⟩)

/-- A plaintext shorter than the 59-byte header, or whose size field promises more info bytes than are
present, is rejected with ValueError (the EOFError of the reader never escapes). -/
theorem short_plaintext_rejected (c : Crypto) (blob pt : Bytes) (hd : c.rsaDec blob = .ok (some pt))
    (h : pt.length < 59 ∨ pt.length - 59 < sizeField pt - 51) :
    decryptMetadata c blob = .error .valueError := by
  have hp : parseMetadata pt = .error .eofError := h.elim (parse_short pt) (parse_truncated pt)
  rw [decryptMetadata_eq, hd]
  simp only [hp]

/-- A plaintext that parses but does not start with `00 00 BE EF` is rejected with ValueError. -/
theorem bad_magic_rejected (c : Crypto) (blob pt : Bytes) (hd : c.rsaDec blob = .ok (some pt))
    (hlen : 59 ≤ pt.length) (hm : magicField pt ≠ 0xBEEF) :
    decryptMetadata c blob = .error .valueError := by
  cases hp : parseMetadata pt with
  | error e => simp only [decryptMetadata_eq, hd, hp]
  | ok m =>
    simp only [decryptMetadata_eq, hd, hp]
    exact if_neg (by rw [(parse_ok_facts pt m hp).2.1]; exact hm)

/-- `decrypt_metadata` raises nothing but ValueError, for every blob whatsoever. -/
theorem decrypt_only_valueError (c : Crypto) (hc : CryptoLaws c) (blob : Bytes) (e : PyExc)
    (h : decryptMetadata c blob = .error e) : e = .valueError := by
  rw [decryptMetadata_eq] at h
  split at h
  · rename_i e' hd
    injection h with h
    exact h ▸ hc.dec_raises_only_valueError blob e' hd
  · injection h with h; exact h.symm
  · split at h
    · injection h with h; exact h.symm
    · split at h
      · cases h
      · injection h with h; exact h.symm

/-- Whatever `decrypt_metadata` returns carries the 0xBEEF magic, a 16-byte `aes_rand` and an info
string of exactly `max(0, size - 51)` bytes. -/
theorem decrypt_ok_shape (c : Crypto) (blob : Bytes) (m : Metadata) (h : decryptMetadata c blob = .ok m) :
    m.magic = 0xBEEF ∧ m.aes_rand.length = 16 ∧ m.info.length = m.size - 51 ∧
    ∃ pt, c.rsaDec blob = .ok (some pt) ∧ parseMetadata pt = .ok m := by
  rw [decryptMetadata_eq] at h
  split at h
  · cases h
  · cases h
  · rename_i pt hd
    split at h
    · cases h
    · rename_i m' hp
      split at h
      · rename_i hm
        injection h with h
        subst h
        obtain ⟨h1, _, _, h4, _, h6⟩ := parse_ok_shape pt m' hp
        refine ⟨hm, ?_, h6, pt, hd, hp⟩
        rw [h4, List.length_take, List.length_drop]
        omega
      · cases h

/-! ### session keys -/

/-- The AES key and the HMAC key are the first and the second half of SHA-256 over the random bytes. -/
theorem derive_split (c : Crypto) (hc : CryptoLaws c) (r : Bytes) :
    (deriveKeys c r).1 ++ (deriveKeys c r).2 = c.sha256 r ∧
    (deriveKeys c r).1.length = 16 ∧ (deriveKeys c r).2.length = 16 := by
  have := hc.sha256_length r
  refine ⟨List.take_append_drop 16 _, ?_, ?_⟩
  · simp only [deriveKeys, List.length_take, this]; omega
  · simp only [deriveKeys, List.length_drop, this]

/-- `BeaconKeys.from_aes_rand` / `from_beacon_metadata` use exactly that split and pass the IV through. -/
theorem beaconKeys_spec (c : Crypto) (m : Metadata) (iv : Bytes) :
    BeaconKeys.fromBeaconMetadata c m iv = BeaconKeys.fromAesRand c m.aes_rand iv ∧
    BeaconKeys.fromAesRand c m.aes_rand iv =
      { aes_key := (c.sha256 m.aes_rand).take 16, hmac_key := (c.sha256 m.aes_rand).drop 16, iv := iv } ∧
    (BeaconKeys.fromAesRand c m.aes_rand).iv = defaultAesIv :=
  ⟨rfl, rfl, rfl⟩

/-- End to end: the keys the receiver derives from the decrypted metadata are the sender's. -/
theorem session_keys_survive_transport (c : Crypto) (hc : CryptoLaws c) (m : Metadata) (r : Rand)
    (hw : InWidth m) (haes : m.aes_rand.length = 16) (hmagic : m.magic = 0xBEEF)
    (hfit : 59 + m.info.length ≤ c.modulusBytes - 11) (hsz : 51 + m.info.length < 2 ^ 32) :
    ∃ blob m', encryptMetadata c m r = .ok blob ∧ decryptMetadata c blob = .ok m' ∧
      BeaconKeys.fromBeaconMetadata c m' = BeaconKeys.fromAesRand c m.aes_rand := by
  obtain ⟨blob, h1, _, h3⟩ := metadata_roundtrip c hc m r hw haes hfit hsz
  rw [if_pos hmagic] at h3
  exact ⟨blob, _, h1, h3, rfl⟩

/-! ### no hidden state -/

/-- The answer to a call does not depend on what was called before or after it (in particular not on
an earlier successful decryption of the same blob with another key).  Trivial for the pure model; a
cache or fast path in the implementation that breaks it shows up in the `hist` correspondence stream. -/
theorem history_independent (pre post : List Call) (c : Call) :
    (runHistory (pre ++ c :: post))[pre.length]? = some (answer c) := by
  simp [runHistory]

/-- A blob accepted under the matching key is still rejected, with ValueError, when it is presented
afterwards with a key that does not decrypt it. -/
theorem wrong_key_after_right_key_rejected (keyA keyB : Crypto) (hB : CryptoLaws keyB) (blob : Bytes)
    (m : Metadata) (hA : decryptMetadata keyA blob = .ok m)
    (hfail : (∃ e, keyB.rsaDec blob = .error e) ∨ keyB.rsaDec blob = .ok none ∨ keyB.rsaDec blob = .ok (some [])) :
    runHistory [.decrypt keyA blob, .decrypt keyB blob, .decrypt keyA blob] =
      [.metadata (.ok m), .metadata (.error .valueError), .metadata (.ok m)] := by
  simp [runHistory, answer, hA, undecryptable_rejected keyB hB blob hfail]

/-- Encrypting the same metadata object again recomputes the same size: `sized` is idempotent, and
after the info string is replaced the size follows it. -/
theorem sized_idempotent (m m' : Metadata) (info : Bytes) (hw : InWidth m) (haes : m.aes_rand.length = 16)
    (hsz : 51 + m.info.length < 2 ^ 32) (hsz2 : 51 + info.length < 2 ^ 32) (h : sized m = .ok m') :
    sized m' = .ok m' ∧ sized { m' with info := info } = .ok { m with size := 51 + info.length, info := info } := by
  obtain ⟨rfl, _⟩ := size_consistent m m' hw haes h
  have hw' := inWidth_setSize m (51 + m.info.length) hw hsz
  exact ⟨sized_ok _ hw' haes, sized_ok { m with size := 51 + m.info.length, info := info } hw' haes⟩

/-! ### the laws are satisfiable -/

theorem toy_laws (k : Nat) : CryptoLaws (toyCrypto k) where
  dec_enc := by
    intro m r ct h
    obtain ⟨hk, rfl⟩ := toy_enc_ok h
    exact (if_neg (fun hne => hne (toyPad_length k m hk))).trans (congrArg _ (toyUnpad_toyPad k m hk))
  enc_ok m r h := ⟨toyPad k m, if_pos h⟩
  enc_too_long m r h := if_neg h
  enc_length m r ct h := by
    obtain ⟨hk, rfl⟩ := toy_enc_ok h
    exact toyPad_length k m hk
  dec_bad_length ct h := if_pos h
  dec_raises_only_valueError ct e h := by
    simp only [toyCrypto] at h
    split at h
    · injection h with h; exact h.symm
    · cases h
  sha256_length x := by simp [toyCrypto]

/-! ### non-vacuity: concrete inputs meeting the hypotheses -/

def sampleMetadata : Metadata :=
  { magic := 0xBEEF, size := 0, aes_rand := [1, 2, 3, 4, 5, 6, 7, 8, 9, 10, 11, 12, 13, 14, 15, 16],
    ansi_cp := 1252, oem_cp := 437, bid := 0x7FFFFFFE, pid := 4242, port := 65535, flag := 255,
    ver_major := 10, ver_minor := 0, ver_build := 19045, ptr_x64 := 0, ptr_gmh := 0xFFFFFFFF,
    ptr_gpa := 1, ip := 0x0A000001, info := [72, 9, 117, 9, 112] }

example : InWidth sampleMetadata ∧ sampleMetadata.aes_rand.length = 16 ∧
    59 + sampleMetadata.info.length ≤ (toyCrypto 128).modulusBytes - 11 := by decide +kernel
example : (dumpsMetadata sampleMetadata).map (·.length) = .ok 64 := by decide +kernel
example : (encryptMetadata (toyCrypto 128) sampleMetadata []).bind
      (fun blob => liftPy (decryptMetadata (toyCrypto 128) blob)) =
    .ok { sampleMetadata with size := 56 } := by decide +kernel
example : dumpsMetadata { sampleMetadata with port := 65536 } = .error .structError := by decide +kernel
example : encryptMetadata (toyCrypto 70) sampleMetadata [] = .error (.py .valueError) := by decide +kernel
example : decryptMetadata (toyCrypto 128) (List.replicate 128 7) = .error .valueError := by decide +kernel
example : decryptMetadata (toyCrypto 128) [1, 2, 3] = .error .valueError := by decide +kernel
example : parseMetadata (List.replicate 58 0) = .error .eofError := by decide +kernel
example : (parseMetadata (List.replicate 59 0 ++ [1, 2])).map (·.info) = .ok [] := by decide +kernel

end C06

import CsVerif.Lemmas.C12
import CsVerif.Gen.StrLit
/-! C12 property theorems: profile string literals encode and decode bytes losslessly and safely.

`valueToString`, `stringTokenToBytes`, `scanString`, `rxMatch` are the models of Model/C12.lean;
`escUnit`, `Esc` (units of a literal body: text, decoded bytes, side condition) are defined in Lemmas/C12.lean. -/
namespace C12

/-! ### generated obligation: the STRING terminal is the one the scanner model was derived from -/

theorem pattern_is_modelled :
    Gen.StrLit.stringPattern = modelledPattern ∧ Gen.StrLit.stringPatternFlags = [] ∧
      Gen.StrLit.globalRegexFlags = 0 ∧ Gen.StrLit.quoteTerminals = ["STRING"] := by
  decide

/-- the derived scanner is the literal backtracking reading of `"(.|\n)*?(?<!\\)(\\\\)*?"` at position 0 -/
theorem scanString_eq_rxMatch (t : Txt) : scanString t = rxMatch t := by
  cases t with
  | nil => rfl
  | cons c cs =>
    simp only [scanString, rxMatch]
    split
    · rename_i h; subst h
      rw [(scanBody_rx cs).1, rxBody_eq, if_pos (by decide)]
      cases (rxPairsQuote cs).or (rxAdv cs) <;> simp [rxSplit]
    · rfl

/-! ### the key lemma: `repr` + the two global `str.replace` calls act byte by byte -/

theorem valueToString_unitwise (bs : Bytes) :
    valueToString bs = [dq] ++ bs.flatMap escUnit ++ [dq] :=
  valueToString_eq bs

/-- every character of a generated literal is printable ASCII (no raw newline, no control or high byte) -/
theorem literal_printable_ascii (bs : Bytes) : ∀ c ∈ valueToString bs, 0x20 ≤ c ∧ c < 0x7f :=
  valueToString_printable' bs

/-! ### every byte string: the literal decodes to it and is one token -/

theorem literal_roundtrip (bs : Bytes) : stringTokenToBytes (valueToString bs) = .ok bs :=
  roundtrip bs

theorem literal_single_token (bs : Bytes) (rest : Txt) :
    scanString (valueToString bs ++ rest) = some (valueToString bs, rest) := by
  rw [valueToString_eq]
  simp only [List.cons_append, List.append_assoc, scanString, if_true]
  rw [scanBody_units]
  simp [scanBody, pre]

/-- the same for the literal reading of the regex -/
theorem literal_single_token_regex (bs : Bytes) (rest : Txt) :
    rxMatch (valueToString bs ++ rest) = some (valueToString bs, rest) := by
  rw [← scanString_eq_rxMatch]; exact literal_single_token bs rest

/-- inside any statement: lexing one STRING at the literal's position consumes exactly the literal,
whatever follows, and reading the token back gives the bytes -/
theorem literal_in_statement (bs : Bytes) (rest : Txt) :
    lexLiteral (valueToString bs ++ rest) = some (bs.flatMap escUnit, .ok bs, rest) := by
  simp only [lexLiteral, literal_single_token, roundtrip]
  rw [valueToString_eq, token_slice]

/-! ### documented escapes, in any position of a literal -/

/-- a body that is any sequence of units (plain characters, `\xHH`, `\uHHHH`, `\n \r \t \\ \" \'`,
unknown escapes) decodes to the concatenation of the units' bytes -/
theorem decode_units (us : List Esc) (hwf : ∀ e ∈ us, e.WF) :
    stringTokenToBytes ([dq] ++ us.flatMap Esc.text ++ [dq]) = .ok (us.flatMap Esc.vals) :=
  decode_units_eq us hwf

/-- each documented escape decodes to its byte between arbitrary well-formed units `before` / `after` -/
theorem escape_table (before after : List Esc) (hb : ∀ e ∈ before, e.WF) (ha : ∀ e ∈ after, e.WF)
    (x y : Fin 16) (ux uy : Bool) (a b : UInt8) :
    let lit (e : Esc) := [dq] ++ (before ++ [e] ++ after).flatMap Esc.text ++ [dq]
    let res (v : UInt8) : Py Bytes := .ok (before.flatMap Esc.vals ++ [v] ++ after.flatMap Esc.vals)
    (Esc.hex x y ux uy).text = [bsl, 120, hexChar ux x, hexChar uy y] ∧
    (Esc.uni a b x y ux uy).text = [bsl, 117, a, b, hexChar ux x, hexChar uy y] ∧
    Esc.nl.text = [bsl, 110] ∧ Esc.cr.text = [bsl, 114] ∧ Esc.tab.text = [bsl, 116] ∧
    Esc.bslash.text = [bsl, bsl] ∧ Esc.dquote.text = [bsl, dq] ∧ Esc.squote.text = [bsl, sq] ∧
    stringTokenToBytes (lit (.hex x y ux uy)) = res (UInt8.ofNat (16 * x.val + y.val)) ∧
    stringTokenToBytes (lit (.uni a b x y ux uy)) = res (UInt8.ofNat (16 * x.val + y.val)) ∧
    stringTokenToBytes (lit .nl) = res 10 ∧
    stringTokenToBytes (lit .cr) = res 13 ∧
    stringTokenToBytes (lit .tab) = res 9 ∧
    stringTokenToBytes (lit .bslash) = res 0x5c ∧
    stringTokenToBytes (lit .dquote) = res 0x22 ∧
    stringTokenToBytes (lit .squote) = res 0x27 := by
  intro lit res
  have key : ∀ e : Esc, e.WF → stringTokenToBytes (lit e) = .ok ((before ++ [e] ++ after).flatMap Esc.vals) := by
    intro e he
    apply decode_units
    intro e' he'
    simp only [List.mem_append, List.mem_singleton] at he'
    rcases he' with (h | rfl) | h
    · exact hb _ h
    · exact he
    · exact ha _ h
  have fin : ∀ (e : Esc) (v : UInt8), e.WF → e.vals = [v] → stringTokenToBytes (lit e) = res v := by
    intro e v he hv
    rw [key e he]
    simp [res, hv]
  exact ⟨rfl, rfl, rfl, rfl, rfl, rfl, rfl, rfl, fin _ _ trivial rfl, fin _ _ trivial rfl, fin _ _ trivial rfl,
    fin _ _ trivial rfl, fin _ _ trivial rfl, fin _ _ trivial rfl, fin _ _ trivial rfl, fin _ _ trivial rfl⟩

/-- the hexadecimal digit characters are exactly `0-9`, `a-f`, `A-F` with their usual values -/
theorem hexChar_table :
    (List.finRange 16).map (hexChar false) = [48, 49, 50, 51, 52, 53, 54, 55, 56, 57, 97, 98, 99, 100, 101, 102] ∧
    (List.finRange 16).map (hexChar true) = [48, 49, 50, 51, 52, 53, 54, 55, 56, 57, 65, 66, 67, 68, 69, 70] := by
  decide

/-! ### safe behaviour on malformed input -/

/-- a lone trailing backslash is kept as a backslash -/
theorem decode_trailing_backslash (us : List Esc) (hwf : ∀ e ∈ us, e.WF) :
    stringTokenToBytes ([dq] ++ us.flatMap Esc.text ++ [bsl] ++ [dq]) = .ok (us.flatMap Esc.vals ++ [0x5c]) := by
  rw [decode_after_units us hwf, loop_plain _ _ _ bsl [] (by simp) (.inr rfl), loop_end _ _ _ (by simp)]
  have : intsOf (us.flatMap Esc.vals) ++ [(bsl.toNat : Int)] = intsOf (us.flatMap Esc.vals ++ [bsl]) := by
    simp [intsOf]
  rw [this]
  exact pyBytes_intsOf _

/-- `\x` with fewer than two, `\u` with fewer than four following characters raises ValueError -/
theorem decode_truncated_escape (us : List Esc) (hwf : ∀ e ∈ us, e.WF) (r : Txt) :
    (r.length < 2 → stringTokenToBytes ([dq] ++ us.flatMap Esc.text ++ bsl :: 120 :: r ++ [dq]) = .error .valueError) ∧
    (r.length < 4 → stringTokenToBytes ([dq] ++ us.flatMap Esc.text ++ bsl :: 117 :: r ++ [dq]) = .error .valueError) := by
  constructor
  · intro hr
    rw [decode_after_units us hwf, loop_hex_short _ _ _ r (by simp) hr]
  · intro hr
    rw [decode_after_units us hwf, loop_uni_short _ _ _ r (by simp) hr]

/-- on latin-1 token text the code-point entry (with the `& 0xFF` mask) is the byte-level decoder -/
theorem decode_latin1_codepoints (t : Txt) : stringTokenToBytesCP (t.map (·.toNat)) = stringTokenToBytes t := by
  unfold stringTokenToBytesCP stringTokenToBytes
  have hs : pySliceTo (pySliceFrom (t.map (·.toNat)) 1) (some (-1)) =
      (pySliceTo (pySliceFrom t 1) (some (-1))).map (·.toNat) := by
    simp [pySliceTo, pySliceFrom, List.map_take]
  simp only [hs, List.map_map, maskBuffer_id]
  have : ((fun c => UInt8.ofNat (c &&& 0xFF)) ∘ fun (x : UInt8) => x.toNat) = id := by
    funext b; exact ofNat_mask_toNat b
  rw [this, List.map_id]

/-! ### non-vacuity / concrete instances -/

example : valueToString [0x41, 0x22, 0x5c, 0x27, 0x0a, 0x00, 0xff] =
    [0x22, 0x41, 0x5c, 0x22, 0x5c, 0x5c, 0x27, 0x5c, 0x6e, 0x5c, 0x78, 0x30, 0x30, 0x5c, 0x78, 0x66, 0x66, 0x22] := by
  decide

example : stringTokenToBytes (valueToString [0x5c, 0x22, 0x27, 0x5c]) = .ok [0x5c, 0x22, 0x27, 0x5c] :=
  literal_roundtrip _

example : scanString (valueToString [0x5c, 0x22] ++ [0x22, 0x3b]) = some (valueToString [0x5c, 0x22], [0x22, 0x3b]) := by
  decide

example : ∀ e ∈ [Esc.plain 0x41, .hex 4 1 false true, .uni 0x7a 0x7a 15 15 true false, .nl, .unknown 0x71, .plain 0x22], e.WF := by
  decide

example : stringTokenToBytes ([dq] ++ [Esc.plain 0x41, .hex 4 1 false true, .unknown 0x71, .uni 0x7a 0x7a 15 15 true false].flatMap Esc.text ++ [dq])
    = .ok [0x41, 0x41, 0xff] :=
  decode_units _ (by decide)

/-- a `"` preceded by an odd number of backslashes does not end the token; an even number does -/
example : scanString [0x22, 0x5c, 0x22, 0x22, 0x61] = some ([0x22, 0x5c, 0x22, 0x22], [0x61]) ∧
    scanString [0x22, 0x5c, 0x5c, 0x22, 0x22] = some ([0x22, 0x5c, 0x5c, 0x22], [0x22]) ∧
    scanString [0x22, 0x5c, 0x22] = none := by
  decide

end C12

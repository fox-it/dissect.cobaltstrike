import CsVerif.Lemmas.C09
/-! C09 property theorems: the XorEncoded file view refines a read-only file over the decoded bytes;
candidate detection (parameterised theorems first, then — section "detection with the real scanner" — `from_file` with
`utils.iter_find_needle` itself, model `C15.iterFindNeedle`, for every buffer size and without any scanner hypothesis);
the full refinement for EVERY history (`history_refines_all_seeks`, `trace_refines_all_seeks`; the pre-13416c7 `seek` refuted:
`history_refines_all_seeks_refutes_old`).
Vocabulary (`Layout`, `Abs`, `plainRead`, `XorFile.withPos`, `realHits`, `sizeOffsets`, `realCandidates`, `SizeRel`, `mzVerdict`,
`rawTarget`, `belowStart`, `logicalTarget`, `plainBelowStart`) is in `Lemmas/C09.lean`, the model (`fromFileReal`, …) and the
specification (`rollDecode`, `plainRun`, `seeksNonneg`) in `Model/C09.lean`. -/
namespace C09

/-! ### the specification is the inverse of the encoder -/

/-- element-wise reading of the specification -/
theorem rollDecode_getElem (nonce enc : Bytes) (i : Nat) (h : i < enc.length) :
    (rollDecode nonce enc)[i]'(by rw [rollDecode_length]; exact h)
      = enc[i] ^^^ (if i < 4 then nonce.getD i 0 else enc.getD (i - 4) 0) := by
  simp [rollDecode]

/-- decoding what the rolling encoder produced gives the plaintext back (any length) -/
theorem rollDecode_rollEncode (nonce plain : Bytes) (h : nonce.length = 4) :
    rollDecode nonce (rollEncode nonce plain) = plain := by
  rw [rollDecode_eq_zipWith _ _ h]
  exact zipWith_rollEncodeAux plain nonce (by intro h0; rw [h0] at h; cases h)

/-! ### opening the view -/

/-- `XorEncodedFile(fh, len(stub))` on `stub ++ nonce ++ size ++ enc` records nonce and size and stands at
logical position 0, wherever the underlying cursor was before. -/
theorem open_layout (stub nonce size enc : Bytes) (hn : nonce.length = 4) (hs : size.length = 4)
    (f : PyFile) (hd : f.data = stub ++ nonce ++ size ++ enc) :
    ∃ x, mk' f stub.length = .ok x ∧ Layout stub nonce size enc x ∧ x.fh.pos = stub.length + 8 + 0 ∧
      x.noncedSize = size ∧ tell x = 0 := by
  refine ⟨_, mk'_spec stub nonce size enc hn hs f hd, ⟨hd, hn, hs, rfl, rfl⟩, rfl, rfl, ?_⟩
  simp only [tell, PyFile.tell]; omega

/-! ### `read_nonce` -/

/-- At every logical position `p` (any alignment) the rolling key is `(nonce ++ enc)[p : p+4]`: for `p < 4` the
tail of the initial nonce followed by the first `p` encoded bytes (the size dword is skipped), afterwards the four
encoded bytes before the cursor.  The cursor is left where it was. -/
theorem readNonce_correct {stub nonce size enc : Bytes} {x : XorFile} (hL : Layout stub nonce size enc x)
    (p : Nat) (hpos : x.fh.pos = stub.length + 8 + p) (hp : p ≤ enc.length) :
    readNonce x = .ok (((nonce ++ enc).drop p).take 4, x) ∧
    (p < 4 → ((nonce ++ enc).drop p).take 4 = nonce.drop p ++ enc.take p) ∧
    (4 ≤ p → ((nonce ++ enc).drop p).take 4 = (enc.drop (p - 4)).take 4) := by
  exact ⟨readNonce_eq hL p hpos, key_lt nonce enc hL.nlen p, key_ge nonce enc hL.nlen p⟩

/-! ### `read` -/

/-- From every logical position `p ≥ 0` (also beyond the end), for every `n` (None, negative, 0, positive, beyond
EOF) `read(n)` returns exactly the plaintext slice an ordinary file would return, the reported position advances
by exactly the number of bytes returned, and nothing else about the object changes. -/
theorem read_refines {stub nonce size enc : Bytes} {x : XorFile} (hL : Layout stub nonce size enc x)
    (p : Nat) (hpos : x.fh.pos = stub.length + 8 + p) (n : Option Int) :
    ∃ out x',
      read x n = .ok (out, x') ∧
      out = (match n with
        | none => (rollDecode nonce enc).drop p
        | some v => if v < 0 then (rollDecode nonce enc).drop p else ((rollDecode nonce enc).drop p).take v.toNat) ∧
      out = (({ data := rollDecode nonce enc, pos := p } : PyFile).read (n.getD (-1))).1 ∧
      tell x' = (p : Int) + (out.length : Int) ∧
      x' = x.withPos (stub.length + 8 + p + out.length) ∧
      Layout stub nonce size enc x' := by
  refine ⟨_, _, read_spec hL p hpos n, ?_, rfl, ?_, rfl, layout_withPos hL _⟩
  · cases n with
    | none => exact PyFile.read_neg _ (-1) (by omega)
    | some v =>
      dsimp only
      by_cases hv : v < 0
      · rw [if_pos hv]; exact PyFile.read_neg _ v hv
      · obtain ⟨k, rfl⟩ : ∃ k : Nat, v = k := ⟨v.toNat, by omega⟩
        rw [if_neg hv, Int.toNat_natCast]; exact PyFile.read_nonneg _ k
  · simp only [tell, PyFile.tell, XorFile.withPos, hL.off]
    omega

/-! ### histories -/

/-- Refinement for histories without negative seek targets, against a plain file of either kind `k` (the statement for
every history, against `io.BytesIO`, is `history_refines_all_seeks` below): for every history of `seek` (SET/CUR/END), `read(n)` (all `n`) and `tell` whose
seeks land at logical positions `≥ 0` — including beyond the end — the view produces exactly the outputs of an
ordinary file (BytesIO or OS file, `k`) over the decoded bytes — `seek` returning the raw offset, i.e. the logical one
shifted by `nonce_offset + 8` — and ends in the state that abstracts to the plain file's state. -/
theorem history_refines {stub nonce size enc : Bytes} {x : XorFile} (hL : Layout stub nonce size enc x)
    (p : Nat) (hpos : x.fh.pos = stub.length + 8 + p)
    (k : FileKind) (ops : List Op) (hops : seeksNonneg enc.length p ops = true) :
    ∃ outs pf',
      plainRun { data := rollDecode nonce enc, pos := p, kind := k } ops = .ok (outs, pf') ∧
      run x ops = .ok (outs.map (Out.shift (stub.length + 8)), x.withPos (stub.length + 8 + pf'.pos)) ∧
      pf'.data = rollDecode nonce enc := by
  have hA : Abs stub nonce size enc x { data := rollDecode nonce enc, pos := p, kind := k } := ⟨hL, rfl, hpos⟩
  obtain ⟨outs, pf', h1, h2, hA'⟩ := run_refines ops hA hops
  exact ⟨outs, pf', h1, h2, hA'.data⟩

/-- the same, starting from the constructor call on the raw file -/
theorem history_refines_from_open (stub nonce size enc : Bytes) (hn : nonce.length = 4) (hs : size.length = 4)
    (f : PyFile) (hd : f.data = stub ++ nonce ++ size ++ enc)
    (ops : List Op) (hops : seeksNonneg enc.length 0 ops = true) :
    ∃ x outs pf' x',
      mk' f stub.length = .ok x ∧
      plainRun { data := rollDecode nonce enc, pos := 0, kind := f.kind } ops = .ok (outs, pf') ∧
      run x ops = .ok (outs.map (Out.shift (stub.length + 8)), x') ∧
      tell x' = (pf'.pos : Int) := by
  obtain ⟨x, hx, hL, hpos, _, _⟩ := open_layout stub nonce size enc hn hs f hd
  obtain ⟨outs, pf', h1, h2, _⟩ := history_refines hL 0 hpos f.kind ops hops
  refine ⟨x, outs, pf', _, hx, h1, h2, ?_⟩
  simp only [tell, PyFile.tell, XorFile.withPos, hL.off]
  omega

/-- the trace printed by the driver (`runTrace`, which continues after an exception) is the output list of `run`
whenever `run` succeeds, so the correspondence runs exercise exactly the function the theorems are about -/
theorem runTrace_of_run (ops : List Op) : ∀ (x : XorFile) (outs : List Out) (x' : XorFile),
    run x ops = .ok (outs, x') → runTrace x ops = outs.map .ok := by
  intro x
  fun_induction run x ops with
  | case1 x =>
    intro outs x' h
    injection h with h
    rw [← (Prod.mk.inj h).1]; rfl
  | case2 x op ops e hs => intro outs x' h; cases h
  | case3 x op ops o x1 hs e hr ih => intro outs x' h; cases h
  | case4 x op ops o x1 hs os x2 hr ih =>
    intro outs x' h
    injection h with h
    rw [← (Prod.mk.inj h).1, runTrace, hs, List.map_cons, ← ih os x2 hr]

def eofWitness : XorFile :=
  { fh := { data := [1, 2, 3, 4, 0, 0, 0, 0], pos := 9 }, nonceOff := 0,
    initialNonce := [1, 2, 3, 4], noncedSize := [0, 0, 0, 0] }

/-- The theorem separates the repaired code from the code before fix f64b15d: with the old `read_nonce` (no
`self.fh.seek(pos)`), at logical position 1 of an empty payload `read(1)` returns `b""` but leaves the raw cursor at
the end of the data, so `tell()` reports 0 instead of 1 — whereas `read_refines` gives 1 for the current code. -/
theorem history_refines_refutes_old :
    Layout [] [1, 2, 3, 4] [0, 0, 0, 0] [] eofWitness ∧ eofWitness.fh.pos = 0 + 8 + 1 ∧
    (∃ x', readWith readNonceOld eofWitness (some 1) = .ok ([], x') ∧ tell x' = 0) ∧
    (∃ x', read eofWitness (some 1) = .ok ([], x') ∧ tell x' = 1) := by
  have hL : Layout [] [1, 2, 3, 4] [0, 0, 0, 0] [] eofWitness := ⟨rfl, rfl, rfl, rfl, rfl⟩
  refine ⟨hL, rfl, ?_, ?_⟩
  · refine ⟨eofWitness.withPos 8, ?_, by decide⟩
    have hn : readNonceOld eofWitness = .ok ([2, 3, 4], eofWitness.withPos 8) := by rfl
    have hl : readLoop 1 (eofWitness.withPos 8).fh [2, 3, 4] 0 = ([], (eofWitness.withPos 8).fh) :=
      readLoop_at_eof _ _ _ _ (by decide)
    have h1 : normN (some 1) = 1 := by decide
    rw [readWith_unfold, h1, hn]
    dsimp only
    rw [hl]
    rfl
  · have h := read_spec hL 1 rfl (some 1)
    have hp : plainRead (rollDecode [1, 2, 3, 4] []) 1 (some 1) = [] := by decide
    rw [hp] at h
    exact ⟨_, h, by decide⟩

/-! ### detection -/

/-- `iter_nonce_offsets(fh, maxrange=maxrange)` yields exactly the offsets `c < maxrange` with eight readable bytes
whose decoded size dword satisfies `u32(nonce ^ size) + c + 8 == file size`. -/
theorem size_offsets_exact (f : PyFile) (maxrange c : Nat) :
    c ∈ sizeOffsets f maxrange ↔ c < maxrange ∧ SizeRel f.data (f.data.length : Int) c := by
  obtain ⟨f1, hl, _, _⟩ := iterNonceOffsets_eq f maxrange
  rw [sizeOffsets_of_scan hl, List.mem_filter, List.mem_range'_1, decide_eq_true_eq]
  simp only [Nat.zero_le, true_and, Nat.zero_add]

/-- If the size relation holds at the true nonce offset (`u32(nonce ^ size) + len(stub) + 8 == file size`) and the
stub is shorter than `maxrange`, `iter_nonce_offsets` yields that offset, hence it is among the candidates
`from_file` tries (whatever the needle scan found). -/
theorem true_offset_is_candidate (stub nonce size rest : Bytes) (hn : nonce.length = 4) (hs : size.length = 4)
    (f : PyFile) (hd : f.data = stub ++ nonce ++ size ++ rest)
    (hsize : u32 (C20.xor nonce size) + (stub.length : Int) + 8 = (f.data.length : Int))
    (maxrange : Nat) (hlt : stub.length < maxrange) (markerHits : List Nat) :
    ∃ l f', iterNonceOffsets f none maxrange = .ok (l, f') ∧ stub.length ∈ l ∧
      stub.length ∈ candidates markerHits l := by
  obtain ⟨l, f', h, _, _⟩ := iterNonceOffsets_ok f maxrange
  have hm : stub.length ∈ l := by
    rw [← sizeOffsets_of_scan h, size_offsets_exact, hd, sizeRel_layout stub nonce size rest hn hs, ← hd]
    exact ⟨hlt, hsize⟩
  exact ⟨l, f', h, hm, (mem_candidates _ _ _).mpr (Or.inr hm)⟩

/-- the candidates are exactly the marker hits `+ 3` and the offsets found through the size relation -/
theorem candidates_mem (markerHits nonceOffs : List Nat) (c : Nat) :
    c ∈ candidates markerHits nonceOffs ↔ (∃ h ∈ markerHits, c = h + 3) ∨ c ∈ nonceOffs := by
  rw [mem_candidates]
  simp only [List.mem_map]
  constructor
  · rintro (⟨h, hh, rfl⟩ | h)
    · exact Or.inl ⟨h, hh, rfl⟩
    · exact Or.inr h
  · rintro (⟨h, hh, rfl⟩ | h)
    · exact Or.inl ⟨h, hh, rfl⟩
    · exact Or.inr h

/-- Order in which they are tried = `Counter(...).most_common()`: a permutation of the distinct keys in
first-insertion order, sorted by count descending, ties kept in first-insertion order (stable). -/
theorem mostCommon_order (c : List (Nat × Nat)) :
    (mostCommon c).Perm c ∧ (mostCommon c).Pairwise (fun a b => a.2 ≥ b.2) ∧
    ∀ n, (mostCommon c).filter (·.2 == n) = c.filter (·.2 == n) :=
  ⟨mostCommon_perm c, mostCommon_sorted c, mostCommon_stable c⟩

/-- no candidate passes the MZ check ⇒ `from_file` raises ValueError -/
theorem detect_rejects (f : PyFile) (maxrange : Nat) (markerHits : List Nat) (mzOk : Nat → Bool)
    (l : List Nat) (f1 : PyFile) (hl : iterNonceOffsets f none maxrange = .ok (l, f1))
    (h : ∀ c ∈ candidates markerHits l, mzOk c = false) :
    fromFile f maxrange markerHits mzOk = .error .valueError := by
  simp only [fromFile, hl]
  exact tryCandidates_reject mzOk _ f1 h

/-- in particular when there is no candidate at all -/
theorem detect_rejects_no_candidate (f : PyFile) (maxrange : Nat) (mzOk : Nat → Bool)
    (f1 : PyFile) (hl : iterNonceOffsets f none maxrange = .ok ([], f1)) :
    fromFile f maxrange [] mzOk = .error .valueError :=
  detect_rejects f maxrange [] mzOk [] f1 hl (by intro c hc; simp [candidates, counter, mostCommon] at hc)

/-- the result is the view at the first candidate, in Counter order, that passes the MZ check, positioned at
logical offset 0 -/
theorem detect_first_passing (f : PyFile) (maxrange : Nat) (markerHits : List Nat) (mzOk : Nat → Bool)
    (l : List Nat) (f1 : PyFile) (hl : iterNonceOffsets f none maxrange = .ok (l, f1))
    (pre : List Nat) (c : Nat) (post : List Nat) (hc : candidates markerHits l = pre ++ c :: post)
    (hpre : ∀ d ∈ pre, mzOk d = false) (hok : mzOk c = true) :
    ∃ x0, mk' f c = .ok x0 ∧ fromFile f maxrange markerHits mzOk = .ok (x0.withPos (c + 8)) ∧
      (x0.withPos (c + 8)).nonceOff = c ∧ tell (x0.withPos (c + 8)) = 0 := by
  obtain ⟨l', f1', hl', hd1, hk1⟩ := iterNonceOffsets_ok f maxrange
  rw [hl] at hl'
  injection hl' with hl'
  obtain ⟨rfl, rfl⟩ := Prod.mk.inj hl'
  obtain ⟨x0, hx0, hn0, _, _⟩ := mk'_ok f c
  refine ⟨x0, hx0, ?_, hn0, ?_⟩
  · simp only [fromFile, hl, hc]
    exact tryCandidates_first mzOk f pre c post x0 hx0 hok f1 hd1 hk1 hpre
  · simp only [tell, PyFile.tell, XorFile.withPos, hn0]; omega

/-- `from_file` succeeds iff some candidate passes -/
theorem detect_ok_iff (f : PyFile) (maxrange : Nat) (markerHits : List Nat) (mzOk : Nat → Bool)
    (l : List Nat) (f1 : PyFile) (hl : iterNonceOffsets f none maxrange = .ok (l, f1)) :
    (∃ x, fromFile f maxrange markerHits mzOk = .ok x) ↔ ∃ c ∈ candidates markerHits l, mzOk c = true := by
  constructor
  · rintro ⟨x, hx⟩
    apply Classical.byContradiction
    intro hno
    have : ∀ c ∈ candidates markerHits l, mzOk c = false :=
      fun c hc => Bool.eq_false_iff.2 fun hm => hno ⟨c, hc, hm⟩
    rw [detect_rejects f maxrange markerHits mzOk l f1 hl this] at hx
    cases hx
  · rintro ⟨c, hc, hm⟩
    obtain ⟨pre, d, post, hsplit, hpre, hd⟩ := first_passing_split mzOk (candidates markerHits l) ⟨c, hc, hm⟩
    obtain ⟨x0, _, h, _⟩ := detect_first_passing f maxrange markerHits mzOk l f1 hl pre d post hsplit hpre hd
    exact ⟨_, h⟩

/-- Hypothesis of `detect_correct_partial`: no candidate ranked before the true offset passes the MZ check. -/
def NoSpuriousCandidate (cands : List Nat) (mzOk : Nat → Bool) (trueOff : Nat) : Prop :=
  ∃ pre post, cands = pre ++ trueOff :: post ∧ ∀ d ∈ pre, mzOk d = false

/-- Detection of a well-formed stage: when the true offset is a candidate, passes the MZ check and no higher-ranked
candidate does, `from_file` returns the view at the true offset; that view satisfies `Layout`, stands at logical
position 0, and therefore (by `history_refines`) behaves as a read-only file over the decoded bytes. -/
theorem detect_correct_partial (stub nonce size enc : Bytes) (hn : nonce.length = 4) (hs : size.length = 4)
    (f : PyFile) (hd : f.data = stub ++ nonce ++ size ++ enc)
    (maxrange : Nat) (markerHits : List Nat) (mzOk : Nat → Bool)
    (l : List Nat) (f1 : PyFile) (hl : iterNonceOffsets f none maxrange = .ok (l, f1))
    (hns : NoSpuriousCandidate (candidates markerHits l) mzOk stub.length) (hok : mzOk stub.length = true) :
    ∃ x, fromFile f maxrange markerHits mzOk = .ok x ∧ Layout stub nonce size enc x ∧
      x.fh.pos = stub.length + 8 + 0 ∧ tell x = 0 := by
  obtain ⟨pre, post, hsplit, hpre⟩ := hns
  obtain ⟨x0, hx0, h, _, ht⟩ := detect_first_passing f maxrange markerHits mzOk l f1 hl pre stub.length post hsplit hpre hok
  rw [mk'_spec stub nonce size enc hn hs f hd] at hx0
  injection hx0 with hx0
  subst hx0
  exact ⟨_, h, ⟨hd, hn, hs, rfl, rfl⟩, rfl, ht⟩

/-! ### totality, and detection with the modelled `find_mz_offset` -/

/-- `read(n)` never raises and changes nothing but the raw cursor, in every state of the object (also with a
wrong nonce offset or the cursor outside the payload). -/
theorem read_never_raises (x : XorFile) (n : Option Int) : ∃ out q, read x n = .ok (out, x.withPos q) :=
  read_total x n

/-- `pe.find_mz_offset` on a view never raises: short struct reads are skipped, every seek is non-negative. -/
theorem find_mz_offset_never_raises (x : XorFile) (start maxrange : Nat) :
    ∃ r q, findMzOffset x start maxrange = .ok (r, x.withPos q) :=
  findMzOffset_total x start maxrange

/-- A view whose decoded content starts with a PE image (64-byte DOS header with `0 < e_lfanew < maxrange`, file
header at `4 + e_lfanew` with Machine AMD64 or I386) passes the MZ check, at offset 0. -/
theorem candidate_passes {stub nonce size enc : Bytes} {x : XorFile} (hL : Layout stub nonce size enc x)
    (maxrange e : Nat) (hpe : PeHeaderAt0 (rollDecode nonce enc) maxrange e) :
    ∃ x', findMzOffset x 0 maxrange = .ok (some 0, x') := by
  obtain ⟨x', h⟩ := mzStep_header hL maxrange e hpe
  cases maxrange with
  | zero => exact absurd hpe.lfanew_lt (Nat.not_lt_zero _)
  | succ m =>
    refine ⟨x', ?_⟩
    unfold findMzOffset
    rw [mzLoop_succ, h]

/-- `from_file` with the MZ check modelled equals the parameterised `fromFile` instantiated with the verdicts of
the modelled check, so every `detect_*` theorem applies to it. -/
theorem fromFileFull_refines (f : PyFile) (maxrange : Nat) (markerHits : List Nat) :
    fromFileFull f maxrange markerHits = fromFile f maxrange markerHits (mzVerdict f) :=
  fromFileFull_eq f maxrange markerHits (mzVerdict f) (mzVerdict_spec f)

/-- the (modelled) MZ check accepts the true nonce offset of a stage whose plaintext starts with a PE image -/
theorem true_offset_passes (stub nonce size enc : Bytes) (hn : nonce.length = 4) (hs : size.length = 4)
    (f : PyFile) (hd : f.data = stub ++ nonce ++ size ++ enc)
    (e : Nat) (hpe : PeHeaderAt0 (rollDecode nonce enc) 1024 e) : mzVerdict f stub.length = true := by
  have h0 := mk'_spec stub nonce size enc hn hs f hd
  have hL : Layout stub nonce size enc (⟨{ f with pos := stub.length + 8 }, stub.length, nonce, size⟩ : XorFile) :=
    ⟨hd, hn, hs, rfl, rfl⟩
  obtain ⟨x', hx'⟩ := candidate_passes hL 1024 e hpe
  rw [mzVerdict_spec f stub.length _ h0 (some 0) x' hx']
  rfl

/-- End-to-end detection of a stage whose plaintext starts with a PE image: if no higher-ranked candidate passes
the (modelled) MZ check, `from_file` returns the decoding view at the true nonce offset, at logical position 0. -/
theorem detect_correct_full_partial (stub nonce size enc : Bytes) (hn : nonce.length = 4) (hs : size.length = 4)
    (f : PyFile) (hd : f.data = stub ++ nonce ++ size ++ enc)
    (maxrange : Nat) (markerHits : List Nat)
    (l : List Nat) (f1 : PyFile) (hl : iterNonceOffsets f none maxrange = .ok (l, f1))
    (e : Nat) (hpe : PeHeaderAt0 (rollDecode nonce enc) 1024 e)
    (hns : NoSpuriousCandidate (candidates markerHits l) (mzVerdict f) stub.length) :
    ∃ x, fromFileFull f maxrange markerHits = .ok x ∧ Layout stub nonce size enc x ∧
      x.fh.pos = stub.length + 8 + 0 ∧ tell x = 0 := by
  rw [fromFileFull_refines]
  exact detect_correct_partial stub nonce size enc hn hs f hd maxrange markerHits (mzVerdict f) l f1 hl hns
    (true_offset_passes stub nonce size enc hn hs f hd e hpe)

/-! ### detection with the real scanner: no hypothesis about `iter_find_needle` -/

/-- `from_file` with the real block scanner is the `fromFileFull` of the theorems above, instantiated with the hits the
scanner reports on this file; the scanner never raises here and its Python ints are exactly those naturals. -/
theorem fromFileReal_refines (B : Nat) (f : PyFile) (maxrange : Nat) :
    fromFileReal B f maxrange = fromFileFull f maxrange (realHits B f maxrange) ∧
    fromFileReal B f maxrange = tryCandidates f (mzVerdict f) (realCandidates B f maxrange) ∧
    ∃ hits f2, markerScan B f maxrange = .ok (hits, f2) ∧ f2.data = f.data ∧ f2.kind = f.kind ∧
      (1 ≤ B → hits = (realHits B f maxrange).map Int.ofNat) := by
  refine ⟨fromFileReal_full B f maxrange, fromFileReal_try B f maxrange, ?_⟩
  obtain ⟨hits, f2, h, hd, hk⟩ := markerScan_ok B f maxrange
  exact ⟨hits, f2, h, hd, hk, fun hB => markerScan_nonneg B hB f maxrange hits f2 h⟩

/-- What the real scanner reports for the marker, for every buffer size `B ≥ 1` and every limit: only true occurrences
of `ff ff ff` (below `2·maxrange` when a limit is given), ascending, and every occurrence that ends at or before
`maxrange`; all occurrences when `maxrange = 0` (which `iter_find_needle` reads as "no limit"). -/
theorem real_hits_characterised (B : Nat) (hB : 1 ≤ B) (f : PyFile) (maxrange : Nat) :
    (∀ h ∈ realHits B f maxrange, h ∈ C15.occ f.data eofMarker ∧ (maxrange ≠ 0 → h ≤ 2 * maxrange)) ∧
    (∀ h ∈ C15.occ f.data eofMarker, maxrange = 0 ∨ h + 3 ≤ maxrange → h ∈ realHits B f maxrange) ∧
    (realHits B f maxrange).Pairwise (· < ·) ∧
    (maxrange = 0 → realHits B f maxrange = C15.occ f.data eofMarker) := by
  refine ⟨fun h hh => ⟨(realHits_sublist B hB f maxrange).subset hh, fun hm => realHits_bound B hB f maxrange hm h hh⟩,
    fun h hh hl => realHits_complete B hB f maxrange h hh hl,
    (C15.occ_sorted _ _).sublist (realHits_sublist B hB f maxrange), ?_⟩
  rintro rfl
  exact realHits_nolimit B hB f

/-- The candidates `from_file` tries, with the real scanner: each one is pointed at by a true marker occurrence or
satisfies the size relation (soundness), and every offset `≤ maxrange` preceded by the marker and every
size-consistent offset `< maxrange` is a candidate (completeness) — for every buffer size. -/
theorem real_candidates_characterised (B : Nat) (hB : 1 ≤ B) (f : PyFile) (maxrange c : Nat) :
    (c ∈ realCandidates B f maxrange →
      (∃ h ∈ C15.occ f.data eofMarker, c = h + 3 ∧ (maxrange ≠ 0 → h ≤ 2 * maxrange)) ∨
      (c < maxrange ∧ SizeRel f.data (f.data.length : Int) c)) ∧
    ((∃ h ∈ C15.occ f.data eofMarker, c = h + 3 ∧ (maxrange = 0 ∨ c ≤ maxrange)) ∨
      (c < maxrange ∧ SizeRel f.data (f.data.length : Int) c) → c ∈ realCandidates B f maxrange) := by
  obtain ⟨hs, hc, _, _⟩ := real_hits_characterised B hB f maxrange
  simp only [realCandidates, candidates_mem, size_offsets_exact]
  constructor
  · rintro (⟨h, hh, rfl⟩ | h)
    · exact Or.inl ⟨h, (hs h hh).1, rfl, (hs h hh).2⟩
    · exact Or.inr h
  · rintro (⟨h, hh, rfl, hl⟩ | h)
    · exact Or.inl ⟨h, hc h hh (by omega), rfl⟩
    · exact Or.inr h

/-- A stage `stub ++ nonce ++ size ++ enc` whose stub ends with the marker (and is not longer than `maxrange`), or
whose size dword is correct (stub shorter than `maxrange`), or both: its true nonce offset is among the candidates
produced with the REAL scanner, for every buffer size. -/
theorem true_offset_is_candidate_real (B : Nat) (hB : 1 ≤ B) (stub nonce size enc : Bytes)
    (hn : nonce.length = 4) (hs : size.length = 4) (f : PyFile) (hd : f.data = stub ++ nonce ++ size ++ enc)
    (maxrange : Nat)
    (h : (∃ s0, stub = s0 ++ eofMarker ∧ (maxrange = 0 ∨ stub.length ≤ maxrange)) ∨
         (u32 (C20.xor nonce size) + (stub.length : Int) + 8 = (f.data.length : Int) ∧ stub.length < maxrange)) :
    stub.length ∈ realCandidates B f maxrange := by
  apply (real_candidates_characterised B hB f maxrange stub.length).2
  rcases h with ⟨s0, rfl, hl⟩ | ⟨hsz, hlt⟩
  · left
    refine ⟨s0.length, ?_, ?_, hl⟩
    · rw [hd]
      have : s0 ++ eofMarker ++ nonce ++ size ++ enc = s0 ++ eofMarker ++ (nonce ++ size ++ enc) := by
        simp only [List.append_assoc]
      rw [this]
      exact marker_occ_of_layout s0 _
    · simp only [List.length_append]; rfl
  · right
    rw [hd, sizeRel_layout stub nonce size enc hn hs, ← hd]
    exact ⟨hlt, hsz⟩

/-- `from_file` (real scanner) succeeds iff some candidate's decoded view passes the MZ check -/
theorem detect_ok_iff_real (B : Nat) (f : PyFile) (maxrange : Nat) :
    (∃ x, fromFileReal B f maxrange = .ok x) ↔ ∃ c ∈ realCandidates B f maxrange, mzVerdict f c = true := by
  obtain ⟨l, f1, hl, _, _⟩ := iterNonceOffsets_ok f maxrange
  rw [fromFileReal_full, fromFileFull_refines, realCandidates, sizeOffsets_of_scan hl]
  exact detect_ok_iff f maxrange _ _ l f1 hl

/-- the result is the view at the first candidate, in Counter order, that passes the MZ check, at logical offset 0 -/
theorem detect_first_passing_real (B : Nat) (f : PyFile) (maxrange : Nat)
    (pre : List Nat) (c : Nat) (post : List Nat) (hc : realCandidates B f maxrange = pre ++ c :: post)
    (hpre : ∀ d ∈ pre, mzVerdict f d = false) (hok : mzVerdict f c = true) :
    ∃ x0, mk' f c = .ok x0 ∧ fromFileReal B f maxrange = .ok (x0.withPos (c + 8)) ∧
      (x0.withPos (c + 8)).nonceOff = c ∧ tell (x0.withPos (c + 8)) = 0 := by
  obtain ⟨l, f1, hl, _, _⟩ := iterNonceOffsets_ok f maxrange
  rw [fromFileReal_full, fromFileFull_refines]
  rw [realCandidates, sizeOffsets_of_scan hl] at hc
  exact detect_first_passing f maxrange _ _ l f1 hl pre c post hc hpre hok

/-- Rejection: `from_file` never raises anything but ValueError, and raises it exactly when no candidate passes. -/
theorem detect_rejects_real (B : Nat) (f : PyFile) (maxrange : Nat) :
    (∀ e, fromFileReal B f maxrange = .error e → e = .valueError) ∧
    (fromFileReal B f maxrange = .error .valueError ↔ ∀ c ∈ realCandidates B f maxrange, mzVerdict f c = false) := by
  have key : (∀ c ∈ realCandidates B f maxrange, mzVerdict f c = false) →
      fromFileReal B f maxrange = .error .valueError := by
    intro h
    rw [fromFileReal_try]
    exact tryCandidates_reject _ _ f h
  have hiff := detect_ok_iff_real B f maxrange
  have hfalse : ∀ e, fromFileReal B f maxrange = .error e →
      ∀ c ∈ realCandidates B f maxrange, mzVerdict f c = false := by
    intro e he c hc
    refine Bool.eq_false_iff.2 fun hm => ?_
    obtain ⟨x, hx⟩ := hiff.mpr ⟨c, hc, hm⟩
    rw [hx] at he; cases he
  refine ⟨fun e he => ?_, hfalse _, key⟩
  rw [key (hfalse e he)] at he
  injection he with he
  exact he.symm

/-- Soundness of a positive answer: the returned view sits at a candidate offset (hence, by
`real_candidates_characterised`, behind a true marker occurrence or at a size-consistent offset), its decoded content
passes the MZ check, every higher-ranked candidate failed it, and the view stands at logical position 0. -/
theorem detect_sound_real (B : Nat) (f : PyFile) (maxrange : Nat) (x : XorFile)
    (h : fromFileReal B f maxrange = .ok x) :
    ∃ pre post x0, realCandidates B f maxrange = pre ++ x.nonceOff :: post ∧ (∀ d ∈ pre, mzVerdict f d = false) ∧
      mzVerdict f x.nonceOff = true ∧ mk' f x.nonceOff = .ok x0 ∧ x = x0.withPos (x.nonceOff + 8) ∧ tell x = 0 := by
  obtain ⟨c, hc, hm⟩ := (detect_ok_iff_real B f maxrange).mp ⟨x, h⟩
  obtain ⟨pre, d, post, hsplit, hpre, hd⟩ := first_passing_split (mzVerdict f) _ ⟨c, hc, hm⟩
  obtain ⟨x0, hx0, hr, hn, ht⟩ := detect_first_passing_real B f maxrange pre d post hsplit hpre hd
  rw [h] at hr
  injection hr with hr
  subst hr
  rw [hn]
  exact ⟨pre, post, x0, hsplit, hpre, hd, hx0, rfl, ht⟩

/-- End-to-end detection with the real scanner, for every buffer size: a stage whose plaintext starts with a PE image
is detected at its true nonce offset — the returned view satisfies `Layout`, stands at logical position 0 and so (by
`history_refines`) is a read-only file over the decoded bytes — under `NoSpuriousCandidate` only: no candidate ranked
before the true offset decodes to something that passes the MZ check. -/
theorem detect_correct_real_partial (B : Nat) (stub nonce size enc : Bytes) (hn : nonce.length = 4) (hs : size.length = 4)
    (f : PyFile) (hd : f.data = stub ++ nonce ++ size ++ enc) (maxrange : Nat)
    (e : Nat) (hpe : PeHeaderAt0 (rollDecode nonce enc) 1024 e)
    (hns : NoSpuriousCandidate (realCandidates B f maxrange) (mzVerdict f) stub.length) :
    ∃ x, fromFileReal B f maxrange = .ok x ∧ Layout stub nonce size enc x ∧
      x.fh.pos = stub.length + 8 + 0 ∧ tell x = 0 := by
  obtain ⟨l, f1, hl, _, _⟩ := iterNonceOffsets_ok f maxrange
  rw [fromFileReal_full]
  rw [realCandidates, sizeOffsets_of_scan hl] at hns
  exact detect_correct_full_partial stub nonce size enc hn hs f hd maxrange _ l f1 hl e hpe hns

/-- The same with the marker / size-dword condition in place of "is a candidate": if the stub ends with the marker
or the size dword is right, and no OTHER candidate passes the MZ check, detection returns the true view. -/
theorem detect_correct_real_unique (B : Nat) (hB : 1 ≤ B) (stub nonce size enc : Bytes)
    (hn : nonce.length = 4) (hs : size.length = 4)
    (f : PyFile) (hd : f.data = stub ++ nonce ++ size ++ enc) (maxrange : Nat)
    (hcand : (∃ s0, stub = s0 ++ eofMarker ∧ (maxrange = 0 ∨ stub.length ≤ maxrange)) ∨
         (u32 (C20.xor nonce size) + (stub.length : Int) + 8 = (f.data.length : Int) ∧ stub.length < maxrange))
    (e : Nat) (hpe : PeHeaderAt0 (rollDecode nonce enc) 1024 e)
    (huniq : ∀ d ∈ realCandidates B f maxrange, d ≠ stub.length → mzVerdict f d = false) :
    ∃ x, fromFileReal B f maxrange = .ok x ∧ Layout stub nonce size enc x ∧
      x.fh.pos = stub.length + 8 + 0 ∧ tell x = 0 := by
  have hmem := true_offset_is_candidate_real B hB stub nonce size enc hn hs f hd maxrange hcand
  have hok := true_offset_passes stub nonce size enc hn hs f hd e hpe
  obtain ⟨pre, d, post, hsplit, hpre, hdok⟩ := first_passing_split (mzVerdict f) _ ⟨_, hmem, hok⟩
  have hdeq : d = stub.length := by
    apply Classical.byContradiction
    intro hne
    have := huniq d (by rw [hsplit]; simp) hne
    rw [this] at hdok; cases hdok
  subst hdeq
  exact detect_correct_real_partial B stub nonce size enc hn hs f hd maxrange e hpe ⟨pre, post, hsplit, hpre⟩

/-- A hypothesis-free instance (conditions on the bytes only, nothing about scanner, ranking or MZ verdicts): if, within
the first `2·maxrange + 3` bytes, `ff ff ff` occurs only at the end of the stub, and no other offset below `maxrange`
satisfies the size relation, then — for every buffer size — `from_file` returns the true view. -/
theorem detect_correct_real_clean (B : Nat) (hB : 1 ≤ B) (stub nonce size enc : Bytes)
    (hn : nonce.length = 4) (hs : size.length = 4)
    (f : PyFile) (hd : f.data = stub ++ nonce ++ size ++ enc) (maxrange : Nat) (hm : maxrange ≠ 0)
    (hcand : (∃ s0, stub = s0 ++ eofMarker ∧ stub.length ≤ maxrange) ∨
         (u32 (C20.xor nonce size) + (stub.length : Int) + 8 = (f.data.length : Int) ∧ stub.length < maxrange))
    (e : Nat) (hpe : PeHeaderAt0 (rollDecode nonce enc) 1024 e)
    (hmark : ∀ h ∈ C15.occ f.data eofMarker, h ≤ 2 * maxrange → h + 3 = stub.length)
    (hsize : ∀ c, c < maxrange → SizeRel f.data (f.data.length : Int) c → c = stub.length) :
    ∃ x, fromFileReal B f maxrange = .ok x ∧ Layout stub nonce size enc x ∧
      x.fh.pos = stub.length + 8 + 0 ∧ tell x = 0 := by
  apply detect_correct_real_unique B hB stub nonce size enc hn hs f hd maxrange ?_ e hpe
  · intro d hdm hne
    rcases (real_candidates_characterised B hB f maxrange d).1 hdm with ⟨h, hh, rfl, hb⟩ | ⟨hlt, hrel⟩
    · exact absurd (hmark h hh (hb hm)) hne
    · exact absurd (hsize d hlt hrel) hne
  · rcases hcand with ⟨s0, h1, h2⟩ | h
    · exact Or.inl ⟨s0, h1, Or.inr h2⟩
    · exact Or.inr h

/-- With a buffer that holds the limited range (`maxrange + 3 ≤ B`: the shipped configuration, `maxrange = 1024` and
`io.DEFAULT_BUFFER_SIZE = 8192`) the limited marker scan is exact — the occurrences starting at or before `maxrange` —
and so is the candidate set. -/
theorem real_candidates_exact_large_buffer (B : Nat) (f : PyFile) (maxrange : Nat) (hm : maxrange ≠ 0)
    (hB : maxrange + 3 ≤ B) (c : Nat) :
    realHits B f maxrange = (C15.occ f.data eofMarker).filter (fun p => p ≤ maxrange) ∧
    (c ∈ realCandidates B f maxrange ↔
      (∃ h ∈ C15.occ f.data eofMarker, h ≤ maxrange ∧ c = h + 3) ∨
      (c < maxrange ∧ SizeRel f.data (f.data.length : Int) c)) := by
  have hx := realHits_large_buffer B f maxrange hm hB
  refine ⟨hx, ?_⟩
  simp only [realCandidates, candidates_mem, size_offsets_exact, hx, List.mem_filter, decide_eq_true_eq]
  constructor
  · rintro (⟨h, ⟨h1, h2⟩, rfl⟩ | h)
    · exact Or.inl ⟨h, h1, h2, rfl⟩
    · exact Or.inr h
  · rintro (⟨h, h1, h2, rfl⟩ | h)
    · exact Or.inl ⟨h, ⟨h1, h2⟩, rfl⟩
    · exact Or.inr h

/-- The answer of `from_file` does not depend on the read-buffer size when there is no limit (`maxrange = 0`) or when
both buffers hold the limited range.  (For smaller buffers it does: the limit of `iter_find_needle` is compared with
block-relative indices, see C15 `needle_limit_*`; the theorems above hold for every `B ≥ 1` regardless.) -/
theorem detect_buffer_independent (B B' : Nat) (f : PyFile) (maxrange : Nat)
    (h : (maxrange = 0 ∧ 1 ≤ B ∧ 1 ≤ B') ∨ (maxrange + 3 ≤ B ∧ maxrange + 3 ≤ B')) :
    fromFileReal B f maxrange = fromFileReal B' f maxrange := by
  rw [fromFileReal_full, fromFileReal_full]
  congr 1
  rcases h with ⟨rfl, h1, h2⟩ | ⟨h1, h2⟩
  · rw [realHits_nolimit B h1, realHits_nolimit B' h2]
  · by_cases hm : maxrange = 0
    · subst hm; rw [realHits_nolimit B (by omega), realHits_nolimit B' (by omega)]
    · rw [realHits_large_buffer B f maxrange hm h1, realHits_large_buffer B' f maxrange hm h2]

/-! ### every history: seeks with any offset and whence -/

/-- `read(n)` in EVERY state of the object (negative logical position, wrong nonce offset, cursor past the end): it
never raises, changes nothing but the cursor, and the reported position advances by exactly the number of bytes returned. -/
theorem read_advances_everywhere (x : XorFile) (n : Option Int) :
    ∃ out x', read x n = .ok (out, x') ∧ x' = x.withPos (x.fh.pos + out.length) ∧
      tell x' = tell x + (out.length : Int) := by
  obtain ⟨out, h⟩ := read_advances x n
  refine ⟨out, _, h, rfl, ?_⟩
  simp only [tell, PyFile.tell, XorFile.withPos]
  omega

/-- `seek(off, whence)` of the view (current code, after fix 13416c7), exactly, for every state and every argument:
a negative absolute offset and an unknown `whence` raise ValueError and nothing moves; otherwise the logical target
(`off`, `tell() + off`, `raw size − (nonce_offset + 8) + off`) is clamped at 0, the seek never raises, returns the raw
offset `max(target, 0) + nonce_offset + 8`, changes nothing but the cursor, and `tell()` then reports `max(target, 0)`
— never a negative position, whatever the kind of the underlying file. -/
theorem seek_exact (x : XorFile) (off : Int) (wh : Nat) :
    (wh = 0 → off < 0 → seek x off wh = .error .valueError) ∧
    (2 < wh → seek x off wh = .error .valueError) ∧
    (wh ≤ 2 → ¬ (wh = 0 ∧ off < 0) →
      ∃ v : Nat, (v : Int) = max (viewTarget x off wh) 0 + ((x.nonceOff : Int) + 8) ∧
        seek x off wh = .ok (v, x.withPos v) ∧ tell (x.withPos v) = max (viewTarget x off wh) 0) := by
  refine ⟨?_, seek_bad_whence x off wh, ?_⟩
  · rintro rfl h; exact seek_set_neg x off h
  · intro hwh hne
    refine ⟨(max (viewTarget x off wh) 0 + ((x.nonceOff : Int) + 8)).toNat, by omega,
      seek_eq x off wh hwh (by omega) _ (by omega), ?_⟩
    simp only [tell, PyFile.tell, XorFile.withPos]
    omega

/-- The refinement statement without any hypothesis on the seeks, for a history runner `runF`: for EVERY history —
seeks with any integer offset and any `whence`, reads with any `n`, `tell` — from every logical position `p ≥ 0`,
the view (over a BytesIO or an OS file) does exactly what `io.BytesIO` over the decoded bytes does: the same
exception at the same operation, or the same outputs (`seek` returning the raw offset, i.e. the logical one shifted by
`nonce_offset + 8`) and the abstracting final state. -/
def HistoryRefinesAllSeeks (runF : XorFile → List Op → Py (List Out × XorFile)) : Prop :=
  ∀ (stub nonce size enc : Bytes) (x : XorFile), Layout stub nonce size enc x →
    ∀ (p : Nat), x.fh.pos = stub.length + 8 + p → ∀ (ops : List Op),
      match plainRun { data := rollDecode nonce enc, pos := p, kind := .bytesIO } ops with
      | .ok (outs, pf') =>
        runF x ops = .ok (outs.map (Out.shift (stub.length + 8)), x.withPos (stub.length + 8 + pf'.pos))
      | .error e => runF x ops = .error e

/-- **Full refinement** (current code): holds for every history and both kinds of underlying file. -/
theorem history_refines_all_seeks : HistoryRefinesAllSeeks run := by
  intro stub nonce size enc x hL p hpos ops
  have hA : Abs stub nonce size enc x { data := rollDecode nonce enc, pos := p, kind := .bytesIO } := ⟨hL, rfl, hpos⟩
  have h := run_refines_all ops hA rfl
  cases hp : plainRun { data := rollDecode nonce enc, pos := p, kind := .bytesIO } ops with
  | error e => rw [hp] at h; exact h
  | ok r =>
    obtain ⟨outs, pf'⟩ := r
    rw [hp] at h
    exact h.1

/-- The same for the trace the driver prints and the correspondence runs compare (`runTrace`: the history continues
after a raising operation, which leaves both objects where they were): operation by operation, the view's output is
the `io.BytesIO`'s output (seek values shifted), exceptions included. -/
theorem trace_refines_all_seeks {stub nonce size enc : Bytes} {x : XorFile} (hL : Layout stub nonce size enc x)
    (p : Nat) (hpos : x.fh.pos = stub.length + 8 + p) (ops : List Op) :
    runTrace x ops =
      (plainTrace { data := rollDecode nonce enc, pos := p, kind := .bytesIO } ops).map (shiftOut (stub.length + 8)) :=
  trace_refines_all ops ⟨hL, rfl, hpos⟩ rfl

/-- from the constructor call on the raw file (BytesIO or OS file) -/
theorem history_refines_all_seeks_from_open (stub nonce size enc : Bytes) (hn : nonce.length = 4) (hs : size.length = 4)
    (f : PyFile) (hd : f.data = stub ++ nonce ++ size ++ enc) (ops : List Op) :
    ∃ x, mk' f stub.length = .ok x ∧
      runTrace x ops =
        (plainTrace { data := rollDecode nonce enc, pos := 0, kind := .bytesIO } ops).map (shiftOut (stub.length + 8)) := by
  obtain ⟨x, hx, hL, hpos, _, _⟩ := open_layout stub nonce size enc hn hs f hd
  exact ⟨x, hx, trace_refines_all_seeks hL 0 hpos ops⟩

/-! #### the code before fix 13416c7 (`seekOld`): what it did, and why the full statement failed -/

/-- BEFORE fix 13416c7 (`seekOld`).  `seek(off, whence)` of the view, exactly, for every state and every argument: the raw target was
`off + nonce_offset + 8` (SET), `raw position + off` (CUR), `raw size + off` (END).  A non-negative raw target is taken
— whatever its logical value `raw target − (nonce_offset + 8)`, which `tell()` then reports, also when negative; a
negative raw target behaves as on the underlying file: SET raises ValueError (BytesIO) / OSError (OS file), CUR/END
clamp to raw 0 on BytesIO and raise OSError on an OS file.  A raising seek leaves the object unchanged. -/
theorem seek_exact_old (x : XorFile) (off : Int) (wh : Nat) :
    (wh ≤ 2 → seekOld x off wh =
      if 0 ≤ rawTarget x off wh then .ok ((rawTarget x off wh).toNat, x.withPos (rawTarget x off wh).toNat)
      else belowStart x wh) ∧
    (2 < wh → seekOld x off wh = .error .valueError) ∧
    (0 ≤ rawTarget x off wh →
      tell (x.withPos (rawTarget x off wh).toNat) = rawTarget x off wh - ((x.nonceOff : Int) + 8)) := by
  refine ⟨seekOld_exact x off wh, seekOld_bad_whence x off wh, ?_⟩
  intro h
  simp only [tell, PyFile.tell, XorFile.withPos]
  omega

/-- BEFORE fix 13416c7.  A seek whose logical target `t` is negative, compared with the plain file `pf` over the decoded bytes (same file
kind).  The plain file raises (SET: ValueError / OSError; CUR, END on an OS file: OSError) or clamps to 0 (CUR, END on
BytesIO).  The old view did the same only when the RAW target `t + nonce_offset + 8` is negative; otherwise the seek
succeeds and the view stands inside the stub / nonce / size dword, `tell()` reporting the negative value `t`. -/
theorem negative_seek_exact_old {stub nonce size enc : Bytes} {x : XorFile} {pf : PyFile}
    (hA : Abs stub nonce size enc x pf) (off : Int) (wh : Nat) (hwh : wh ≤ 2)
    (ht : logicalTarget pf off wh < 0) :
    plainStep pf (.seek off wh) = plainBelowStart pf wh ∧
    (logicalTarget pf off wh + ((stub.length : Int) + 8) < 0 →
      stepOpOld x (.seek off wh) = (belowStart x wh).map fun r => (.seek r.1, r.2)) ∧
    (0 ≤ logicalTarget pf off wh + ((stub.length : Int) + 8) →
      ∃ q : Nat, (q : Int) = logicalTarget pf off wh + ((stub.length : Int) + 8) ∧
        stepOpOld x (.seek off wh) = .ok (.seek q, x.withPos q) ∧ tell (x.withPos q) = logicalTarget pf off wh) := by
  have hraw := rawTarget_abs hA off wh
  refine ⟨plainStep_negative pf off wh hwh ht, ?_, ?_⟩
  · intro h
    simp only [stepOpOld]
    rw [(seek_exact_old x off wh).1 hwh, if_neg (by omega)]
  · intro h
    refine ⟨(rawTarget x off wh).toNat, by omega, ?_, ?_⟩
    · simp only [stepOpOld]
      rw [(seek_exact_old x off wh).1 hwh, if_pos (by omega)]
      rfl
    · rw [(seek_exact_old x off wh).2.2 (by omega), hA.layout.off]; omega

/-- BEFORE fix 13416c7.  Hence: on a seek with a negative logical target the old view and the plain file agree exactly when the raw target is
negative too and the underlying file raises (SET, or any whence on an OS file) — both then raise the same exception
and stay where they were.  In every other case the view's seek SUCCEEDS and leaves a negative logical position. -/
theorem negative_seek_agrees_iff_old {stub nonce size enc : Bytes} {x : XorFile} {pf : PyFile}
    (hA : Abs stub nonce size enc x pf) (hk : pf.kind = x.fh.kind) (off : Int) (wh : Nat) (hwh : wh ≤ 2)
    (ht : logicalTarget pf off wh < 0) :
    ((∃ e, plainStep pf (.seek off wh) = .error e ∧ stepOpOld x (.seek off wh) = .error e) ↔
      (logicalTarget pf off wh + ((stub.length : Int) + 8) < 0 ∧ (wh = 0 ∨ x.fh.kind = .osFile))) ∧
    (¬ (logicalTarget pf off wh + ((stub.length : Int) + 8) < 0 ∧ (wh = 0 ∨ x.fh.kind = .osFile)) →
      ∃ v x', stepOpOld x (.seek off wh) = .ok (.seek v, x') ∧ tell x' < 0) := by
  obtain ⟨hp, hlo, hhi⟩ := negative_seek_exact_old hA off wh hwh ht
  have hoff := hA.layout.off
  by_cases hneg : logicalTarget pf off wh + ((stub.length : Int) + 8) < 0
  · have hv := hlo hneg
    by_cases hw0 : wh = 0
    · subst hw0
      have e1 : plainStep pf (.seek off 0) = .error x.fh.negSeekExc := by
        rw [hp]; simp only [plainBelowStart, if_true, PyFile.negSeekExc, hk]
      have e2 : stepOpOld x (.seek off 0) = .error x.fh.negSeekExc := by
        rw [hv]; simp only [belowStart, if_true]; rfl
      refine ⟨⟨fun _ => ⟨hneg, Or.inl rfl⟩, fun _ => ⟨_, e1, e2⟩⟩, fun h => absurd ⟨hneg, Or.inl rfl⟩ h⟩
    · cases hkind : x.fh.kind with
      | osFile =>
        have e1 : plainStep pf (.seek off wh) = .error .osError := by
          rw [hp]; simp only [plainBelowStart, if_neg hw0, hk, hkind]
        have e2 : stepOpOld x (.seek off wh) = .error .osError := by
          rw [hv]; simp only [belowStart, if_neg hw0, hkind]; rfl
        refine ⟨⟨fun _ => ⟨hneg, Or.inr rfl⟩, fun _ => ⟨_, e1, e2⟩⟩, fun h => absurd ⟨hneg, Or.inr rfl⟩ h⟩
      | bytesIO =>
        have e2 : stepOpOld x (.seek off wh) = .ok (.seek 0, x.withPos 0) := by
          rw [hv]; simp only [belowStart, if_neg hw0, hkind]; rfl
        refine ⟨⟨?_, ?_⟩, fun _ => ⟨0, _, e2, ?_⟩⟩
        · rintro ⟨e, _, h2⟩
          rw [e2] at h2; cases h2
        · rintro ⟨_, h | h⟩
          · exact absurd h hw0
          · cases h
        · simp only [tell, PyFile.tell, XorFile.withPos]; omega
  · obtain ⟨q, hq, hs, htell⟩ := hhi (by omega)
    refine ⟨⟨?_, fun h => absurd h.1 hneg⟩, fun _ => ⟨q, _, hs, by rw [htell]; exact ht⟩⟩
    rintro ⟨e, _, h2⟩
    rw [hs] at h2; cases h2

/-! ### the hypotheses are satisfiable / concrete instances -/

def exFile : PyFile := { data := [0x90, 0xff, 0xff, 0xff] ++ [1, 2, 3, 4] ++ [9, 9, 9, 9] ++ [0x11, 0x22, 0x33, 0x44, 0x55, 0x66] }
def exView : XorFile :=
  { fh := { exFile with pos := 12 }, nonceOff := 4, initialNonce := [1, 2, 3, 4], noncedSize := [9, 9, 9, 9] }

example : mk' exFile 4 = .ok exView := by rfl
example : Layout [0x90, 0xff, 0xff, 0xff] [1, 2, 3, 4] [9, 9, 9, 9] [0x11, 0x22, 0x33, 0x44, 0x55, 0x66] exView :=
  ⟨rfl, rfl, rfl, rfl, rfl⟩
example : rollDecode [1, 2, 3, 4] [0x11, 0x22, 0x33, 0x44, 0x55, 0x66] = [0x10, 0x20, 0x30, 0x40, 0x44, 0x44] := by decide
example : rollEncode [1, 2, 3, 4] [0x10, 0x20, 0x30, 0x40, 0x44, 0x44] = [0x11, 0x22, 0x33, 0x44, 0x55, 0x66] := by decide
/-- a concrete history (unaligned reads, all three `whence` values, read past EOF, a seek beyond the end, negative
and None counts) meets the decidable hypothesis of `history_refines` -/
example : seeksNonneg 6 0
    [.read (some 3), .tell, .read (some 2), .seek (-1) 1, .read none, .seek (-5) 2, .read (some (-7)), .seek 6 0,
     .read (some 9), .tell, .seek 3 2, .read (some 2), .tell, .seek 0 0, .read (some 0)] = true := by decide
example : seeksNonneg 6 0 [.seek 7 0] = true := by decide
example : seeksNonneg 6 0 [.seek (-1) 1] = false := by decide
example : seeksNonneg 6 0 [.seek (-7) 2] = false := by decide
example : plainRun { data := [0x10, 0x20, 0x30, 0x40, 0x44, 0x44] } [.read (some 3), .tell, .read (some 2), .seek (-1) 1, .read none]
    = .ok ([.bytes [0x10, 0x20, 0x30], .pos 3, .bytes [0x40, 0x44], .seek 4, .bytes [0x44, 0x44]],
           { data := [0x10, 0x20, 0x30, 0x40, 0x44, 0x44], pos := 6 }) := by rfl
example : counter [7, 500, 3, 500] = [(7, 1), (500, 2), (3, 1)] := by decide
example : candidates [4, 497] [500, 3] = [500, 7, 3] := by decide
example : NoSpuriousCandidate [500, 7, 3] (fun c => c == 500 || c == 7) 500 := ⟨[], [7, 3], rfl, by simp⟩
example : u32 (C20.xor [1, 2, 3, 4] [7, 2, 3, 4]) = 6 := by decide
/-- a minimal plaintext that satisfies `PeHeaderAt0`: e_lfanew = 64, Machine = 0x8664 at offset 68 -/
example : PeHeaderAt0 (List.replicate 60 0 ++ [64, 0, 0, 0] ++ [0x50, 0x45, 0, 0] ++ [0x64, 0x86] ++ List.replicate 18 0) 1024 64 :=
  ⟨by decide, by decide, by decide, by decide, by decide, Or.inl (by decide)⟩

/-- The full statement separates the repaired code from the code before fix 13416c7 (stub of 4 bytes, so logical 0 is
raw 12): `seek(-1)` raises ValueError on `io.BytesIO` over the decoded bytes — and on the current view — but succeeded
on the old view: it returned raw offset 11, `tell()` then reported −1 and the next read started inside the size dword. -/
theorem history_refines_all_seeks_refutes_old : ¬ HistoryRefinesAllSeeks runOld := by
  intro h
  have h1 := h [0x90, 0xff, 0xff, 0xff] [1, 2, 3, 4] [9, 9, 9, 9] [0x11, 0x22, 0x33, 0x44, 0x55, 0x66] exView
    ⟨rfl, rfl, rfl, rfl, rfl⟩ 0 rfl [.seek (-1) 0]
  have hp : plainRun { data := rollDecode [1, 2, 3, 4] [0x11, 0x22, 0x33, 0x44, 0x55, 0x66], pos := 0, kind := .bytesIO }
      [.seek (-1) 0] = .error .valueError := rfl
  rw [hp] at h1
  have hr : runOld exView [.seek (-1) 0] = .ok ([.seek 11], exView.withPos 11) := rfl
  rw [hr] at h1
  cases h1

example : runOld exView [.seek (-1) 0, .tell, .seek (-13) 1, .tell] =
    .ok ([.seek 11, .pos (-1), .seek 0, .pos (-12)], exView.withPos 0) := by rfl
example : runTrace exView [.seek (-1) 0, .tell, .seek (-13) 1, .tell, .seek (-100) 2, .seek 0 7] =
    [.error .valueError, .ok (.pos 0), .ok (.seek 12), .ok (.pos 0), .ok (.seek 12), .error .valueError] := by rfl

/-! a complete stage that meets the byte-level hypotheses of `detect_correct_real_clean` (buffer size 7, OS file) -/
def exPlain : Bytes := List.replicate 60 0 ++ [64, 0, 0, 0] ++ [0x50, 0x45, 0, 0] ++ [0x64, 0x86] ++ List.replicate 17 0 ++ [1]
def exStub : Bytes := [0x90, 0xff, 0xff, 0xff]
def exNonce : Bytes := [1, 2, 3, 4]
def exSize : Bytes := [89, 2, 3, 4]
def exStage : PyFile := { data := exStub ++ exNonce ++ exSize ++ rollEncode exNonce exPlain, kind := .osFile }

example : ∃ x, fromFileReal 7 exStage 1024 = .ok x ∧ Layout exStub exNonce exSize (rollEncode exNonce exPlain) x ∧
    x.fh.pos = exStub.length + 8 + 0 ∧ tell x = 0 := by
  apply detect_correct_real_clean 7 (by omega) exStub exNonce exSize (rollEncode exNonce exPlain) rfl rfl exStage rfl 1024
    (by omega) (Or.inl ⟨[0x90], rfl, by decide⟩) 64
  · rw [rollDecode_rollEncode _ _ rfl]
    exact ⟨by decide, by decide, by decide, by decide, by decide, Or.inl (by decide)⟩
  · decide +kernel
  · -- only an offset with eight bytes left in the 100-byte file can satisfy the size relation
    have key : ∀ c, c < 93 → SizeRel exStage.data (exStage.data.length : Int) c → c = exStub.length := by
      decide +kernel
    have hlen : exStage.data.length = 100 := by decide +kernel
    intro c _ hrel
    exact key c (by have := hrel.1; omega) hrel

end C09

import CsVerif.Gen.PyExtract
import CsVerif.Props.C01
import CsVerif.Lemmas.C01Gen
/-!
C01 — the tie between the source text and the model, by (untyped) translation.

`Gen/PyExtract.lean` is produced on every run by `tools/py2leanu.py` (plug-in `tools/gen/py_extractu.py`) from the *source* of
`utils.iter_find_needle`, `beacon.find_beacon_config_bytes` and `beacon.iter_beacon_config_blocks`, in FIRST-YIELD FORM: the entry
points of the property (`BeaconConfig.from_file / from_bytes / from_path`) never resume `iter_beacon_config_blocks` after its first
`yield`, which in turn resumes `find_beacon_config_bytes` only after it has yielded itself, and so on down to `iter_find_needle`; the
first-yield form `g__first` of a generator function `g` is the ordinary function that runs the body of `g` up to its first `yield e`
and answers `(e,)` — or `None` when the body ends without a yield — together with the file object as it is at that moment.  It is
obtained from the source by an exact rewriting (documented in the plug-in); nothing about what the generator would do when resumed
is assumed.

File-like objects are dispatched dynamically (Model/PyU_T01.lean): `fh.read / seek / tell` run the file operations of
Model/PyU_T15.lean on an ordinary file and the methods TRANSLATED from xordecode.py (Gen/PyXor.lean, proved in Props/C09Gen.lean) on
an `XorEncodedFile` view.  `XorEncodedFile.from_file` (C09's detector) and the statements that compute the order of the residual
keys of the all-keys retry are EXTERNAL: parameters `xff`, `left_keys` of the translated definitions, constrained in the theorems
by their contracts `XffSpec` (the answer depends on the content only: a view at nonce offset `c` — the hypothesis `det` of the
theorems of Props/C01.lean — or ValueError) and `LeftSpec` (they answer SOME list `left`; as in `C01.allkeys_any_order` the theorems
hold for every order).

  * `first_yield_find`, `first_yield_keys`: what a consumer that never resumes the generator observes of the TRACES of `Model/C01.lean` is the first-yield run
    (`C01Gen.findFirst`, `overKeysFirst`) — for every file-like object, without assumption.  This turns the harness ASSUMPTION
    "generators consumed only up to the first yield behave as the prefix of the fully consumed run" into a theorem about the model.
  * `gen_iter_find_needle_first`, `gen_find_beacon_config_bytes_first`: the translated definitions compute `C01Gen.iterNeedleFirst`
    / `findFirst` on the encoding of every ordinary file (any kind, any position) and of every XorEncodedFile view of a well-formed
    stage, for every buffer size, key and every fuel from an explicit bound on.
  * `gen_from_file_found / _fallback / _eq_model / _none`: the translated `BeaconConfig.from_file` against the specification and
    against `C01.fromFile`, the function the theorems of `Props/C01.lean` are stated on.
  * `gen_iter_beacon_config_blocks_first`: **the translated source of `iter_beacon_config_blocks` yields first exactly the first
    candidate of the declarative specification** (`C01.searchSpec`: decoded view before the file, key priority, file order; then
    the residual keys) — the content of `C01.extract_first` / `extract_none`, for the source text.  `gen_blocks_eq_model` restates it
    against the hand-written model (the head of the yields of `C01.iterConfigBlocks`).
Helper lemmas: `Lemmas/C01Gen.lean`.
-/
namespace C01Gen
open PyU C01 C09Gen Gen.Extract
open C15Gen hiding pure_ok throw_err add_int sub_int iadd_int eq_int lt_int gt_int len_bytes add_bytes truthy_bytes

/-! ### first-yield runs are prefixes of the model's traces (no assumption) -/

/-- what a consumer that never resumes `find_beacon_config_bytes` observes of the model's trace — the first yielded block, or how
the generator ends without one — is the first-yield run, for EVERY file-like object -/
theorem first_yield_find {σ : Type} (F : FileLike σ) (B : Nat) (s : σ) (key : Bytes) :
    firstOf (findConfigBytes F B s key) = (findFirst F B s key).map (·.1) := by
  have h := findConfigBytes_first F B s key
  cases hf : findFirst F B s key with
  | error e => rw [hf] at h; rw [h]; rfl
  | ok r =>
    obtain ⟨o, s1⟩ := r
    rw [hf] at h
    cases o with
    | none => rw [h]; rfl
    | some b => obtain ⟨ys, fin, h⟩ := h; rw [h]; rfl

/-- the same for the key loop `for xorkey in keys: for config_block in find_beacon_config_bytes(fh, xorkey): yield …` -/
theorem first_yield_keys {σ : Type} (F : FileLike σ) (B : Nat) (enc : Bool) (keys : List Bytes) (s : σ) :
    firstOf (overKeys F B enc keys s) = (overKeysFirst F B enc keys s).map (·.1) :=
  firstOf_overKeys F B enc keys s

/-! ### `iter_find_needle` and `find_beacon_config_bytes`, first-yield form -/

/-- the translated `iter_find_needle__first` (no limit) on an ORDINARY FILE — any content, position and kind, any needle and buffer
size, `start_offset` `None` or a non-negative int — equals the encoding of the first-yield run of the model -/
theorem gen_iter_find_needle_first (B : Nat) (f : PyFile) (needle : Bytes) (start : Option Nat) (fuel : Nat)
    (hf : f.data.length + 3 ≤ fuel) :
    Gen.PyExtract.iter_find_needle__first (.int (B : Int)) fuel (encFile f) (.bytes needle) (encOptNat start) (.int 0)
      = (iterNeedleFirst rawFile B f needle start).map (encFirst V.int encFile) := by
  obtain ⟨r, _, e1, e2, _⟩ := gen_iter_find_needle_first_aux sim_raw encOps_raw B f f rfl needle start fuel (by omega)
  rw [e1, e2]; rfl

/-- the same through an `XorEncodedFile` VIEW of a well-formed stage `stub ++ nonce ++ size ++ enc` (at any logical position): every
`tell / read / seek` is the method translated from xordecode.py -/
theorem gen_iter_find_needle_first_view (stub nonce size enc : Bytes) (x : C09.XorFile) (pf : PyFile)
    (hA : C09.Abs stub nonce size enc x pf) (B : Nat) (needle : Bytes) (start : Option Nat) (fuel : Nat)
    (hf : (stub.length + 8 + enc.length + 1) + pf.data.length + 3 ≤ fuel) :
    Gen.PyExtract.iter_find_needle__first (.int (B : Int)) fuel (encXor x) (.bytes needle) (encOptNat start) (.int 0)
      = (iterNeedleFirst xorView B x needle start).map (encFirst V.int encXor) := by
  obtain ⟨r, _, e1, e2, _⟩ := gen_iter_find_needle_first_aux (sim_xor stub nonce size enc) (encOps_xor stub nonce size enc) B x pf hA
    needle start fuel hf
  rw [e1, e2]; rfl

/-- the translated `find_beacon_config_bytes__first` on an ordinary file: for every content, position, kind, key (any `bytes`, also
empty) and buffer size, and every fuel of at least `len(file) + 3` -/
theorem gen_find_beacon_config_bytes_first (B : Nat) (f : PyFile) (key : Bytes) (fuel : Nat) (hf : f.data.length + 3 ≤ fuel) :
    Gen.PyExtract.find_beacon_config_bytes__first (.int (B : Int)) fuel (encFile f) (.bytes key)
      = (findFirst rawFile B f key).map (encFirst V.bytes encFile) := by
  obtain ⟨r, _, e1, e2, _⟩ := gen_find_first_aux sim_raw encOps_raw B f f rfl key fuel (by omega)
  rw [e1, e2]; rfl

/-- … and through an `XorEncodedFile` view of a well-formed stage -/
theorem gen_find_beacon_config_bytes_first_view (stub nonce size enc : Bytes) (x : C09.XorFile) (pf : PyFile)
    (hA : C09.Abs stub nonce size enc x pf) (B : Nat) (key : Bytes) (fuel : Nat)
    (hf : (stub.length + 8 + enc.length + 1) + pf.data.length + 3 ≤ fuel) :
    Gen.PyExtract.find_beacon_config_bytes__first (.int (B : Int)) fuel (encXor x) (.bytes key)
      = (findFirst xorView B x key).map (encFirst V.bytes encXor) := by
  obtain ⟨r, _, e1, e2, _⟩ := gen_find_first_aux (sim_xor stub nonce size enc) (encOps_xor stub nonce size enc) B x pf hA key fuel hf
  rw [e1, e2]; rfl

/-- **what the translated `find_beacon_config_bytes` yields first** on an ordinary file: the un-XORed `PATCH_SIZE` bytes at the
LEAST offset where `CONFIG_HEADER ⊕ key` occurs (fewer at the end of the file) — or nothing when there is no occurrence; for every
buffer size `≥ 1` (C01 `findConfigBytes_spec` through `first_yield_find`) -/
theorem gen_find_first_exact (B : Nat) (hB : 1 ≤ B) (f : PyFile) (key : Bytes) (fuel : Nat) (hf : f.data.length + 3 ≤ fuel) :
    ∃ f' : PyFile, f'.data = f.data ∧
      Gen.PyExtract.find_beacon_config_bytes__first (.int (B : Int)) fuel (encFile f) (.bytes key)
        = .ok (.tuple [encRet V.bytes ((occK f.data key).head?.map fun i => C20.xor ((f.data.drop i).take patchSize) key),
                       encFile f']) := by
  obtain ⟨⟨o, f1⟩, pf', e1, e2, a', hd'⟩ := gen_find_first_aux sim_raw encOps_raw B f f rfl key fuel (by omega)
  have a'' : f1 = pf' := a'
  subst a''
  refine ⟨f1, hd', ?_⟩
  rw [e2]
  suffices ho : o = (occK f.data key).head?.map fun i => C20.xor ((f.data.drop i).take patchSize) key by rw [← ho]; rfl
  -- the run against the model's trace (`findConfigBytes_first`), the trace against the occurrences (`findConfigBytes_spec`)
  have h := findConfigBytes_first rawFile B f key
  rw [e1] at h
  obtain ⟨s1, s2⟩ := findConfigBytes_spec sim_raw B hB key f f rfl
  cases hO : occK f.data key with
  | nil =>
    cases o with
    | none => rfl
    | some b =>
      obtain ⟨ys, fin, hh⟩ := h
      rw [hh] at s1
      cases (s1 hO).1
  | cons i rest =>
    have hh := s2 i rest hO
    cases o with
    | none => rw [show findConfigBytes rawFile B f key = _ from h] at hh; cases hh
    | some b =>
      obtain ⟨ys, fin, h⟩ := h
      rw [h] at hh
      exact hh

/-! ### `iter_beacon_config_blocks`, first-yield form -/

/-- **Central theorem for the source text.**  The definition translated from the source of `iter_beacon_config_blocks` (as
`BeaconConfig.from_file` calls it: `xordecode` left to its default), run up to its first yield on ANY ordinary file (content,
position, kind), with any key-list argument (`None`, `[]`, a list of `bytes` of any length), either value of `all_xor_keys`, any
buffer size `≥ 1`, any detector `xff` that honours the contract `XffSpec` (answer `det`, well-formed: `c + 8 ≤ len`), any key-order
function that honours `LeftSpec` (for ANY order `left`), and every fuel of at least `2·len(file) + 4`, yields first exactly the FIRST
CANDIDATE of the declarative specification `C01.searchSpec` — decoded view before the file itself, then key priority, then file
order; under the residual keys when nothing is found under the given ones and `all_xor_keys` is set — as the tuple
`(config_block, {"xorkey": key, "xorencoded": flag})`, and `None` when there is no candidate; it never raises. -/
theorem gen_iter_beacon_config_blocks_first (B : Nat) (hB : 1 ≤ B) (f : PyFile) (ks : Option (List Bytes)) (ak : Bool)
    (det : Option Nat) (hdet : DetOk f.data det) (xff : V → Py V) (hx : XffSpec xff f.data det)
    (lk : V → V → Py V) (left : List Bytes) (hl : LeftSpec lk f.data (effKeysOpt ks) left) (fuel : Nat)
    (hf : 2 * f.data.length + 4 ≤ fuel) :
    ∃ g : PyFile, g.data = f.data ∧
      Gen.PyExtract.iter_beacon_config_blocks__first xff (.int (B : Int)) lk fuel (encFile f) (encKeysOpt ks) (.bool ak)
        = .ok (.tuple [encRet encResult ((searchSpec f.data (ks.getD []) ak det left).map Cand.result), encFile g]) :=
  gen_blocks_aux B hB f.data f rfl ks ak det hdet xff hx lk left hl fuel hf

/-- the source default `all_xor_keys=False` -/
theorem gen_iter_beacon_config_blocks_first_default (B : Nat) (hB : 1 ≤ B) (f : PyFile) (ks : Option (List Bytes))
    (det : Option Nat) (hdet : DetOk f.data det) (xff : V → Py V) (hx : XffSpec xff f.data det)
    (lk : V → V → Py V) (left : List Bytes) (hl : LeftSpec lk f.data (effKeysOpt ks) left) (fuel : Nat)
    (hf : 2 * f.data.length + 4 ≤ fuel) :
    ∃ g : PyFile, g.data = f.data ∧
      Gen.PyExtract.iter_beacon_config_blocks__first_default1 xff (.int (B : Int)) lk fuel (encFile f) (encKeysOpt ks)
        = .ok (.tuple [encRet encResult ((searchSpec f.data (ks.getD []) false det left).map Cand.result), encFile g]) :=
  gen_iter_beacon_config_blocks_first B hB f ks false det hdet xff hx lk left hl fuel hf

/-- the specialisation `xordecode=True, all_xor_keys=False` that the source calls recursively for the residual keys -/
theorem gen_iter_beacon_config_blocks_nr_first (B : Nat) (hB : 1 ≤ B) (f : PyFile) (ks : Option (List Bytes))
    (det : Option Nat) (hdet : DetOk f.data det) (xff : V → Py V) (hx : XffSpec xff f.data det) (fuel : Nat)
    (hf : 2 * f.data.length + 4 ≤ fuel) :
    ∃ g : PyFile, g.data = f.data ∧
      Gen.PyExtract.iter_beacon_config_blocks_nr__first xff (.int (B : Int)) fuel (encFile f) (encKeysOpt ks)
        = .ok (.tuple [encRet encResult ((candidates (views f.data det) (effKeysOpt ks)).head?.map Cand.result), encFile g]) :=
  gen_blocks_nr_aux B hB f.data f rfl ks det hdet xff hx fuel hf

/-- the same against the hand-written model: the translated source yields first what `C01.iterConfigBlocks` yields first (the model
the theorems of `Props/C01.lean` are stated on; `C01.blocks_first_yield`) -/
theorem gen_blocks_eq_model (B : Nat) (hB : 1 ≤ B) (f : PyFile) (ks : Option (List Bytes)) (ak : Bool)
    (det : Option Nat) (hdet : DetOk f.data det) (xff : V → Py V) (hx : XffSpec xff f.data det)
    (lk : V → V → Py V) (left : List Bytes) (hl : LeftSpec lk f.data (effKeysOpt ks) left) (fuel : Nat)
    (hf : 2 * f.data.length + 4 ≤ fuel) :
    ∃ g : PyFile, g.data = f.data ∧
      Gen.PyExtract.iter_beacon_config_blocks__first xff (.int (B : Int)) lk fuel (encFile f) (encKeysOpt ks) (.bool ak)
        = .ok (.tuple [encRet encResult (iterConfigBlocks B f (ks.getD []) ak det left).1.head?, encFile g]) := by
  obtain ⟨g, hg, h⟩ := gen_iter_beacon_config_blocks_first B hB f ks ak det hdet xff hx lk left hl fuel hf
  refine ⟨g, hg, ?_⟩
  rw [h, blocks_first_yield B hB f (ks.getD []) ak det hdet left, extractSpec_search]
  cases searchSpec f.data (ks.getD []) ak det left <;> rfl

/-- **`extract_first` for the source text**: when a candidate exists under the tried keys, the first yield of the translated
`iter_beacon_config_blocks` is the LEAST candidate `c` in (view, key priority, offset) order, with its block, key and flag -/
theorem gen_extract_first (B : Nat) (hB : 1 ≤ B) (f : PyFile) (ks : Option (List Bytes)) (ak : Bool)
    (det : Option Nat) (hdet : DetOk f.data det) (xff : V → Py V) (hx : XffSpec xff f.data det)
    (lk : V → V → Py V) (left : List Bytes) (hl : LeftSpec lk f.data (effKeysOpt ks) left) (fuel : Nat)
    (hf : 2 * f.data.length + 4 ≤ fuel) (c : Cand)
    (hc : (candidates (views f.data det) (effKeysOpt ks)).head? = some c) :
    (∃ g : PyFile, g.data = f.data ∧
      Gen.PyExtract.iter_beacon_config_blocks__first xff (.int (B : Int)) lk fuel (encFile f) (encKeysOpt ks) (.bool ak)
        = .ok (.tuple [.tuple [encResult ⟨C20.xor ((c.plain.drop c.offset).take patchSize) c.key, c.key, c.xorencoded⟩], encFile g])) ∧
    c ∈ candidates (views f.data det) (effKeysOpt ks) ∧
    ∀ c' ∈ candidates (views f.data det) (effKeysOpt ks),
      (c'.xorencoded = true → c.xorencoded = true) ∧
      (c'.xorencoded = c.xorencoded →
        (effKeysOpt ks).idxOf c.key ≤ (effKeysOpt ks).idxOf c'.key ∧ (c'.key = c.key → c.offset ≤ c'.offset)) := by
  refine ⟨?_, first_is_least _ _ _ c hc⟩
  obtain ⟨g, hg, h⟩ := gen_iter_beacon_config_blocks_first B hB f ks ak det hdet xff hx lk left hl fuel hf
  refine ⟨g, hg, ?_⟩
  rw [h, searchSpec_some f.data (ks.getD []) ak det left c hc]
  rfl

/-- **`extract_none` for the source text**: no candidate under the tried keys (nor, in all-keys mode, under the residual ones) —
the translated generator ends without a yield (`None`), so `from_file` goes on to its Guardrails fallback -/
theorem gen_extract_none (B : Nat) (hB : 1 ≤ B) (f : PyFile) (ks : Option (List Bytes)) (ak : Bool)
    (det : Option Nat) (hdet : DetOk f.data det) (xff : V → Py V) (hx : XffSpec xff f.data det)
    (lk : V → V → Py V) (left : List Bytes) (hl : LeftSpec lk f.data (effKeysOpt ks) left) (fuel : Nat)
    (hf : 2 * f.data.length + 4 ≤ fuel)
    (h1 : candidates (views f.data det) (effKeysOpt ks) = [])
    (h2 : ak = true → candidates (views f.data det) (effKeys left) = []) :
    ∃ g : PyFile, g.data = f.data ∧
      Gen.PyExtract.iter_beacon_config_blocks__first xff (.int (B : Int)) lk fuel (encFile f) (encKeysOpt ks) (.bool ak)
        = .ok (.tuple [.none, encFile g]) := by
  obtain ⟨g, hg, h⟩ := gen_iter_beacon_config_blocks_first B hB f ks ak det hdet xff hx lk left hl fuel hf
  refine ⟨g, hg, ?_⟩
  rw [h, (searchSpec_eq_none_iff f.data (ks.getD []) ak det left).mpr ⟨h1, h2⟩]
  rfl

/-- the order of the residual keys does not matter when at most one of them has a candidate — in particular the answer of the
translated definition is the same for any two key-order functions (`allkeys_any_order` / `allkeys_single_key` carry over through
`gen_blocks_eq_model`); here: two contracts with the same list give the same answer up to the final file position -/
theorem gen_blocks_order_only (B : Nat) (hB : 1 ≤ B) (f : PyFile) (ks : Option (List Bytes)) (ak : Bool)
    (det : Option Nat) (hdet : DetOk f.data det) (xff xff' : V → Py V) (hx : XffSpec xff f.data det) (hx' : XffSpec xff' f.data det)
    (lk lk' : V → V → Py V) (left : List Bytes) (hl : LeftSpec lk f.data (effKeysOpt ks) left)
    (hl' : LeftSpec lk' f.data (effKeysOpt ks) left) (fuel fuel' : Nat) (hf : 2 * f.data.length + 4 ≤ fuel)
    (hf' : 2 * f.data.length + 4 ≤ fuel') :
    ∃ r g g', Gen.PyExtract.iter_beacon_config_blocks__first xff (.int (B : Int)) lk fuel (encFile f) (encKeysOpt ks) (.bool ak)
        = .ok (.tuple [r, encFile g]) ∧
      Gen.PyExtract.iter_beacon_config_blocks__first xff' (.int (B : Int)) lk' fuel' (encFile f) (encKeysOpt ks) (.bool ak)
        = .ok (.tuple [r, encFile g']) := by
  obtain ⟨g, _, h⟩ := gen_iter_beacon_config_blocks_first B hB f ks ak det hdet xff hx lk left hl fuel hf
  obtain ⟨g', _, h'⟩ := gen_iter_beacon_config_blocks_first B hB f ks ak det hdet xff' hx' lk' left hl' fuel' hf'
  exact ⟨_, g, g', h, h'⟩

/-! ### `BeaconConfig.from_file`

The translated `from_file` is parameterised by the external functions it calls: the detector `xff` and the key order `left_keys` (as
above), the constructor `BeaconConfig(config_block)` (`new_config`; contract `CfgSpec`: it builds the object that the definition
translated from `BeaconConfig.__init__` builds — `cfgSpec_newConfigG`), `pe.find_compile_stamps` / `pe.find_architecture` (C18;
contract `FileExtSpec`: they answer SOME stamps / architecture and hand the file-like object back — their values are recorded in the
result and are not part of this property) and `iter_guardrail_configs_with_beacon` (C17; it answers the records `ms`). -/

/-- the constructor translated from the source of `BeaconConfig.__init__` (Gen/PyBeaconCfg.lean), with fuel for its argument, honours
the contract -/
theorem cfgSpec_newConfigG : CfgSpec newConfigG := fun b => C02Gen.gen_beacon_config_init (b.length + 1) b (by omega)

/-- **`from_file`, a candidate exists** (under the given keys, or — all-keys mode — under the residual ones): the translated
`from_file` returns the `BeaconConfig` object built from the block of the LEAST candidate `c` of the specification, with `xorkey` the
key it was found under, `xorencoded` the view flag, `settings_tuple` the C02 decoding of the block and `guardrails = None`; the
Guardrails scan is not consulted.  For every file, key-list argument, mode, buffer size `≥ 1` and every fuel `≥ 2·len + 4`. -/
theorem gen_from_file_found (B : Nat) (hB : 1 ≤ B) (f : PyFile) (ks : Option (List Bytes)) (ak : Bool)
    (det : Option Nat) (hdet : DetOk f.data det) (xff : V → Py V) (hx : XffSpec xff f.data det)
    (lk : V → V → Py V) (left : List Bytes) (hl : LeftSpec lk f.data (effKeysOpt ks) left)
    (nc : V → Py V) (hnc : CfgSpec nc)
    (fcs : V → Py V) (hfcs : FileExtSpec fcs f.data (fun r => ∃ c e, r = .tuple [c, e]))
    (fa : V → Py V) (hfa : FileExtSpec fa f.data (fun _ => True))
    (ig : V → Py V) (fuel : Nat) (hf : 2 * f.data.length + 4 ≤ fuel)
    (c : Cand) (hc : searchSpec f.data (ks.getD []) ak det left = some c) :
    ∃ pe_e pe_c arch out,
      Gen.PyExtract.from_file xff (.int (B : Int)) lk nc fcs fa ig fuel (encFile f) (encKeysOpt ks) (.bool ak)
        = .ok (.tuple [encExtracted (C20.xor ((c.plain.drop c.offset).take patchSize) c.key) (.bytes c.key) c.xorencoded
                         pe_e pe_c arch .none, out]) :=
  gen_from_file_found_aux B hB f.data f rfl ks ak det hdet xff hx lk left hl nc hnc fcs hfcs fa hfa ig fuel hf c hc

/-- **`from_file`, no candidate**: the Guardrails fallback — the first record of the scan with a non-empty unmasked configuration
gives the object (`xorkey = beacon_xor_key`, `guardrails` = the record, `xorencoded = False`); without one the documented
`ValueError("No valid Beacon configuration found")` -/
theorem gen_from_file_fallback (B : Nat) (hB : 1 ≤ B) (f : PyFile) (ks : Option (List Bytes)) (ak : Bool)
    (det : Option Nat) (hdet : DetOk f.data det) (xff : V → Py V) (hx : XffSpec xff f.data det)
    (lk : V → V → Py V) (left : List Bytes) (hl : LeftSpec lk f.data (effKeysOpt ks) left)
    (nc : V → Py V) (hnc : CfgSpec nc)
    (fcs : V → Py V) (hfcs : FileExtSpec fcs f.data (fun r => ∃ c e, r = .tuple [c, e]))
    (fa : V → Py V) (hfa : FileExtSpec fa f.data (fun _ => True))
    (ig : V → Py V) (ms : List C17.Meta) (hig : FileExtSpec ig f.data (fun r => r = .list (ms.map C17Gen.encMeta)))
    (fuel : Nat) (hf : 2 * f.data.length + 4 ≤ fuel)
    (hc : searchSpec f.data (ks.getD []) ak det left = none) :
    match ms.find? usable with
    | none => Gen.PyExtract.from_file xff (.int (B : Int)) lk nc fcs fa ig fuel (encFile f) (encKeysOpt ks) (.bool ak) = .error .valueError
    | some m =>
      ∃ cfg pe_e pe_c arch out, m.unmaskedBeaconConfig = some cfg ∧
        Gen.PyExtract.from_file xff (.int (B : Int)) lk nc fcs fa ig fuel (encFile f) (encKeysOpt ks) (.bool ak)
          = .ok (.tuple [encExtracted cfg (.bytes m.beaconXorKey) false pe_e pe_c arch (C17Gen.encMeta m), out]) :=
  gen_from_file_fallback_aux B hB f.data f rfl ks ak det hdet xff hx lk left hl nc hnc fcs hfcs fa hfa ig ms hig fuel hf hc

/-- the Guardrails outcome as the hand-written model takes it (`guard : Option Result` of `C01.fromFile`) -/
def guardOf (ms : List C17.Meta) : Option Result :=
  (ms.find? usable).bind fun m => m.unmaskedBeaconConfig.map fun cfg => ⟨cfg, m.beaconXorKey, false⟩

/-- **the translated `from_file` against the hand-written model** `C01.fromFile` (the function `extract_first`, `extract_eq_spec`,
`extract_none`, `extract_only_valueError`, `allkeys_any_order` … of `Props/C01.lean` are stated on): the same exception, or the
object with the model's `config_block`, `xorkey`, `xorencoded` (and `settings_tuple` its C02 decoding) -/
theorem gen_from_file_eq_model (B : Nat) (hB : 1 ≤ B) (f : PyFile) (ks : Option (List Bytes)) (ak : Bool)
    (det : Option Nat) (hdet : DetOk f.data det) (xff : V → Py V) (hx : XffSpec xff f.data det)
    (lk : V → V → Py V) (left : List Bytes) (hl : LeftSpec lk f.data (effKeysOpt ks) left)
    (nc : V → Py V) (hnc : CfgSpec nc)
    (fcs : V → Py V) (hfcs : FileExtSpec fcs f.data (fun r => ∃ c e, r = .tuple [c, e]))
    (fa : V → Py V) (hfa : FileExtSpec fa f.data (fun _ => True))
    (ig : V → Py V) (ms : List C17.Meta) (hig : FileExtSpec ig f.data (fun r => r = .list (ms.map C17Gen.encMeta)))
    (fuel : Nat) (hf : 2 * f.data.length + 4 ≤ fuel) :
    match fromFile B f (ks.getD []) ak det left (guardOf ms) with
    | .error e => Gen.PyExtract.from_file xff (.int (B : Int)) lk nc fcs fa ig fuel (encFile f) (encKeysOpt ks) (.bool ak) = .error e
    | .ok r =>
      ∃ pe_e pe_c arch gr out,
        Gen.PyExtract.from_file xff (.int (B : Int)) lk nc fcs fa ig fuel (encFile f) (encKeysOpt ks) (.bool ak)
          = .ok (.tuple [encExtracted r.block (.bytes r.xorkey) r.xorencoded pe_e pe_c arch gr, out]) := by
  rw [extract_eq_spec B hB f (ks.getD []) ak det hdet left (guardOf ms), extractSpec_search]
  cases hc : searchSpec f.data (ks.getD []) ak det left with
  | some c =>
    obtain ⟨pe_e, pe_c, arch, out, h⟩ := gen_from_file_found B hB f ks ak det hdet xff hx lk left hl nc hnc fcs hfcs fa hfa ig fuel hf c hc
    exact ⟨pe_e, pe_c, arch, .none, out, h⟩
  | none =>
    have h := gen_from_file_fallback B hB f ks ak det hdet xff hx lk left hl nc hnc fcs hfcs fa hfa ig ms hig fuel hf hc
    simp only [guardOf]
    cases hfind : ms.find? usable with
    | none => rw [hfind] at h; exact h
    | some m =>
      rw [hfind] at h
      obtain ⟨cfg, pe_e, pe_c, arch, out, hcfg, h⟩ := h
      simp only [Option.bind_some, hcfg, Option.map_some]
      exact ⟨pe_e, pe_c, arch, _, out, h⟩

/-- **`extract_none` for the source text of `from_file`**: no candidate under the tried keys and no usable Guardrails record —
`ValueError`, nothing else -/
theorem gen_from_file_none (B : Nat) (hB : 1 ≤ B) (f : PyFile) (ks : Option (List Bytes)) (ak : Bool)
    (det : Option Nat) (hdet : DetOk f.data det) (xff : V → Py V) (hx : XffSpec xff f.data det)
    (lk : V → V → Py V) (left : List Bytes) (hl : LeftSpec lk f.data (effKeysOpt ks) left)
    (nc : V → Py V) (hnc : CfgSpec nc)
    (fcs : V → Py V) (hfcs : FileExtSpec fcs f.data (fun r => ∃ c e, r = .tuple [c, e]))
    (fa : V → Py V) (hfa : FileExtSpec fa f.data (fun _ => True))
    (ig : V → Py V) (ms : List C17.Meta) (hig : FileExtSpec ig f.data (fun r => r = .list (ms.map C17Gen.encMeta)))
    (hms : ms.find? usable = none) (fuel : Nat) (hf : 2 * f.data.length + 4 ≤ fuel)
    (h1 : candidates (views f.data det) (effKeysOpt ks) = [])
    (h2 : ak = true → candidates (views f.data det) (effKeys left) = []) :
    Gen.PyExtract.from_file xff (.int (B : Int)) lk nc fcs fa ig fuel (encFile f) (encKeysOpt ks) (.bool ak) = .error .valueError := by
  have hc := (searchSpec_eq_none_iff f.data (ks.getD []) ak det left).mpr ⟨h1, h2⟩
  have h := gen_from_file_fallback B hB f ks ak det hdet xff hx lk left hl nc hnc fcs hfcs fa hfa ig ms hig fuel hf hc
  rw [hms] at h
  exact h

/-! ### Non-vacuity: the translated definitions evaluated on concrete inputs -/

/-- `A`, then the block `00 01 00 01 00 02 00 08 00 00` under key `0x2e` (the example of `Props/C01.lean`) -/
def exRawV : V := mkFile C01.exRaw 0 0

-- the scanner finds the header under 0x2e at offset 1 (buffer size 4: the needle straddles block boundaries)
example : Gen.PyExtract.iter_find_needle__first (.int 4) 20 exRawV (.bytes (C20.xor configHeader [0x2e])) (.int 0) (.int 0)
    = .ok (.tuple [.tuple [.int 1], mkFile C01.exRaw 8 0]) := by decide +kernel
-- `find_beacon_config_bytes` yields the un-XORed block first and leaves the file at its end
example : Gen.PyExtract.find_beacon_config_bytes__first (.int 8192) 20 exRawV (.bytes [0x2e])
    = .ok (.tuple [.tuple [.bytes [0, 1, 0, 1, 0, 2, 0, 8, 0, 0]], mkFile C01.exRaw 11 0]) := by decide +kernel
-- nothing under 0x69
example : Gen.PyExtract.find_beacon_config_bytes__first (.int 8192) 20 exRawV (.bytes [0x69])
    = .ok (.tuple [.none, mkFile C01.exRaw 11 0]) := by decide +kernel
-- wrong argument kinds: a `str` key (`xor` of the typed translation: TypeError), `None` as the file (AttributeError)
example : Gen.PyExtract.find_beacon_config_bytes__first (.int 8192) 20 exRawV (lit "i") = .error .typeError := by decide +kernel
example : Gen.PyExtract.find_beacon_config_bytes__first (.int 8192) 20 .none (.bytes [0x69]) = .error .attributeError := by decide +kernel
-- too little fuel is a Timeout, never a wrong answer
example : Gen.PyExtract.find_beacon_config_bytes__first (.int 2) 3 exRawV (.bytes [0x69]) = .error .timeoutDiverge := by decide +kernel

/-- a detector that never finds a view (raises ValueError, leaves the file where it is) and a key order that answers `[0xaf]` -/
def xffNone (v : V) : Py V := .ok (.tuple [.none, v])
def lkAf (a _keys : V) : Py V := .ok (.tuple [.list [.bytes [0xaf]], a])

-- default keys: the block under 0x2e is found in the file itself (`xorencoded = False`)
example : Gen.PyExtract.iter_beacon_config_blocks__first xffNone (.int 8192) lkAf 40 exRawV .none (.bool false)
    = .ok (.tuple [.tuple [.tuple [.bytes [0, 1, 0, 1, 0, 2, 0, 8, 0, 0],
        .dict [lit "xorkey", lit "xorencoded"] [.bytes [0x2e], .bool false]]], mkFile C01.exRaw 11 0]) := by decide +kernel
-- a key list without 0x2e: nothing; with `all_xor_keys` the retry runs (the residual order `[0xaf]` does not contain 0x2e: still nothing)
example : Gen.PyExtract.iter_beacon_config_blocks__first xffNone (.int 8192) lkAf 40 exRawV (.list [.bytes [0x41]]) (.bool false)
    = .ok (.tuple [.none, mkFile C01.exRaw 11 0]) := by decide +kernel
example : Gen.PyExtract.iter_beacon_config_blocks__first xffNone (.int 8192) lkAf 40 exRawV (.list [.bytes [0x41]]) (.bool true)
    = .ok (.tuple [.none, mkFile C01.exRaw 11 0]) := by decide +kernel
-- the hypotheses of the central theorem are satisfiable: `xffNone` honours the contract for `det = none`
example : XffSpec xffNone C01.exRaw none := fun g hg => ⟨g, rfl, hg⟩

/-- a Guardrails scan that finds nothing -/
def igNone (a : V) : Py V := .ok (.tuple [.list [], a])

-- `from_file` on the example: the object with the block, key `2e`, `xorencoded = False`, one decoded setting, no Guardrails record
example : Gen.PyExtract.from_file xffNone (.int 8192) lkAf newConfigG peStamps peArch igNone 40 exRawV .none (.bool false)
    = .ok (.tuple [encExtracted [0, 1, 0, 1, 0, 2, 0, 8, 0, 0] (.bytes [0x2e]) false .none .none .none .none, mkFile C01.exRaw 11 0]) := by
  decide +kernel
-- … and the documented ValueError when the key list does not contain the key (also in all-keys mode with a residual order without it)
example : Gen.PyExtract.from_file xffNone (.int 8192) lkAf newConfigG peStamps peArch igNone 40 exRawV (.list [.bytes [0x41]]) (.bool true)
    = .error .valueError := by decide +kernel
-- the contracts of the PE place holders and of the empty Guardrails scan are satisfiable
example : FileExtSpec peArch C01.exRaw (fun _ => True) := fun v hv => ⟨.none, v, rfl, trivial, hv⟩
example : FileExtSpec igNone C01.exRaw (fun r => r = .list (([] : List C17.Meta).map C17Gen.encMeta)) := fun v hv => ⟨_, v, rfl, rfl, hv⟩

end C01Gen

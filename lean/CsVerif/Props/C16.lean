import CsVerif.Lemmas.C16
/-! C16 property theorems: raw HTTP messages are parsed into exactly their parts. -/
namespace C16

/-- Percent-decoding inverts percent-encoding, for every byte string. -/
theorem unquote_quote (s : Bytes) : unquote (quote s) = s := unquote_quote' s

/-- …also through the `+` → space step of `parse_qsl` (`quote` never emits `+`). -/
theorem unquote_plus_quote (s : Bytes) : unquote (plusToSpace (quote s)) = s := by
  rw [plusToSpace_quote, unquote_quote']

/-- The body of every parsed message is everything after the FIRST `CRLFCRLF`, byte for byte
(whatever it contains), and empty when the data has no `CRLFCRLF`. -/
theorem body_preserved (data : Bytes) (m : Msg) (h : parseRawHttp data = .ok m) :
    (∀ pre post, data = pre ++ CRLFCRLF ++ post →
        (∀ pre' post', data = pre' ++ CRLFCRLF ++ post' → pre.length ≤ pre'.length) → m.body = post) ∧
    ((∀ pre post, data ≠ pre ++ CRLFCRLF ++ post) → m.body = []) := by
  have hb := (parseRawHttp_parts h).1
  obtain ⟨s1, s2⟩ := partition_spec CRLFCRLF data (by simp [CRLFCRLF])
  constructor
  · intro pre post hd hmin
    rw [hb, s1 pre post hd hmin]
  · intro hno
    rw [hb, s2 hno]

/-- What "whitespace-separated tokens" means: every element of `split()` is non-empty and free of
ASCII whitespace (and `splitWs_three` in Lemmas: three such tokens joined by single spaces split
back into themselves). -/
theorem split_tokens (s : Bytes) : ∀ t ∈ splitWs s, isToken t = true := by
  intro t ht
  exact (isToken_iff t).2 (splitWsGo_tokens s [] (by simp) t ht)

/-- A first line (`firstLine`: the data before the first CRLFCRLF, cut at its first CRLF — see
`partition_spec`) that does not consist of exactly three whitespace-separated tokens is rejected
with ValueError. -/
theorem malformed_rejected (data : Bytes) (h : (splitWs (firstLine data)).length ≠ 3) :
    parseRawHttp data = .error .valueError := by
  have h' : (startTokens data).length ≠ 3 := by
    unfold startTokens; rw [splitWs_rstrip]; exact h
  unfold parseRawHttp
  simp only
  split
  · split
    · rename_i heq; rw [heq] at h'; simp at h'
    · rfl
  · split
    · rename_i heq; rw [heq] at h'; simp at h'
    · rfl

/-- No exception other than ValueError can come out, for any input. -/
theorem only_valueError (data : Bytes) (e : PyExc) (h : parseRawHttp data = .error e) :
    e = .valueError := by
  unfold parseRawHttp at h
  simp only at h
  split at h
  · split at h
    · split at h
      · rename_i e' he; injection h with h; rw [← h]; exact pyIntOfBytes_error he
      · cases h
    · injection h with h; exact h.symm
  · split at h
    · split at h
      · rename_i e' he; injection h with h; rw [← h]; exact urlsplit_error he
      · cases h
    · injection h with h; exact h.symm

/-- `dict(pairs)`: keys are unique, ordered by first occurrence, and the LAST value of a key wins. -/
theorem dict_semantics (ps : List (Bytes × Bytes)) :
    ((dictOfList ps).map Prod.fst).Nodup ∧
    (dictOfList ps).map Prod.fst = firstKeys (ps.map Prod.fst) ∧
    ∀ k, (dictOfList ps).lookup k = ps.reverse.lookup k := by
  refine ⟨foldl_dictSet_nodup_keys [] ps (by simp), ?_, ?_⟩
  · have := foldl_dictSet_keys [] ps
    have e : (firstKeys (ps.map Prod.fst)).filter (fun _ => true) = firstKeys (ps.map Prod.fst) :=
      List.filter_eq_self.2 (fun _ _ => rfl)
    simpa [dictOfList, e] using this
  · intro k
    have := foldl_dictSet_lookup [] ps k
    simpa [dictOfList, Option.or_none] using this

/-- The headers of every parsed message are the `Key: value` partitions of the non-empty lines
between the first line and the first `CRLFCRLF`, with dict semantics. -/
theorem headers_dict_semantics (data : Bytes) (m : Msg) (h : parseRawHttp data = .ok m) :
    let ps := headerPairs (splitCRLF (partition CRLF (partition CRLFCRLF data).1).2)
    (m.headers.map Prod.fst).Nodup ∧
    m.headers.map Prod.fst = firstKeys (ps.map Prod.fst) ∧
    ∀ k, m.headers.lookup k = ps.reverse.lookup k := by
  have hb := (parseRawHttp_parts h).2
  simp only [hb, parseHeaders]
  exact dict_semantics _

/-- Responses: for every version token starting with `HTTP/` (any case), every status given as
(at most 4300) ASCII digits, every single-token reason, every well-formed header list and every
body, parsing the rendered message returns exactly those parts. -/
theorem response_roundtrip (version digits reason : Bytes) (headers : List (Bytes × Bytes)) (body : Bytes)
    (h : WellFormedResp version digits reason headers) :
    parseRawHttp (renderResponse version digits reason headers body) =
      .ok (.response (decimalValue digits) reason headers body) := by
  obtain ⟨hv, hhttp, ⟨hdne, hdall, hdlen⟩, hr, hw⟩ := h
  have hdtok : isToken digits = true :=
    (isToken_iff digits).2 ⟨hdne, fun b hb => (isDigit_facts b (List.all_eq_true.1 hdall b hb)).2.2.2⟩
  obtain ⟨e1, e2, e3, e4⟩ := rendered_parts version digits reason headers body
    (renderResponse version digits reason headers body) rfl hv hdtok hr hw
  have e5 : startsWithHTTP (version ++ 32 :: digits ++ 32 :: reason) = true := by
    rw [List.append_assoc]; exact startsWithHTTP_append_of _ _ hhttp
  unfold parseRawHttp
  simp only [e1, e2, e3, e4, e5, if_true, pyIntOfBytes_digits digits hdne hdall hdlen]

/-- Every status code `n < 10 ^ 4300`, written in decimal, comes back as the integer `n`. -/
theorem response_roundtrip_nat (version reason : Bytes) (headers : List (Bytes × Bytes)) (body : Bytes)
    (n : Nat) (hn : n < 10 ^ maxStrDigits) (hv : isToken version = true)
    (hh : startsWithHTTP version = true) (hr : isToken reason = true) (hw : WellFormedHeaders headers) :
    parseRawHttp (renderResponse version (natDigits n) reason headers body) =
      .ok (.response n reason headers body) := by
  have hlen : (natDigits n).length ≤ maxStrDigits := natDigits_length maxStrDigits n (by decide) hn
  have := response_roundtrip version (natDigits n) reason headers body
    ⟨hv, hh, ⟨natDigits_ne_nil n, natDigits_all n, hlen⟩, hr, hw⟩
  rw [decimalValue_natDigits] at this
  exact this

/-- Requests: for every method token not starting with `HTTP/` (any case), every path that starts
with `/`, does not start with `//` and consists of ASCII non-whitespace bytes other than `?` `#`,
every parameter list with distinct keys and non-empty values over ARBITRARY bytes (percent-encoded
on the wire), every well-formed header list and every body, parsing the rendered wire form returns
exactly method, path, percent-decoded parameters, headers and body. -/
theorem request_roundtrip (version method path : Bytes) (params headers : List (Bytes × Bytes))
    (body : Bytes) (h : WellFormedReq version method path params headers) :
    parseRawHttp (renderRequest version method path params headers body) =
      .ok (.request method path params headers body) := by
  rw [parseRawHttp_rendered_request version method path params headers body h,
    parseQsl_rendered params h.paramVals, dictOfList_nodup params h.paramKeys]

/-- regression witness of the defect repaired by 5b05344: `GET /?x=%FF HTTP/1.1` -/
example : parseRawHttp ([71, 69, 84, 32, 47, 63, 120, 61, 37, 70, 70, 32, 72, 84, 84, 80, 47, 49, 46, 49] ++ CRLFCRLF) =
    .ok (.request [71, 69, 84] [47] [([120], [255])] [] []) := by decide +kernel

/-- `POST /a;b:c@[d]/%41//e?k%2B%20%25%26%3D=v%2B%25%3D%26%23%3F&=%00%7F&%FF%80=%C3%A9%FF HTTP/1.1` with headers
`Host: a: b` and `X: \n\xff` satisfies the hypotheses (non-trivial path, parameters, headers). -/
example : WellFormedReq [72, 84, 84, 80, 47, 49, 46, 49] [80, 79, 83, 84] [47, 97, 59, 98, 58, 99, 64, 91, 100, 93, 47, 37, 52, 49, 47, 47, 101]
    [([107, 43, 32, 37, 38, 61], [118, 43, 37, 61, 38, 35, 63]), ([], [0, 127]), ([255, 128], [195, 169, 255])]
    [([72, 111, 115, 116], [97, 58, 32, 98]), ([88], [10, 255])] := by
  refine ⟨by decide, by decide, by decide, by decide, by decide, by decide, ⟨by decide, by decide⟩⟩

/-- `http/1.0 0404 \xffO` + `Set-Cookie: a=b` satisfies the response hypotheses. -/
example : WellFormedResp [104, 116, 116, 112, 47, 49, 46, 48] [48, 52, 48, 52] [255, 79]
    [([83, 101, 116, 45, 67, 111, 111, 107, 105, 101], [97, 61, 98])] := by
  refine ⟨by decide, by decide, ⟨by decide, by decide, by decide⟩, by decide, ⟨by decide, by decide⟩⟩

/-- `HTTP/1.1 404 Not Found` has four tokens: rejected. -/
example : (splitWs (firstLine ([72, 84, 84, 80, 47, 49, 46, 49, 32, 52, 48, 52, 32, 78, 111, 116, 32, 70, 111, 117, 110, 100] ++ CRLFCRLF))).length ≠ 3 := by decide

/-- a body containing CRLFCRLF and NULs after the first CRLFCRLF is returned unchanged -/
example : parseRawHttp ([71, 69, 84, 32, 47, 32, 72, 84, 84, 80, 47, 49, 46, 49] ++ CRLFCRLF ++ [0, 13, 10, 13, 10, 0]) =
    .ok (.request [71, 69, 84] [47] [] [] [0, 13, 10, 13, 10, 0]) := by decide +kernel

end C16

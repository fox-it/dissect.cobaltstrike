import CsVerif.Lemmas.C07
/-! C07 property theorems: traffic produced by the beacon client (and a reference team server) is decoded by `C2Http` into
exactly the packets that were sent, for every well-formed HTTP configuration, every history of check-ins, tasks and
(multi-)callbacks and every kind of sufficient key material; messages are routed solely by verb and URI prefix and
unrelated requests are rejected with ValueError, nothing decoded, no primitive called.

Composition: transforms — C04 (`recover_transform_partial`'s lemmas, `model_decodes_ref_server`), packets and framing —
C05 (`encrypt_packet_ok`, `verify_decision`, `client_frames_roundtrip`, `server_frame_roundtrip`), metadata and keys —
C06 (`metadata_roundtrip`, `derive_split`), the wire — C16 (`request_roundtrip`, `response_roundtrip`).

The vocabulary is documented at its definitions: the decoder (`mkDecoder` = `C2Http.__init__`, `iterRecoverHttp` =
`list(iter_recover_http(..))`), the client, the reference team server and the sending side of a session in Model/C07.lean; the
hypotheses (`WellFormedCfg`, `WellFormedClient`, `EventsOk`, `MsgWireOk`, `WireCfg`, `WireClient`), the decoder-state invariant
`Inv` and `expected` / `expectedTrace` in Lemmas/C07.lean.

`session_decodes` is the history theorem on raw bytes (`wireOf` = C16's rendering); `session_decodes_partial` states it for
message objects and `session_decodes_wire` for raw bytes under `MsgWireOk` instead of the configuration-level hypotheses.
NOT proved, only checked by the correspondence on every captured message: that the bytes httpx/h11 really write
(space as `+` in the query, default headers added, method upper-cased) parse back to the request the client built. -/
namespace C07
open C04 (Step Enc Term Field Req Http C2Data Dict)
open C04.Ref (Program valid usesUri built compile normalise serverSteps)

/-! ### the assumptions about the primitives are satisfiable -/

theorem cryptoLaws_satisfiable : ∃ c : Crypto, CryptoLaws c ∧ c.asym.modulusBytes = 128 :=
  ⟨⟨C05.toyCrypto, C06.toyCrypto 128⟩, ⟨C05.toy_laws, C06.toy_laws 128⟩, rfl⟩

/-! ### routing -/

/-- Exact characterisation of `get_transform_for_http`: a response gets the response transform; a request gets the get
transform iff its method is the get verb and its URI starts with ANY of the get URIs; otherwise the submit transform iff its
method is the submit verb and its URI starts with the submit URI; otherwise ValueError.  The get test comes first. -/
theorem routing_decision (cfg : HttpCfg) :
    (∀ hs b, getTransformForHttp cfg (.msg (.response hs b)) = .ok (transformResponse cfg)) ∧
    (∀ r : Req, (r.method = cfg.getVerb ∧ ∃ u ∈ cfg.getUris, u <+: r.uri) →
      getTransformForHttp cfg (.msg (.request r)) = .ok (transformGet cfg)) ∧
    (∀ r : Req, ¬ (r.method = cfg.getVerb ∧ ∃ u ∈ cfg.getUris, u <+: r.uri) →
      (r.method = cfg.submitVerb ∧ cfg.submitUri <+: r.uri) →
      getTransformForHttp cfg (.msg (.request r)) = .ok (transformSubmit cfg)) ∧
    (∀ r : Req, ¬ (r.method = cfg.getVerb ∧ ∃ u ∈ cfg.getUris, u <+: r.uri) →
      ¬ (r.method = cfg.submitVerb ∧ cfg.submitUri <+: r.uri) →
      getTransformForHttp cfg (.msg (.request r)) = .error (.py .valueError)) := by
  refine ⟨fun _ _ => rfl, fun r hg => ?_, fun r hg hs => ?_, fun r hg hs => ?_⟩
  · simp only [getTransformForHttp, parseInput, routeHttp, routeRequest_get hg, transformOf]
  · simp only [getTransformForHttp, parseInput, routeHttp, routeRequest_submit hg hs, transformOf]
  · simp only [getTransformForHttp, parseInput, routeHttp, routeRequest_none hg hs]

/-- "routed solely by verb and URI prefix": two requests with the same method and URI get the same decision, whatever their
parameters, headers and bodies are. -/
theorem routing_ignores_rest (cfg : HttpCfg) (r r' : Req) (hm : r.method = r'.method) (hu : r.uri = r'.uri) :
    getTransformForHttp cfg (.msg (.request r)) = getTransformForHttp cfg (.msg (.request r')) := by
  simp only [getTransformForHttp, parseInput, routeHttp, hm, hu]

/-- A request matching neither route is rejected with ValueError: nothing is yielded, the decoder object (keys, cache) is
unchanged and NO primitive is called — for the parsed object and for any raw bytes that parse to it. -/
theorem unrelated_rejected (c : Crypto) (dec : Decoder) (r : Req)
    (hg : ¬ (r.method = dec.cfg.getVerb ∧ ∃ u ∈ dec.cfg.getUris, u <+: r.uri))
    (hs : ¬ (r.method = dec.cfg.submitVerb ∧ dec.cfg.submitUri <+: r.uri)) :
    iterRecoverHttp c dec (.msg (.request r)) = ⟨[], some (.py .valueError), dec, []⟩ ∧
    ∀ data, C16.parseRawHttp data = .ok (.request r.method r.uri r.params r.headers r.body) →
      iterRecoverHttp c dec (.raw data) = ⟨[], some (.py .valueError), dec, []⟩ := by
  have hrec : recoverStage dec.cfg (.request r) = .error (.py .valueError) := by
    simp only [recoverStage, routeHttp, routeRequest_none hg hs]
  refine ⟨iterRecoverMsg_of_error c dec _ _ hrec, ?_⟩
  intro data hp
  simp only [iterRecoverHttp, parseInput, hp, ofPy, Except.map, msgToHttp]
  exact iterRecoverMsg_of_error c dec _ _ hrec

/-! ### key material -/

/-- `C2Http.__init__` rejects contradictory or missing key material, and trial beacons, with ValueError. -/
theorem constructor_rejects (c : Crypto) (cfg : HttpCfg) (a : KeyArgs) (pubOk trial : Bool) :
    (truthy a.aesRand = true → truthy a.aesKey = true → mkDecoder c cfg a pubOk trial = .error (.py .valueError)) ∧
    (truthy a.aesRand = false → truthy a.aesKey = false → a.priv = none →
      mkDecoder c cfg a pubOk trial = .error (.py .valueError)) ∧
    (trial = true → ∀ d, mkDecoder c cfg a pubOk trial ≠ .ok d) := by
  refine ⟨?_, ?_, fun ht d h => mkDecoder_ok_not_trial h ht⟩
  · intro h1 h2; simp [mkDecoder, h1, h2]
  · intro h1 h2 h3; simp [mkDecoder, h1, h2, h3]

/-- Each kind of sufficient key material — the RSA private key alone, the AES random bytes, the AES + HMAC keys (each of
the latter two with or without the private key) — gives a decoder object that satisfies the session invariant: keys unknown
and cache empty for RSA-only, session keys known otherwise. -/
theorem key_material_sufficient (c : Crypto) (L : CryptoLaws c) (cl : Client) (hlen : cl.metadata.aes_rand.length = 16)
    (verify : Bool) :
    (∃ dec, mkDecoder c cl.cfg { priv := some true, verify := verify } true false = .ok dec ∧
      Inv c cl dec false ∧ dec.hasPriv = true ∧ dec.verify = verify) ∧
    (∀ priv : Bool, ∃ dec,
      mkDecoder c cl.cfg { aesRand := some cl.metadata.aes_rand, priv := if priv then some true else none, verify := verify }
        true false = .ok dec ∧ Inv c cl dec true ∧ dec.hasPriv = priv ∧ dec.verify = verify) ∧
    (∀ priv : Bool, ∃ k hk dec, sessionKeys c cl = ⟨some k, some hk, Gen.C2Struct.defaultAesIv⟩ ∧
      mkDecoder c cl.cfg { aesKey := some k, hmacKey := some hk, priv := if priv then some true else none, verify := verify }
        true false = .ok dec ∧ Inv c cl dec true ∧ dec.hasPriv = priv ∧ dec.verify = verify) :=
  ⟨mkDecoder_rsa c cl verify, fun priv => mkDecoder_rand c L cl hlen verify priv,
    fun priv => mkDecoder_keys c L cl verify priv⟩

/-! ### the wire -/

/-- parse ∘ render is the identity on message objects meeting C16's hypotheses (request: token method not starting with
`HTTP/`, clean absolute path, distinct parameter keys with non-empty values, well-formed headers; response: well-formed
headers): by `C16.request_roundtrip` / `C16.response_roundtrip`. -/
theorem wire_roundtrip (h : Http) (hw : MsgWireOk h) : parseInput (.raw (wireOf h)) = .ok h := parse_wireOf h hw

/-! ### single messages -/

/-- **Check-in.**  The client's `get_task` request, decoded by a decoder in any state of the session invariant, yields
exactly the metadata that was sent when the decoder has the RSA private key (nothing otherwise), ends normally, keeps the
invariant, and the session keys are known afterwards if they were known or the private key is there — for the request
object and, when the request meets C16's hypotheses, for its wire bytes. -/
theorem checkin_decodes (c : Crypto) (L : CryptoLaws c) {cfg : HttpCfg} {pg pp : Program} {es : List Enc}
    (wf : WellFormedCfg cfg pg pp es) (cl : Client) (hcl : cl.cfg = cfg) (wc : WellFormedClient c cl)
    (dec : Decoder) (known : Bool) (inv : Inv c cl dec known) (rr : C06.Rand) (rand : C04.Rand) :
    ∃ r, getTaskRequest c cl rr rand = .ok (r, { cl with metadata := sentMetadata cl }) ∧
      r.method = cfg.getVerb ∧ r.uri = cl.getUri ∧
      ∀ inp, (inp = .msg (.request r) ∨ (MsgWireOk (.request r) ∧ inp = .raw (wireRequest r))) →
        (iterRecoverHttp c dec inp).items = (if dec.hasPriv then [.metadata (sentMetadata cl)] else []) ∧
        (iterRecoverHttp c dec inp).exc = none ∧
        Inv c { cl with metadata := sentMetadata cl } (iterRecoverHttp c dec inp).dec (known || dec.hasPriv) := by
  obtain ⟨r, e1, e2, e3, s1, s2, s3, _, _⟩ := checkin_decoded c L wf cl hcl wc dec known inv rr rand
  refine ⟨r, e1, e2, e3, fun inp hinp => ?_⟩
  rw [iterRecoverHttp_of_input c dec (.request r) inp hinp]
  exact ⟨s1, s2, s3⟩

/-- **Task.**  A response whose body was built by the reference team server (own encryption, the profile's output block with
its real prepend/append strings) decodes — from the object, and from the wire bytes with any well-formed header list — to
exactly the task that was sent when the session keys are known, and to ValueError with nothing yielded when there are no
keys yet; a response without a task yields nothing.  The decoder object is unchanged.  (The plaintext handed to
`TaskPacket(..)` is the task bytes followed by the `'A'` padding of C05: `C05.pad`.) -/
theorem task_decodes (c : Crypto) (L : CryptoLaws c) {cfg : HttpCfg} {pg pp : Program} {es : List Enc}
    (wf : WellFormedCfg cfg pg pp es) (hs : Dict) (cl : Client) (hcl : cl.cfg = cfg) (wc : WellFormedClient c cl)
    (dec : Decoder) (known : Bool) (inv : Inv c cl dec known) (t : Option Task) (rand : C04.Rand)
    (ht : ∀ t', t = some t' → TaskOk t') :
    ∃ body, emit c ⟨cl, es, hs⟩ (.task t rand) =
        .ok (.response hs body, ⟨cl, es, hs⟩, (match t with | none => [] | some t' => [.task t'])) ∧
      ∀ inp, (inp = .msg (.response hs body) ∨ (C16.WellFormedHeaders hs ∧ inp = .raw (wireResponse hs body))) →
        ((iterRecoverHttp c dec inp).items, (iterRecoverHttp c dec inp).exc) =
          (match t with
           | none => ([], none)
           | some t' => if known then ([.task t'], none) else ([], some (.py .valueError))) ∧
        (iterRecoverHttp c dec inp).dec = dec := by
  obtain ⟨body, e1, e2, e3⟩ := emit_task c L wf hs cl hcl wc dec known inv t rand ht
  refine ⟨body, e1, ?_⟩
  intro inp hinp
  rw [iterRecoverHttp_of_input c dec (.response hs body) inp hinp, e2]
  refine ⟨?_, e3⟩
  cases t with
  | none => simp [expected]
  | some t' => cases known <;> simp [expected]

/-- **Callbacks.**  A POST carrying one callback (the library's `send_callback`) or several (a real Beacon) decodes — object
or wire bytes — to exactly the callback packets that were sent, in order, with the counters the client assigned, when the
session keys are known; with no keys it ends with ValueError and nothing is yielded.  The decoder object is unchanged. -/
theorem callback_decodes (c : Crypto) (L : CryptoLaws c) {cfg : HttpCfg} {pg pp : Program} {es : List Enc}
    (wf : WellFormedCfg cfg pg pp es) (cl : Client) (hcl : cl.cfg = cfg) (wc : WellFormedClient c cl)
    (dec : Decoder) (known : Bool) (inv : Inv c cl dec known) (cbs : List (Nat × Bytes)) (rand : C04.Rand)
    (hne : cbs ≠ []) (hc : cl.counter + cbs.length < 2 ^ 32) (hcb : ∀ cb ∈ cbs, cb.1 < 2 ^ 32 ∧ cb.2.length + 64 < 2 ^ 32) :
    ∃ r, callbackRequest c cl cbs rand = .ok (r, { cl with counter := cl.counter + cbs.length }) ∧
      r.method = cfg.submitVerb ∧ r.uri = cfg.submitUri ∧
      ∀ inp, (inp = .msg (.request r) ∨ (MsgWireOk (.request r) ∧ inp = .raw (wireRequest r))) →
        ((iterRecoverHttp c dec inp).items, (iterRecoverHttp c dec inp).exc) =
          (if known then ((callbackPackets cl.counter cbs).map Item.callback, none) else ([], some (.py .valueError))) ∧
        (iterRecoverHttp c dec inp).dec = dec := by
  obtain ⟨r, e1, e2, e3, e4, e5⟩ := callbacks_decoded c L wf cl hcl wc dec known inv cbs rand hc hcb
  refine ⟨r, e1, e2, e3, fun inp hinp => ?_⟩
  rw [iterRecoverHttp_of_input c dec (.request r) inp hinp, e4]
  refine ⟨?_, e5⟩
  have hsent : ((callbackPackets cl.counter cbs).map Item.callback).isEmpty = false := by
    cases cbs with
    | nil => exact absurd rfl hne
    | cons cb rest => obtain ⟨a, b⟩ := cb; rfl
  cases known <;> simp [expected, hsent]

/-- **Evaluation order.**  `keys = keys or self.beacon_keys` is read before the metadata of the message is processed: a
message carrying metadata AND output, seen by a decoder that has only the RSA private key, yields the metadata, derives and
stores the session keys, and still refuses the packets of this very message with ValueError (they decode from the next
message on). -/
theorem keys_read_before_metadata (c : Crypto) (dec : Decoder) (hpriv : dec.hasPriv = true)
    (hk : dec.keys.aesKey = none ∧ dec.keys.hmacKey = none) (hc : dec.cache = []) (http : Http)
    (blob out : Bytes) (id : Option Bytes) (hrec : recoverStage dec.cfg http = .ok ⟨some out, some blob, id⟩)
    (hne : blob ≠ []) (m : C06.Metadata) (hdec : C06.decryptMetadata c.asym blob = .ok m)
    (p : C05.Packet) (ps : List C05.Packet) (hfr : (frames (isRequest http) (some out)).1 = p :: ps) :
    (iterRecoverMsg c dec none http).items = [.metadata m] ∧
    (iterRecoverMsg c dec none http).exc = some (.py .valueError) ∧
    (iterRecoverMsg c dec none http).dec.keys = derivedKeys c m.aes_rand ∧
    (iterRecoverMsg c dec none http).dec.cache = [(blob, m)] := by
  -- with the fields of the decoder object named, the hypotheses fix all of them but `cfg`, `iv`, `verify`, and both stages evaluate
  obtain ⟨cfg, ⟨a, h, iv⟩, hasPriv, verify, cache⟩ := dec
  obtain ⟨rfl, rfl⟩ := hk
  subst hc hpriv
  obtain ⟨d1, d2, _⟩ := decodePackets_nokeys c ⟨none, none, iv⟩ rfl rfl verify (isRequest http) p ps
  simp only [iterRecoverMsg, hrec, metadataStep, truthy_some_ne hne, Bool.and_self, if_true, Option.getD_some,
    Option.getD_none, List.lookup, hdec, truthy_none, Bool.false_eq_true, if_false, hfr, d1, d2, List.append_nil,
    List.nil_append, and_self]

/-! ### whole sessions -/

/-- **History theorem (message objects).**  For every well-formed configuration, every client, every decoder state of the
invariant (`known` = are the session keys in the decoder) and every admissible history of check-ins, tasks and
(multi-)callbacks, the sending side produces its messages and decoding them in order with ONE decoder object yields, message
by message, exactly `expectedTrace`: a check-in yields its metadata iff the private key is there; from the message AFTER the
first check-in seen by a decoder holding the private key — or from the start when AES random bytes or AES+HMAC keys were given —
every task and every callback post yields exactly the packets sent, in order; before that (RSA-only) they end with ValueError
and yield nothing. -/
theorem session_decodes_partial (c : Crypto) (L : CryptoLaws c) {cfg : HttpCfg} {pg pp : Program} {es : List Enc}
    (wf : WellFormedCfg cfg pg pp es) (hs : Dict) (evs : List Event) (cl : Client) (dec : Decoder) (known : Bool)
    (hcl : cl.cfg = cfg) (wc : WellFormedClient c cl) (inv : Inv c cl dec known) (hok : EventsOk cl.counter evs) :
    ∃ msgs, emitAll c ⟨cl, es, hs⟩ evs = .ok msgs ∧
      (decodeAll c dec (msgs.map fun m => Input.msg m.1)).1.map (fun o => (o.items, o.exc)) =
        expectedTrace dec.hasPriv known evs msgs :=
  let ⟨msgs, h1, h2, _⟩ := session_induction c L wf hs evs cl dec known hcl wc inv hok
  ⟨msgs, h1, h2⟩

/-- **History theorem (wire bytes)** for sessions all of whose message objects meet C16's hypotheses: the raw bytes
`wireOf m` decode to the same trace. -/
theorem session_decodes_wire (c : Crypto) (L : CryptoLaws c) {cfg : HttpCfg} {pg pp : Program} {es : List Enc}
    (wf : WellFormedCfg cfg pg pp es) (hs : Dict) (evs : List Event) (cl : Client) (dec : Decoder) (known : Bool)
    (hcl : cl.cfg = cfg) (wc : WellFormedClient c cl) (inv : Inv c cl dec known) (hok : EventsOk cl.counter evs) :
    ∃ msgs, emitAll c ⟨cl, es, hs⟩ evs = .ok msgs ∧
      ((∀ m ∈ msgs, MsgWireOk m.1) →
        (decodeAll c dec (msgs.map fun m => Input.raw (wireOf m.1))).1.map (fun o => (o.items, o.exc)) =
          expectedTrace dec.hasPriv known evs msgs) := by
  obtain ⟨msgs, h1, h2, _⟩ := session_induction c L wf hs evs cl dec known hcl wc inv hok
  exact ⟨msgs, h1, fun hw => by rw [decodeAll_wire c dec msgs Prod.fst hw]; exact h2⟩

/-- Under the configuration-level hypotheses `WireCfg` (token verbs, clean absolute paths, printable placements: static
headers well formed, static parameter values non-empty, header terminations fed by a CR-free encoder chain — see
`cleanOut` —, no uri-append) and CR-free User-Agent / Host values, the requests built by `get_task` and `send_callback`
(or a multi-callback POST) meet C16's round-trip hypotheses. -/
theorem client_requests_wire_ok (c : Crypto) (L : CryptoLaws c) {cfg : HttpCfg} {pg pp : Program} {es : List Enc}
    (wf : WellFormedCfg cfg pg pp es) (wcfg : WireCfg cfg pg pp) (cl : Client) (hcl : cl.cfg = cfg)
    (wc : WellFormedClient c cl) (wcl : WireClient cl) :
    (∀ rr rand r cl', getTaskRequest c cl rr rand = .ok (r, cl') → MsgWireOk (.request r)) ∧
    (∀ cbs rand r cl', cbs ≠ [] → cl.counter + cbs.length < 2 ^ 32 →
      (∀ cb ∈ cbs, cb.1 < 2 ^ 32 ∧ cb.2.length + 64 < 2 ^ 32) →
      callbackRequest c cl cbs rand = .ok (r, cl') → MsgWireOk (.request r)) :=
  ⟨fun rr rand r cl' h => getTaskRequest_wireOk c L wf wcfg cl hcl wc wcl rr rand r cl' h,
   fun cbs rand r cl' hne hc hcb h => callbackRequest_wireOk c L wf wcfg cl hcl wc wcl cbs rand hne hc hcb r cl' h⟩

/-- **History theorem (raw bytes), full strength.**  For every well-formed and wire-safe configuration, every client,
every decoder state of the invariant and every admissible history (callback posts non-empty), the raw HTTP bytes of the
session — requests rendered as `METHOD path?percent-encoded-params HTTP/1.1`, headers, body; responses as
`HTTP/1.1 200 OK`, any well-formed headers, body — decode, in order with ONE decoder object, to exactly `expectedTrace`:
the metadata of every check-in when the RSA private key is there; every task and every callback, in order, from the start
when AES random bytes / AES+HMAC keys were given and from the message after the first check-in when only the RSA key was;
ValueError and nothing before that. -/
theorem session_decodes (c : Crypto) (L : CryptoLaws c) {cfg : HttpCfg} {pg pp : Program} {es : List Enc}
    (wf : WellFormedCfg cfg pg pp es) (wcfg : WireCfg cfg pg pp) (hs : Dict) (hhs : C16.WellFormedHeaders hs)
    (evs : List Event) (cl : Client) (dec : Decoder) (known : Bool)
    (hcl : cl.cfg = cfg) (wc : WellFormedClient c cl) (wcl : WireClient cl) (inv : Inv c cl dec known)
    (hok : EventsOk cl.counter evs) (hne : ∀ cbs rand, Event.callbacks cbs rand ∈ evs → cbs ≠ []) :
    ∃ msgs, emitAll c ⟨cl, es, hs⟩ evs = .ok msgs ∧
      (decodeAll c dec (msgs.map fun m => Input.raw (wireOf m.1))).1.map (fun o => (o.items, o.exc)) =
        expectedTrace dec.hasPriv known evs msgs := by
  obtain ⟨msgs, h1, h2, h3⟩ := session_induction c L wf hs evs cl dec known hcl wc inv hok
  exact ⟨msgs, h1, by rw [decodeAll_wire c dec msgs Prod.fst (h3 wcfg wcl hhs hne)]; exact h2⟩

/-! ### Non-vacuity: a concrete configuration, client, history and toy primitives meeting every hypothesis -/

/-- `http-get.client { header "Accept" "*/*"; metadata { mask; base64url; prepend "S="; header "Cookie"; } }` -/
def exGet : Program :=
  [.deco (.header [65, 99, 99, 101, 112, 116] [42, 47, 42]),
   .block ⟨.metadata, [.mask, .base64url, .prepend (.bytes [83, 61])], .header [67, 111, 111, 107, 105, 101]⟩]

/-- `http-post.client { id { netbios; parameter "id"; } parameter "x" "1"; output { base64; print; } }` -/
def exPost : Program :=
  [.block ⟨.id, [.netbios], .parameter [105, 100]⟩, .deco (.parameter [120] [49]), .block ⟨.output, [.base64], .print⟩]

/-- `http-get.server.output { netbiosu; prepend "<!--"; append "-->"; print; }` -/
def exServer : List Enc := [.netbiosu, .prepend (.bytes [60, 33, 45, 45]), .append (.bytes [45, 45, 62])]

/-- verbs GET / POST, get URIs `/a` and `/a/b.css`, submit URI `/submit.php` -/
def exCfg : HttpCfg :=
  { getVerb := [71, 69, 84], getUris := [[47, 97], [47, 97, 47, 98, 46, 99, 115, 115]], submitVerb := [80, 79, 83, 84],
    submitUri := [47, 115, 117, 98, 109, 105, 116, 46, 112, 104, 112],
    getProg := compile exGet, postProg := compile exPost, recoverProg := serverSteps exServer }

def toyC : Crypto := ⟨C05.toyCrypto, C06.toyCrypto 128⟩

theorem toyC_laws : CryptoLaws toyC := ⟨C05.toy_laws, C06.toy_laws 128⟩

def exClient : Client :=
  { cfg := exCfg, metadata := C06.sampleMetadata, beaconId := 242569266,
    keys := derivedKeys toyC C06.sampleMetadata.aes_rand, getUri := [47, 97, 47, 98, 46, 99, 115, 115],
    userAgent := [77, 111, 122], hostHeader := [99, 50, 46, 101, 120], counter := 1700000000 }

def exEvents : List Event :=
  [.task (some ⟨1, 2, 53, 2, [9, 9]⟩) (fun _ => 0), .callbacks [(31, [1, 2, 3])] (fun _ => 7),
   .checkin [] (fun _ => 0xDEADBEEF), .task (some ⟨5, 0, 6, 0, []⟩) (fun _ => 0), .task none (fun _ => 0),
   .callbacks [(0, [104, 105]), (32, [])] (fun _ => 1)]

example : WellFormedCfg exCfg exGet exPost exServer :=
  ⟨rfl, rfl, rfl, by decide, by decide, by decide, by decide, by decide, by decide, by decide, by decide⟩

example : WireCfg exCfg exGet exPost :=
  ⟨by decide, by decide, by decide, by decide, by decide, by decide⟩

example : WireClient exClient := ⟨by decide, by decide⟩

/-- a header termination fed by `mask` alone is not wire-safe, `mask; base64` is -/
example : cleanOut [.mask] = false ∧ cleanOut [.mask, .base64, .prepend (.bytes [83, 61])] = true ∧
    cleanOut [.base64, .append (.bytes [13])] = false := by decide

theorem exClient_wf : WellFormedClient toyC exClient :=
  ⟨by decide +kernel, by decide, by decide, by decide, by decide, rfl, by decide⟩

theorem exEvents_ok : EventsOk exClient.counter exEvents :=
  ⟨(by decide : TaskOk _), ⟨by decide, by decide⟩, trivial, (by decide : TaskOk _), trivial, ⟨by decide, by decide⟩, trivial⟩

/-- RoutingDisjoint fails when both verbs are equal and a get URI is a prefix of the submit URI -/
example : ¬ RoutingDisjoint { exCfg with submitVerb := [71, 69, 84], submitUri := [47, 97, 47, 115] } := by decide

/-- the RSA-only decoder of the example session: no keys, empty cache -/
example : ∃ dec, mkDecoder toyC exCfg { priv := some true } true false = .ok dec ∧ Inv toyC exClient dec false :=
  let ⟨d, h, i, _⟩ := mkDecoder_rsa toyC exClient true
  ⟨d, h, i⟩

/-- the history theorem applies to the example: tasks and callbacks before the check-in are refused, everything after it
is decoded -/
example : ∃ dec msgs, mkDecoder toyC exCfg { priv := some true } true false = .ok dec ∧
    emitAll toyC ⟨exClient, exServer, []⟩ exEvents = .ok msgs ∧
    (decodeAll toyC dec (msgs.map fun m => Input.msg m.1)).1.map (fun o => (o.items, o.exc)) =
      expectedTrace true false exEvents msgs := by
  obtain ⟨dec, h, inv, hp, _⟩ := mkDecoder_rsa toyC exClient true
  obtain ⟨msgs, h1, h2⟩ := session_decodes_partial toyC toyC_laws
    (⟨rfl, rfl, rfl, by decide, by decide, by decide, by decide, by decide, by decide, by decide, by decide⟩ :
      WellFormedCfg exCfg exGet exPost exServer) [] exEvents exClient dec false rfl exClient_wf inv exEvents_ok
  rw [hp] at h2
  exact ⟨dec, msgs, h, h1, h2⟩

/-- …and computed on the WIRE bytes with the toy primitives (kernel evaluation of the whole chain: client transforms,
rendering, `parse_raw_http`, routing, recover, RSA/AES/HMAC toys, framing, struct parsing): refused, refused, metadata,
one (NOOP) task, nothing, two callbacks. -/
example : (emitAll toyC ⟨exClient, exServer, []⟩ exEvents).map (fun msgs =>
      (decodeAll toyC ⟨exCfg, ⟨none, none, Gen.C2Struct.defaultAesIv⟩, true, true, []⟩
        (msgs.map fun m => Input.raw (wireOf m.1))).1.map (fun o => (o.items.length, o.exc))) =
    .ok [(0, some (.py .valueError)), (0, some (.py .valueError)), (1, none), (1, none), (0, none), (2, none)] := by
  decide +kernel

end C07

import CsVerif.Model.C15
/-! `occ` and `bytes.find`; the block loop of `iter_find_needle` (`Window`, `reported`); the ArtifactKit scanner. -/
namespace C15

theorem sorted_ext : ∀ (l1 l2 : List Nat), l1.Pairwise (· < ·) → l2.Pairwise (· < ·) →
    (∀ x, x ∈ l1 ↔ x ∈ l2) → l1 = l2 :=
  fun _ _ h1 h2 h =>
    List.Perm.eq_of_pairwise (le := (· < ·)) (fun _ _ _ _ hab hba => absurd hab (Nat.lt_asymm hba)) h1 h2
      ((List.perm_ext_iff_of_nodup (h1.imp Nat.ne_of_lt) (h2.imp Nat.ne_of_lt)).2 h)

theorem mem_occ {hay needle : Bytes} {i : Nat} :
    i ∈ occ hay needle ↔ i + needle.length ≤ hay.length ∧ (hay.drop i).take needle.length = needle := by
  unfold occ
  simp only [List.mem_filter, List.mem_range, beq_iff_eq]
  constructor
  · rintro ⟨h1, h2⟩
    refine ⟨?_, h2⟩
    have := congrArg List.length h2
    simp only [List.length_take, List.length_drop] at this
    omega
  · rintro ⟨h1, h2⟩
    exact ⟨by omega, h2⟩

theorem occ_sorted (hay needle : Bytes) : (occ hay needle).Pairwise (· < ·) := by
  unfold occ
  exact List.Pairwise.filter _ List.pairwise_lt_range

theorem occ_lt {hay needle : Bytes} {i : Nat} (h : i ∈ occ hay needle) : i + needle.length ≤ hay.length :=
  (mem_occ.1 h).1

theorem zero_mem_occ {hay needle : Bytes} : 0 ∈ occ hay needle ↔ needle.isPrefixOf hay = true := by
  rw [mem_occ, List.isPrefixOf_iff_prefix, List.prefix_iff_eq_take]
  simp only [Nat.zero_add, List.drop_zero]
  constructor
  · rintro ⟨_, h⟩; exact h.symm
  · intro h
    refine ⟨?_, h.symm⟩
    have := congrArg List.length h
    simp only [List.length_take] at this
    omega

theorem succ_mem_occ {x : UInt8} {t needle : Bytes} {j : Nat} :
    j + 1 ∈ occ (x :: t) needle ↔ j ∈ occ t needle := by
  rw [mem_occ, mem_occ]
  simp only [List.length_cons, List.drop_succ_cons]
  constructor <;> rintro ⟨h1, h2⟩ <;> exact ⟨by omega, h2⟩

theorem findAux_some {needle hay : Bytes} {i r : Nat} (h : findAux needle hay i = some r) :
    ∃ j, r = i + j ∧ j ∈ occ hay needle ∧ ∀ j' ∈ occ hay needle, j ≤ j' := by
  fun_induction findAux needle hay i with
  | case1 hay i hp =>
    injection h with h
    exact ⟨0, by omega, zero_mem_occ.2 hp, fun _ _ => Nat.zero_le _⟩
  | case2 i hp => cases h
  | case3 i x t hp ih =>
    obtain ⟨j, hj, hm, hmin⟩ := ih h
    refine ⟨j + 1, by omega, succ_mem_occ.2 hm, fun j' hj' => ?_⟩
    cases j' with
    | zero => exact absurd (zero_mem_occ.1 hj') hp
    | succ j'' => exact Nat.succ_le_succ (hmin j'' (succ_mem_occ.1 hj'))

theorem findAux_none {needle hay : Bytes} {i : Nat} (h : findAux needle hay i = none) :
    ∀ j, j ∉ occ hay needle := by
  fun_induction findAux needle hay i with
  | case1 hay i hp => cases h
  | case2 i hp =>
    intro j hj
    have h0 := occ_lt hj
    have : j = 0 := by rw [List.length_nil] at h0; omega
    subst this
    exact hp (zero_mem_occ.1 hj)
  | case3 i x t hp ih =>
    intro j hj
    cases j with
    | zero => exact hp (zero_mem_occ.1 hj)
    | succ j' => exact ih h j' (succ_mem_occ.1 hj)

theorem mem_occ_drop {hay needle : Bytes} {s j : Nat} (hs : s ≤ hay.length) :
    j ∈ occ (hay.drop s) needle ↔ s + j ∈ occ hay needle := by
  rw [mem_occ, mem_occ]
  simp only [List.length_drop, List.drop_drop]
  constructor <;> rintro ⟨h1, h2⟩ <;> exact ⟨by omega, h2⟩

theorem bytesFind?_some {hay needle : Bytes} {s r : Nat} (h : bytesFind? hay needle s = some r) :
    r ∈ occ hay needle ∧ s ≤ r ∧ ∀ j ∈ occ hay needle, s ≤ j → r ≤ j := by
  unfold bytesFind? at h
  split at h
  · simp at h
  · rename_i hs
    obtain ⟨j, rfl, hm, hmin⟩ := findAux_some h
    have hs' : s ≤ hay.length := by omega
    refine ⟨(mem_occ_drop hs').1 hm, by omega, ?_⟩
    intro j' hj' hsj
    have : j' = s + (j' - s) := by omega
    rw [this] at hj'
    have := hmin _ ((mem_occ_drop hs').2 hj')
    omega

theorem bytesFind?_none {hay needle : Bytes} {s : Nat} (h : bytesFind? hay needle s = none) :
    ∀ j ∈ occ hay needle, j < s := by
  intro j hj
  unfold bytesFind? at h
  split at h
  · have := (mem_occ.1 hj).1; omega
  · rename_i hs
    have hs' : s ≤ hay.length := by omega
    apply Classical.byContradiction
    intro hlt
    have : j = s + (j - s) := by omega
    rw [this] at hj
    exact findAux_none h _ ((mem_occ_drop hs').2 hj)

theorem findLoop_eq (d needle : Bytes) (maxOff pos sl start : Nat) :
    findLoop d needle maxOff pos sl start
      = ((occ d needle).filter (fun p => start ≤ p ∧ (maxOff = 0 ∨ p ≤ maxOff))).map
          (fun (p : Nat) => (pos : Int) + (p : Int) - (sl : Int)) := by
  fun_induction findLoop d needle maxOff pos sl start with
  | case1 start h =>
    have hn := bytesFind?_none h
    have : (occ d needle).filter (fun p => start ≤ p ∧ (maxOff = 0 ∨ p ≤ maxOff)) = [] := by
      rw [List.filter_eq_nil_iff]
      intro p hp
      have := hn p hp
      simp only [decide_eq_true_eq]; omega
    rw [this]; rfl
  | case2 start p h hcut =>
    obtain ⟨hm, hsp, hmin⟩ := bytesFind?_some h
    have : (occ d needle).filter (fun p => start ≤ p ∧ (maxOff = 0 ∨ p ≤ maxOff)) = [] := by
      rw [List.filter_eq_nil_iff]
      intro j hj
      simp only [decide_eq_true_eq]
      intro hc
      have := hmin j hj hc.1
      omega
    rw [this]; rfl
  | case3 start p h hcut ih =>
    obtain ⟨hm, hsp, hmin⟩ := bytesFind?_some h
    rw [ih]
    have : (occ d needle).filter (fun q => start ≤ q ∧ (maxOff = 0 ∨ q ≤ maxOff))
        = p :: (occ d needle).filter (fun q => p + 1 ≤ q ∧ (maxOff = 0 ∨ q ≤ maxOff)) := by
      apply sorted_ext
      · exact List.Pairwise.filter _ (occ_sorted _ _)
      · rw [List.pairwise_cons]
        refine ⟨?_, List.Pairwise.filter _ (occ_sorted _ _)⟩
        intro q hq
        simp only [List.mem_filter, decide_eq_true_eq] at hq
        omega
      · intro x
        simp only [List.mem_cons, List.mem_filter, decide_eq_true_eq]
        constructor
        · rintro ⟨hx, hsx, hl⟩
          have := hmin x hx hsx
          by_cases hxp : x = p
          · exact Or.inl hxp
          · exact Or.inr ⟨hx, by omega, hl⟩
        · rintro (rfl | ⟨hx, hpx, hl⟩)
          · exact ⟨hm, hsp, by omega⟩
          · exact ⟨hx, by omega, hl⟩
    rw [this]; rfl

theorem mem_occ_append {d rest needle : Bytes} {p : Nat} (h : p + needle.length ≤ d.length) :
    p ∈ occ (d ++ rest) needle ↔ p ∈ occ d needle := by
  rw [mem_occ, mem_occ]
  have h1 : (d ++ rest).drop p = d.drop p ++ rest := List.drop_append_of_le_length (by omega)
  have h2 : ((d.drop p) ++ rest).take needle.length = (d.drop p).take needle.length :=
    List.take_append_of_le_length (by simp only [List.length_drop]; omega)
  rw [h1, h2]
  simp only [List.length_append]
  constructor <;> rintro ⟨_, h4⟩ <;> exact ⟨by omega, h4⟩

theorem mem_occ_window {hay d rest needle : Bytes} {a p : Nat} (ha : a ≤ hay.length)
    (hw : hay.drop a = d ++ rest) :
    p ∈ occ d needle ↔ a + p ∈ occ hay needle ∧ p + needle.length ≤ d.length := by
  constructor
  · intro hp
    have hb := (mem_occ.1 hp).1
    refine ⟨?_, hb⟩
    rw [← mem_occ_drop ha, hw, mem_occ_append hb]; exact hp
  · rintro ⟨h1, h2⟩
    rw [← mem_occ_drop ha, hw, mem_occ_append h2] at h1; exact h1

theorem nextSaved_eq (needle d : Bytes) : nextSaved needle d = d.drop (d.length - (needle.length - 1)) := by
  unfold nextSaved overlapLen
  split
  · rename_i h
    unfold pySliceFrom
    have : ¬ (-((needle.length : Int) - 1) ≥ 0) := by omega
    simp only [this, ↓reduceIte]
    congr 2
    omega
  · rename_i h
    have : needle.length - 1 = 0 := by omega
    rw [this]; simp

/-! ### the block loop of `iter_find_needle` -/

/-- `saved` is the stretch of `hay` from `a` up to `pos`: the search buffer `saved + block` of the next block begins at `a`. -/
structure Window (hay : Bytes) (a pos : Nat) (saved : Bytes) : Prop where
  len : a + saved.length = pos
  split : hay.drop a = saved ++ hay.drop pos

theorem Window.nil (hay : Bytes) (pos : Nat) : Window hay pos pos [] := ⟨rfl, rfl⟩

theorem Window.read {hay saved : Bytes} {a pos : Nat} (w : Window hay a pos saved) (B : Nat) :
    Window hay a (pos + ((hay.drop pos).take B).length) (saved ++ (hay.drop pos).take B) := by
  refine ⟨by rw [List.length_append, ← Nat.add_assoc, w.len], ?_⟩
  rw [w.split, List.append_assoc, ← List.drop_drop,
    List.prefix_iff_eq_append.1 (List.take_prefix B (hay.drop pos))]

theorem Window.drop {hay d : Bytes} {a pos k : Nat} (w : Window hay a pos d) (hk : k ≤ d.length) :
    Window hay (a + k) pos (d.drop k) := by
  refine ⟨?_, by rw [← List.drop_drop, w.split, List.drop_append_of_le_length hk]⟩
  have := w.len
  rw [List.length_drop]; omega

theorem occ_from_eq_nil {hay saved needle : Bytes} {a pos : Nat} (w : Window hay a pos saved)
    (hs : saved.length < needle.length) (hend : hay.length ≤ pos) :
    (occ hay needle).filter (fun i => a ≤ i) = [] := by
  rw [List.filter_eq_nil_iff]
  intro i hi
  have h1 := occ_lt hi
  have h2 := w.len
  simp only [decide_eq_true_eq]
  omega

theorem occ_split {hay d rest needle : Bytes} {a : Nat} (hn : 0 < needle.length) (ha : a ≤ hay.length)
    (hw : hay.drop a = d ++ rest) :
    (occ d needle).map (fun p => a + p)
        ++ (occ hay needle).filter (fun i => a + (d.length - (needle.length - 1)) ≤ i)
      = (occ hay needle).filter (fun i => a ≤ i) := by
  apply sorted_ext
  · rw [List.pairwise_append]
    refine ⟨?_, List.Pairwise.filter _ (occ_sorted _ _), ?_⟩
    · rw [List.pairwise_map]
      exact (occ_sorted d needle).imp (by intro x y hxy; omega)
    · intro x hx y hy
      simp only [List.mem_map] at hx
      obtain ⟨p, hp, rfl⟩ := hx
      simp only [List.mem_filter, decide_eq_true_eq] at hy
      have := occ_lt hp
      omega
  · exact List.Pairwise.filter _ (occ_sorted _ _)
  · intro x
    simp only [List.mem_append, List.mem_map, List.mem_filter, decide_eq_true_eq]
    constructor
    · rintro (⟨p, hp, rfl⟩ | ⟨hx, hkx⟩)
      · exact ⟨((mem_occ_window ha hw).1 hp).1, Nat.le_add_right a p⟩
      · exact ⟨hx, Nat.le_trans (Nat.le_add_right a _) hkx⟩
    · rintro ⟨hx, hax⟩
      by_cases hc : x + needle.length ≤ a + d.length
      · left
        refine ⟨x - a, ?_, Nat.add_sub_cancel' hax⟩
        apply (mem_occ_window ha hw).2
        rw [Nat.add_sub_cancel' hax]
        exact ⟨hx, by omega⟩
      · right
        exact ⟨hx, by omega⟩

theorem occ_from_ascending (hay needle : Bytes) (s0 : Nat) :
    (((occ hay needle).filter (fun i => s0 ≤ i)).map Int.ofNat).Pairwise (· < ·) := by
  rw [List.pairwise_map]
  exact (List.Pairwise.filter _ (occ_sorted hay needle)).imp (fun h => Int.ofNat_lt.2 h)

/-! ### what the loop reports (with or without a limit)

The code tests `max_offset` twice, against two different quantities:
* `pos > max_offset` before a block is read — `pos` is the FILE offset of the block start;
* `p > max_offset` for a hit — `p` is the index in the search buffer `saved + block`, NOT a file offset.
So what is reported depends on how the file is cut into blocks, i.e. on `B = io.DEFAULT_BUFFER_SIZE` and on the start. -/

/-- index (counted from the start position `s0`) of the block whose search buffer shows the occurrence at `o`:
the block that holds its LAST byte (`n = |needle|`) -/
def blockOf (B n s0 o : Nat) : Nat := (o + n - 1 - s0) / B

/-- file offset of the first byte of the search buffer `saved + block` of block `j`
(`saved` = the last `min (n-1) (j*B)` bytes in front of the block) -/
def bufStart (B n s0 j : Nat) : Nat := s0 + (j * B - (n - 1))

/-- is the occurrence at file offset `o` (`o ≥ s0`) reported under `max_offset = m`? -/
def limitKeeps (B n s0 m o : Nat) : Bool :=
  decide (s0 + blockOf B n s0 o * B ≤ m)                               -- its block is read: the block START is `≤ max_offset`
    && decide (o - bufStart B n s0 (blockOf B n s0 o) ≤ m)             -- its index in `saved + block` is `≤ max_offset`

/-- start of the block that holds the last byte of the occurrence at `o`, counted from the current position `pos`: the form of
`blockOf`/`limitKeeps` that an induction over the loop can carry (`limitKeeps_eq_reported` joins the two at `pos = s0`). -/
def blockStart (B n pos o : Nat) : Nat := pos + (o + n - 1 - pos) / B * B

theorem blockStart_cur {B n pos o : Nat} (h : o + n - 1 - pos < B) : blockStart B n pos o = pos := by
  unfold blockStart
  rw [Nat.div_eq_of_lt h, Nat.zero_mul, Nat.add_zero]

theorem blockStart_next {B n pos o : Nat} (hB : 0 < B) (h : pos + B ≤ o + n - 1) :
    blockStart B n (pos + B) o = blockStart B n pos o := by
  unfold blockStart
  have e : o + n - 1 - pos = (o + n - 1 - (pos + B)) + B := by omega
  rw [e, Nat.add_div_right _ hB, Nat.add_mul, Nat.one_mul, Nat.add_assoc, Nat.add_comm B]

/-- `m = 0`: no limit.  In the block that starts at `P` the search buffer begins at `max s0 (P - (n - 1))`. -/
def reported (B n s0 m pos o : Nat) : Bool :=
  m == 0 || (decide (blockStart B n pos o ≤ m) && decide (o - max s0 (blockStart B n pos o - (n - 1)) ≤ m))

theorem reported_nolimit (B n s0 pos : Nat) : reported B n s0 0 pos = fun _ => true := rfl

theorem reported_next {B n s0 m pos o : Nat} (hB : 0 < B) (h : pos + B ≤ o + n - 1) :
    reported B n s0 m (pos + B) o = reported B n s0 m pos o := by
  unfold reported
  rw [blockStart_next hB h]

theorem reported_cur {B n s0 m pos o a : Nat} (h : o + n - 1 - pos < B) (hcut : ¬(m ≠ 0 ∧ pos > m))
    (ha : a = max s0 (pos - (n - 1))) :
    reported B n s0 m pos o = decide (m = 0 ∨ o - a ≤ m) := by
  unfold reported
  rw [blockStart_cur h, ← ha]
  by_cases h0 : m = 0
  · subst h0
    simp only [true_or, decide_true]
    rfl
  · have hp : pos ≤ m := by omega
    rw [beq_eq_false_iff_ne.2 h0, decide_eq_true hp]
    simp only [h0, false_or, Bool.false_or, Bool.true_and]

theorem reported_past {B n s0 m pos o : Nat} (hcut : m ≠ 0 ∧ pos > m) : reported B n s0 m pos o = false := by
  have h0 : (m == 0) = false := beq_eq_false_iff_ne.2 hcut.1
  have h1 : ¬ blockStart B n pos o ≤ m := by
    have := Nat.le_add_right pos ((o + n - 1 - pos) / B * B)
    unfold blockStart
    omega
  unfold reported
  rw [h0, decide_eq_false h1]
  rfl

theorem limitKeeps_eq_reported (B n s0 m o : Nat) (hm : 0 < m) : limitKeeps B n s0 m o = reported B n s0 m s0 o := by
  unfold limitKeeps reported blockOf bufStart blockStart
  generalize (o + n - 1 - s0) / B * B = t
  generalize n - 1 = c
  have e : s0 + (t - c) = max s0 (s0 + t - c) := by omega
  rw [e, beq_eq_false_iff_ne.2 (Nat.ne_of_gt hm), Bool.false_or]

theorem findLoop_block {B : Nat} (d needle : Bytes) {m s0 pos sl a : Nat} (hB : 0 < B)
    (hal : a + sl = pos) (hd : d.length ≤ sl + B) :
    ¬(m ≠ 0 ∧ pos > m) → a = max s0 (pos - (needle.length - 1)) →
    findLoop d needle m pos sl 0
      = (((occ d needle).map (fun p => a + p)).filter (reported B needle.length s0 m pos)).map Int.ofNat := by
  have hcur : ∀ p ∈ occ d needle, a + p + needle.length - 1 - pos < B := fun p hp => by
    have := occ_lt hp
    omega
  have hoff : ∀ p : Nat, (pos : Int) + (p : Int) - (sl : Int) = ((a + p : Nat) : Int) := fun p => by omega
  intro hcut ha
  rw [findLoop_eq, List.filter_map, List.map_map]
  have hf : (occ d needle).filter (fun p => 0 ≤ p ∧ (m = 0 ∨ p ≤ m))
      = (occ d needle).filter (reported B needle.length s0 m pos ∘ fun p => a + p) := by
    apply List.filter_congr
    intro p hp
    simp only [Function.comp]
    rw [reported_cur (hcur p hp) hcut ha, Nat.add_sub_cancel_left]
    simp only [Nat.zero_le, true_and]
  rw [hf]
  exact List.map_congr_left fun p _ => hoff p

/-- `c = n - 1`, `sl = |saved|`, `bl = |block|`, `dl = |saved + block|` -/
theorem winStart_step {s0 c pos a sl bl dl : Nat} (ha : a = max s0 (pos - c)) (hal : a + sl = pos)
    (hdl : dl = sl + bl) : a + (dl - c) = max s0 (pos + bl - c) := by
  omega

theorem later_block {B n L pos bl a dl o : Nat} (hn : 0 < n) (hbB : bl ≤ B) (hshort : bl < B → L ≤ pos + bl)
    (hd : a + dl = pos + bl) (ho : a + (dl - (n - 1)) ≤ o) (hoL : o + n ≤ L) : bl = B ∧ pos + B ≤ o + n - 1 := by
  omega

/-- The invariant is `a = max s0 (pos - (n - 1))`: where the search buffer begins is fixed by the position alone.  In case 3 the
hits of the block just read are those with `reported` evaluated at the current block (`reported_cur`); for every later
occurrence `reported` does not change when `pos` advances by a full block (`reported_next`). -/
theorem needleLoop_fst (B : Nat) (hB : 1 ≤ B) (needle : Bytes) (hn : needle ≠ []) (m s0 : Nat)
    (f : PyFile) (saved : Bytes) :
    ∀ (a : Nat), Window f.data a f.pos saved → a = max s0 (f.pos - (needle.length - 1)) →
      (needleLoop B needle m f saved).1
        = (((occ f.data needle).filter (fun i => a ≤ i)).filter
            (reported B needle.length s0 m f.pos)).map Int.ofNat := by
  have hn' : 0 < needle.length := List.length_pos_iff.mpr hn
  fun_induction needleLoop B needle m f saved with
  | case1 f saved pos hcut =>
    intro a _ _
    have : ((occ f.data needle).filter (fun i => a ≤ i)).filter (reported B needle.length s0 m f.pos) = [] :=
      List.filter_eq_nil_iff.2 fun o _ => by rw [reported_past (pos := f.pos) hcut]; exact Bool.false_ne_true
    rw [this]; rfl
  | case2 f saved pos hcut hblk =>
    intro a w ha
    have hs : saved.length < needle.length := by have := w.len; omega
    rw [occ_from_eq_nil w hs (PyFile.read_empty f B hB hblk)]; rfl
  | case3 f saved pos hcut hblk block d offs rest ih =>
    intro a w ha
    have hpos := PyFile.read_nonempty f B hblk
    have hbB : block.length ≤ B := PyFile.read_length_le f B
    have hdl : d.length = saved.length + block.length := List.length_append
    have wd : Window f.data a (f.pos + block.length) d := by
      rw [show block = _ from PyFile.read_nonneg f B]; exact w.read B
    have w' := wd.drop (Nat.sub_le d.length (needle.length - 1))
    rw [← nextSaved_eq] at w'
    have hrest : rest.1 = _ := ih _ w' (winStart_step ha w.len hdl)
    have hoffs : offs = _ := findLoop_block d needle hB w.len
      (hdl ▸ Nat.add_le_add_left hbB _) hcut ha
    show offs ++ rest.1 = _
    rw [hrest, hoffs, ← occ_split hn' (Nat.le_trans (Nat.le.intro w.len) (Nat.le_of_lt hpos)) wd.split,
      List.filter_append, List.map_append]
    congr 2
    apply List.filter_congr
    intro o ho
    obtain ⟨hfull, hnext⟩ := later_block hn' hbB (PyFile.read_short f B) wd.len (of_decide_eq_true (List.mem_filter.1 ho).2)
      (occ_lt (List.mem_filter.1 ho).1)
    show reported B needle.length s0 m (f.pos + block.length) o = _
    rw [hfull, reported_next hB hnext]

/-- where the loop leaves the file position under a limit `m > 0` (`L` = file size, `pos` = position it starts from):
blocks are read while their start is `≤ m` and `< L`; the last block read may end beyond `m` -/
def limitEnd (B m L pos : Nat) : Nat :=
  if pos > m ∨ pos ≥ L then pos else min L (pos + ((m - pos) / B + 1) * B)

theorem limitEnd_stop {B m L pos : Nat} (h : pos > m ∨ pos ≥ L) : limitEnd B m L pos = pos := if_pos h

theorem limitEnd_eq {B m L pos : Nat} (hpm : pos ≤ m) (hpL : pos < L) :
    limitEnd B m L pos = min L (blockStart B 1 pos m + B) := by
  unfold limitEnd blockStart
  rw [if_neg (c := pos > m ∨ pos ≥ L) (by omega), Nat.add_sub_cancel, Nat.add_mul, Nat.one_mul, Nat.add_assoc]

theorem limitEnd_step {B m L pos : Nat} (hB : 0 < B) (hpm : pos ≤ m) (hpL : pos < L) :
    limitEnd B m L (pos + min B (L - pos)) = limitEnd B m L pos := by
  rw [limitEnd_eq hpm hpL]
  have hle : pos ≤ blockStart B 1 pos m := Nat.le_add_right _ _
  by_cases hshort : L - pos ≤ B
  · rw [Nat.min_eq_right hshort, Nat.add_sub_cancel' (Nat.le_of_lt hpL), limitEnd_stop (Or.inr (Nat.le_refl L)),
      Nat.min_eq_left (by omega)]
  · rw [Nat.min_eq_left (by omega)]
    by_cases hm : pos + B ≤ m
    · rw [limitEnd_eq hm (by omega), blockStart_next hB (by omega)]
    · rw [limitEnd_stop (Or.inl (by omega)), blockStart_cur (by omega), Nat.min_eq_right (by omega)]

theorem needleLoop_snd (B : Nat) (hB : 1 ≤ B) (needle : Bytes) (m : Nat) (f : PyFile) (saved : Bytes) :
    (needleLoop B needle m f saved).2
      = { f with pos := if m = 0 then max f.pos f.data.length else limitEnd B m f.data.length f.pos } := by
  fun_induction needleLoop B needle m f saved with
  | case1 f saved pos hcut =>
    rw [if_neg hcut.1, limitEnd_stop (pos := f.pos) (Or.inl hcut.2)]
  | case2 f saved pos hcut hblk =>
    have hlen := PyFile.read_empty f B hB hblk
    rw [limitEnd_stop (Or.inr hlen), Nat.max_eq_left hlen, ite_self, PyFile.read_snd, hblk]
    rfl
  | case3 f saved pos hcut hblk block d offs rest ih =>
    have hp : pos = f.pos := rfl
    have hpos := PyFile.read_nonempty f B hblk
    have hbl : block.length = min B (f.data.length - f.pos) := PyFile.read_length f B
    show rest.2 = _
    rw [ih]
    show ({ f with pos := if m = 0 then max (f.pos + block.length) f.data.length
                          else limitEnd B m f.data.length (f.pos + block.length) } : PyFile) = _
    by_cases h0 : m = 0
    · rw [if_pos h0, if_pos h0, Nat.max_eq_right (by omega), Nat.max_eq_right (Nat.le_of_lt hpos)]
    · rw [if_neg h0, if_neg h0, hbl, limitEnd_step hB (by omega) hpos]

theorem needleLoop_scan (B : Nat) (hB : 1 ≤ B) (needle : Bytes) (hn : needle ≠ []) (m : Nat) (f : PyFile) :
    needleLoop B needle m f []
      = ((((occ f.data needle).filter (fun i => f.pos ≤ i)).filter
            (reported B needle.length f.pos m f.pos)).map Int.ofNat,
         { f with pos := if m = 0 then max f.pos f.data.length else limitEnd B m f.data.length f.pos }) :=
  Prod.ext (needleLoop_fst B hB needle hn m f.pos f [] f.pos (Window.nil _ _) (by omega))
    (needleLoop_snd B hB needle m f [])

theorem needleLoop_start (B : Nat) (hB : 1 ≤ B) (needle : Bytes) (hn : needle ≠ []) (f : PyFile) :
    needleLoop B needle 0 f []
      = (((occ f.data needle).filter (fun i => f.pos ≤ i)).map Int.ofNat, { f with pos := max f.pos f.data.length }) := by
  rw [needleLoop_scan B hB needle hn 0 f, reported_nolimit, List.filter_eq_self.2 fun _ _ => rfl]
  rfl

theorem reported_before {B n s0 m o : Nat} (hn : 0 < n) (hs : s0 ≤ o) (hlim : o + n ≤ m) :
    reported B n s0 m s0 o = true := by
  unfold reported blockStart
  have := Nat.div_mul_le_self (o + n - 1 - s0) B
  simp only [Bool.or_eq_true, Bool.and_eq_true, decide_eq_true_eq]
  right
  omega

theorem needleLoop_frame (B : Nat) (needle : Bytes) (m : Nat) (f : PyFile) (saved : Bytes) :
    (needleLoop B needle m f saved).2.data = f.data ∧ (needleLoop B needle m f saved).2.kind = f.kind := by
  fun_induction needleLoop B needle m f saved with
  | case1 f saved pos hcut => exact ⟨rfl, rfl⟩
  | case2 f saved pos hcut hblk => exact ⟨rfl, rfl⟩
  | case3 f saved pos hcut hblk block d offs rest ih => exact ih

theorem limitKeeps_le {B n s0 m o : Nat} (h : limitKeeps B n s0 m o = true) : o ≤ 2 * m := by
  unfold limitKeeps bufStart at h
  simp only [Bool.and_eq_true, decide_eq_true_eq] at h
  generalize blockOf B n s0 o * B = t at h
  omega

/-- everything reported lies in the first block, where buffer index and file offset coincide -/
theorem limitKeeps_buffer (B n m o : Nat) (hn : 0 < n) (hB : m + n ≤ B) :
    limitKeeps B n 0 m o = decide (o ≤ m) := by
  unfold limitKeeps blockOf bufStart
  simp only [Nat.sub_zero, Nat.zero_add]
  by_cases h : o + n - 1 < B
  · simp only [Nat.div_eq_of_lt h, Nat.zero_mul, Nat.zero_sub, Nat.sub_zero, Nat.zero_le, decide_true, Bool.true_and]
  · have h1 : 1 ≤ (o + n - 1) / B := Nat.div_pos (by omega) (by omega)
    have h2 : B ≤ (o + n - 1) / B * B := Nat.le_mul_of_pos_left B h1
    rw [decide_eq_false (by omega), decide_eq_false (by omega : ¬ o ≤ m), Bool.false_and]

theorem iterFindNeedle_eq {B : Nat} {f : PyFile} {needle : Bytes} {start : Option Int} (m : Nat)
    (hs : ∀ s, start = some s → 0 ≤ s) :
    iterFindNeedle B f needle start m = .ok (needleLoop B needle m { f with pos := startPos f start } []) := by
  unfold iterFindNeedle
  cases start with
  | none => rfl
  | some s =>
    obtain ⟨n, rfl⟩ : ∃ n : Nat, s = n := ⟨s.toNat, by have := hs s rfl; omega⟩
    simp only [PyFile.seekSet_ok, startPos, Int.toNat_natCast]

theorem iterFindNeedle_ok {B : Nat} {f : PyFile} {needle : Bytes} {start : Option Int} {m : Nat}
    {r : List Int} {f' : PyFile} (h : iterFindNeedle B f needle start m = .ok (r, f')) :
    needleLoop B needle m { f with pos := startPos f start } [] = (r, f') := by
  have hs : ∀ s, start = some s → 0 ≤ s := by
    intro s e
    subst e
    by_cases hneg : s < 0
    · simp [iterFindNeedle, PyFile.seekSet, hneg] at h
    · omega
  rw [iterFindNeedle_eq m hs] at h
  injection h

/-! ### ArtifactKit scanner -/

/-- `unpack(d, size=4)`, unsigned little-endian, reads at most four bytes: it is `fromLE (d.take 4)` -/
theorem u32_eq (d : Bytes) : u32 d = (u32le d : Int) := by
  simp [u32, u32le, C20.unpack, C20.fromBytes, C20.fromBytesU, pySliceTo]

theorem u32_take (d : Bytes) : u32 (d.take 4) = (u32le d : Int) := by
  rw [u32_eq, u32le, u32le, List.take_take, Nat.min_self]

/-- the file holds `hay` and its position is equivalent to `q` (`hay[pos:] = hay[q:]`;
all positions past the end are equivalent). -/
def FileAt (f : PyFile) (hay : Bytes) (q : Nat) : Prop := f.data = hay ∧ hay.drop f.pos = hay.drop q

theorem read_at {f : PyFile} {hay : Bytes} {q : Nat} (n : Nat) (h : FileAt f hay q) :
    (f.read (n : Int)).1 = (hay.drop q).take n ∧ FileAt (f.read (n : Int)).2 hay (q + n) := by
  obtain ⟨hd, hp⟩ := h
  subst hd
  have h1 := PyFile.read_nonneg f n
  refine ⟨by rw [h1, hp], rfl, ?_⟩
  simp only [PyFile.read_pos]
  rw [h1, ← List.drop_drop, ← List.drop_drop, hp]
  simp only [List.length_take, List.length_drop]
  by_cases hc : n ≤ f.data.length - q
  · rw [Nat.min_eq_left hc]
  · rw [Nat.min_eq_right (by omega)]
    rw [List.drop_eq_nil_of_le (by simp), List.drop_eq_nil_of_le (by simp; omega)]

theorem readHit_spec {f : PyFile} {hay : Bytes} (pos : Nat) (h : FileAt f hay (pos + 4)) :
    (readHit f pos).1 = hitAt hay pos ∧ (readHit f pos).2.data = hay := by
  obtain ⟨a1, f1⟩ := read_at 4 h
  obtain ⟨a2, f2⟩ := read_at 4 f1
  obtain ⟨a3, f3⟩ := read_at 8 f2
  obtain ⟨a4, f4⟩ := read_at (u32le (hay.drop (pos + 4))) f3
  have hsz : u32 (f.read 4).1 = ((u32le (hay.drop (pos + 4)) : Nat) : Int) := by
    rw [show (f.read 4).1 = (hay.drop (pos + 4)).take 4 from a1, u32_take]
  have e2 : ((f.read 4).2.read 4).1 = (hay.drop (pos + 8)).take 4 := a2
  have e3 : (((f.read 4).2.read 4).2.read 8).1 = (hay.drop (pos + 12)).take 8 := a3
  have e4 : ((((f.read 4).2.read 4).2.read 8).2.read ((u32le (hay.drop (pos + 4)) : Nat) : Int)).1
      = (hay.drop (pos + 20)).take (u32le (hay.drop (pos + 4))) := a4
  unfold readHit hitAt
  simp only [hsz, Int.toNat_natCast, e2, e3, e4]
  exact ⟨trivial, f4.1⟩

/-- `none` = the loop ends -/
def stepResult (hay : Bytes) (pos : Nat) : Option (List Hit) :=
  if pos + 4 ≤ hay.length then
    some (if u32le (hay.drop pos) = pos + 16 then [hitAt hay pos] else [])
  else none

theorem artStep_spec (f : PyFile) (pos : Nat) :
    ∃ f', artStep f pos = .ok (stepResult f.data pos, f') ∧ f'.data = f.data := by
  have h := read_at 4 (⟨rfl, rfl⟩ : FileAt { f with pos := pos } f.data pos)
  have e1 : (({ f with pos := pos } : PyFile).read 4).1 = (f.data.drop pos).take 4 := h.1
  have f1 : FileAt (({ f with pos := pos } : PyFile).read 4).2 f.data (pos + 4) := h.2
  have hlen : (({ f with pos := pos } : PyFile).read 4).1.length ≠ 4 ↔ ¬ pos + 4 ≤ f.data.length := by
    rw [e1, List.length_take, List.length_drop]; omega
  have hu : (pos : Int) + 16 = u32 (({ f with pos := pos } : PyFile).read 4).1 ↔ u32le (f.data.drop pos) = pos + 16 := by
    rw [e1, u32_take]; omega
  unfold artStep stepResult
  rw [PyFile.seekSet_ok f pos]
  dsimp only
  by_cases h4 : pos + 4 ≤ f.data.length
  · rw [if_neg (mt hlen.1 (not_not_intro h4)), if_pos h4]
    by_cases hc : u32le (f.data.drop pos) = pos + 16
    · obtain ⟨g1, g2⟩ := readHit_spec pos f1
      rw [if_pos (hu.2 hc), if_pos hc, g1]
      exact ⟨_, rfl, g2⟩
    · rw [if_neg (mt hu.1 hc), if_neg hc]
      exact ⟨_, rfl, f1.1⟩
  · rw [if_pos (hlen.2 h4), if_neg h4]
    exact ⟨_, rfl, f1.1⟩

theorem mem_artifactOffsets {hay : Bytes} {s : Nat} {mr : Option Nat} {x : Nat} :
    x ∈ artifactOffsets hay s mr ↔
      x + 4 ≤ hay.length ∧ s ≤ x ∧ pastRange mr x = false ∧ u32le (hay.drop x) = x + 16 := by
  have hr : (match mr with | some m => decide (x ≤ m) | none => true) = true ↔ pastRange mr x = false := by
    cases mr with
    | none => exact ⟨fun _ => rfl, fun _ => rfl⟩
    | some m => simp only [pastRange, decide_eq_true_eq, decide_eq_false_iff_not, Nat.not_lt]
  simp only [artifactOffsets, List.mem_filter, List.mem_range, Bool.and_eq_true, decide_eq_true_eq]
  constructor
  · rintro ⟨h1, ⟨h2, h3⟩, h4⟩; exact ⟨by omega, h2, hr.1 h3, h4⟩
  · rintro ⟨h1, h2, h3, h4⟩; exact ⟨by omega, ⟨h2, hr.2 h3⟩, h4⟩

theorem artifactOffsets_sorted (hay : Bytes) (s : Nat) (mr : Option Nat) :
    (artifactOffsets hay s mr).Pairwise (· < ·) := by
  unfold artifactOffsets
  exact List.Pairwise.filter _ List.pairwise_lt_range

theorem artifactHits_offsets (hay : Bytes) (s : Nat) (mr : Option Nat) :
    (artifactHits hay s mr).map (·.offset) = artifactOffsets hay s mr := by
  unfold artifactHits
  rw [List.map_map]
  exact List.map_id'' (fun _ => rfl) _

theorem pastRange_mono {mr : Option Nat} {p q : Nat} (h : pastRange mr p = true) (hpq : p ≤ q) :
    pastRange mr q = true := by
  unfold pastRange at *
  cases mr with
  | none => simp at h
  | some m => simp only [decide_eq_true_eq] at *; omega

theorem artifactOffsets_past {hay : Bytes} {pos : Nat} {mr : Option Nat} (h : pastRange mr pos = true) :
    artifactOffsets hay pos mr = [] := by
  apply List.eq_nil_iff_forall_not_mem.2
  intro x hx
  obtain ⟨_, h2, h3, _⟩ := mem_artifactOffsets.1 hx
  rw [pastRange_mono h h2] at h3
  cases h3

theorem artifactOffsets_end {hay : Bytes} {pos : Nat} {mr : Option Nat} (h : ¬ pos + 4 ≤ hay.length) :
    artifactOffsets hay pos mr = [] := by
  apply List.eq_nil_iff_forall_not_mem.2
  intro x hx
  obtain ⟨h1, h2, _, _⟩ := mem_artifactOffsets.1 hx
  omega

theorem artifactOffsets_step {hay : Bytes} {pos : Nat} {mr : Option Nat} (h : pos + 4 ≤ hay.length)
    (hr : pastRange mr pos = false) :
    artifactOffsets hay pos mr
      = (if u32le (hay.drop pos) = pos + 16 then [pos] else []) ++ artifactOffsets hay (pos + 1) mr := by
  apply sorted_ext
  · exact artifactOffsets_sorted _ _ _
  · rw [List.pairwise_append]
    refine ⟨?_, artifactOffsets_sorted _ _ _, ?_⟩
    · split <;> simp
    · intro x hx y hy
      have := (mem_artifactOffsets.1 hy).2.1
      split at hx
      · simp only [List.mem_singleton] at hx; omega
      · simp at hx
  · intro x
    simp only [List.mem_append, mem_artifactOffsets]
    constructor
    · rintro ⟨h1, h2, h3, h4⟩
      by_cases hx : x = pos
      · subst hx; left; simp [h4]
      · right; exact ⟨h1, by omega, h3, h4⟩
    · rintro (hx | ⟨h1, h2, h3, h4⟩)
      · split at hx
        · rename_i hc
          simp only [List.mem_singleton] at hx
          subst hx
          exact ⟨h, Nat.le_refl _, hr, hc⟩
        · simp at hx
      · exact ⟨h1, by omega, h3, h4⟩

theorem artifactHits_step {hay : Bytes} {pos : Nat} {mr : Option Nat} (h : pos + 4 ≤ hay.length)
    (hr : pastRange mr pos = false) :
    artifactHits hay pos mr
      = (if u32le (hay.drop pos) = pos + 16 then [hitAt hay pos] else []) ++ artifactHits hay (pos + 1) mr := by
  unfold artifactHits
  rw [artifactOffsets_step h hr, List.map_append]
  split <;> rfl

theorem artStep_ok {f : PyFile} {pos : Nat} {r : Option (List Hit)} {f' : PyFile}
    (h : artStep f pos = .ok (r, f')) : r = stepResult f.data pos ∧ f'.data = f.data := by
  obtain ⟨g, hg, hd⟩ := artStep_spec f pos
  rw [hg] at h
  injection h with h
  injection h with h1 h2
  exact ⟨h1.symm, h2 ▸ hd⟩

theorem artLoop_spec (mr : Option Nat) (f : PyFile) (pos : Nat) :
    ∃ f', artLoop mr f pos = .ok (artifactHits f.data pos mr, f') ∧ f'.data = f.data := by
  fun_induction artLoop mr f pos with
  | case1 f pos hp => exact ⟨f, by rw [artifactHits, artifactOffsets_past hp]; rfl, rfl⟩
  | case2 f pos hp e h =>
    obtain ⟨f', h1, _⟩ := artStep_spec f pos
    rw [h1] at h; cases h
  | case3 f pos hp f' h =>
    obtain ⟨hr, hd⟩ := artStep_ok h
    have hlen : ¬ pos + 4 ≤ f.data.length := fun hl => by rw [stepResult, if_pos hl] at hr; cases hr
    exact ⟨f', by rw [artifactHits, artifactOffsets_end hlen]; rfl, hd⟩
  | case4 f pos hp hs f' h e hrec ih =>
    obtain ⟨ff, h1, _⟩ := ih
    rw [h1] at hrec; cases hrec
  | case5 f pos hp hs f' h rest ff hrec ih =>
    obtain ⟨hr, hd⟩ := artStep_ok h
    have hlen := artStep_some h
    obtain ⟨ff', h3, h4⟩ := ih
    rw [h3] at hrec
    injection hrec with hrec
    injection hrec with hr1 hr2
    rw [stepResult, if_pos hlen] at hr
    injection hr with hr
    refine ⟨ff, ?_, by rw [← hr2, h4, hd]⟩
    rw [hr, ← hr1, hd, artifactHits_step hlen (Bool.eq_false_iff.2 hp)]

end C15

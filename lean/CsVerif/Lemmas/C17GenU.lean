import CsVerif.Model.C17Gen
import CsVerif.Lemmas.C17
import CsVerif.Lemmas.C17Gen
import CsVerif.Props.C20Gen
import CsVerif.Lemmas.PyUFile
/-! The translation tie for C17, loop by loop: `gen_<f>_loop<k>` / `gen_<f>_comp<k>` relates the definition `<f>_loop<k>` / `<f>_comp<k>` of
`Gen/PyGuardU.lean` to the model function it mirrors; for a `while` loop, `…_body` is one run of its body on encoded state and the loop
lemma an induction on the fuel over it. -/
namespace C17Gen
open PyU

/-! ## the selection loop (`iter_guardrail_configs_with_beacon`) -/
/-- `by rfl`, not `rfl`: as a definitional rewrite `simp` applies it inside continuations that have not run yet, and every `if` there
then checks `pure _ =?= Except.ok _` across its whole branch. -/
theorem pure_ok {α : Type} (a : α) : (pure a : Py α) = .ok a := by rfl


theorem eq_int (a b : Int) : PyU.eq (.int a) (.int b) = (a == b) := rfl
theorem add_int (a b : Int) : PyU.add (.int a) (.int b) = .ok (.int (a + b)) := rfl

theorem xor_enc (a b : Bytes) : Gen.PyGuardU.xor (.bytes a) (.bytes b) = .ok (.bytes (C20.xor a b)) := by
  simp only [Gen.PyGuardU.xor, liftXor, C20Gen.gen_xor, Except.map]

theorem payload_checksum_enc (d : Bytes) :
    Gen.PyGuardU.payload_checksum (.bytes d) = .ok (.int ((C17.payloadChecksum d : Nat) : Int)) := by
  simp only [Gen.PyGuardU.payload_checksum, liftBytesNat, payload_checksum_eq, Except.map]

section attrs
variable (a b c d e f g h i j k x : V)
theorem getAttr_meta_checksum : getAttr (.inst Gen.PyGuardU.GuardrailMetadata [a, b, c, d, e, f, g, h, i, j, k]) "checksum" = .ok h := by
  simp [getAttr, lookupField, Gen.PyGuardU.GuardrailMetadata]
theorem setAttr_meta_pxk : instSetAttr (.inst Gen.PyGuardU.GuardrailMetadata [a, b, c, d, e, f, g, h, i, j, k]) "payload_xor_key" x
    = .ok (.inst Gen.PyGuardU.GuardrailMetadata [a, b, c, d, e, f, g, h, x, j, k]) := by
  simp [instSetAttr, setField, Gen.PyGuardU.GuardrailMetadata]
theorem setAttr_meta_ubc : instSetAttr (.inst Gen.PyGuardU.GuardrailMetadata [a, b, c, d, e, f, g, h, i, j, k]) "unmasked_beacon_config" x
    = .ok (.inst Gen.PyGuardU.GuardrailMetadata [a, b, c, d, e, f, g, h, i, x, k]) := by
  simp [instSetAttr, setField, Gen.PyGuardU.GuardrailMetadata]
end attrs

/-- the selection loop sets and reads `beacon_xor_key` on the record as a whole -/
theorem setAttr_encMeta_bxk (m : C17.Meta) (x : Bytes) :
    instSetAttr (encMeta m) "beacon_xor_key" (.bytes x) = .ok (encMeta { m with beaconXorKey := x }) := by
  simp [encMeta, instSetAttr, setField, Gen.PyGuardU.GuardrailMetadata]
theorem getAttr_encMeta_mbc (m : C17.Meta) : getAttr (encMeta m) "masked_beacon_config" = .ok (.bytes m.maskedBeaconConfig) := by
  simp [encMeta, getAttr, lookupField, Gen.PyGuardU.GuardrailMetadata]
theorem getAttr_encMeta_bxk (m : C17.Meta) : getAttr (encMeta m) "beacon_xor_key" = .ok (.bytes m.beaconXorKey) := by
  simp [encMeta, getAttr, lookupField, Gen.PyGuardU.GuardrailMetadata]

/-- what the inner `for xorkey in …: … else: …` leaves: (the `else` clause runs, the yields so far, the record) -/
def selResult (guarded : Bytes) (m : C17.Meta) (ys : List V) (ks : List Bytes) : Bool × V × V :=
  match C17.selectKey guarded m.checksum ks with
  | some (k, u) =>
    let m' := { m with payloadXorKey := some k, unmaskedBeaconConfig := some u }
    (false, .list (ys ++ [encMeta m']), encMeta m')
  | none => (true, .list ys, encMeta m)

theorem gen_iter_guardrail_configs_with_beacon_loop2 (xi xc : V → Py V) (guarded : Bytes) (m : C17.Meta) (ys : List V) (ks : List Bytes) :
    forListElse (ks.map V.bytes) (Gen.PyGuardU.iter_guardrail_configs_with_beacon_loop2 xi xc (.bytes guarded)) (.list ys, encMeta m)
      = .ok (selResult guarded m ys ks) := by
  induction ks with
  | nil => rfl
  | cons k ks ih =>
    simp only [List.map_cons, forListElse, Gen.PyGuardU.iter_guardrail_configs_with_beacon_loop2, xor_enc, payload_checksum_enc,
      PyU.ok_bind, add_int, encMeta, getAttr_meta_checksum, setAttr_meta_pxk, setAttr_meta_ubc, eq_int, pure_ok, yieldTo]
    unfold selResult
    simp only [C17.selectKey]
    by_cases hc : m.checksum = C17.payloadChecksum (C20.xor guarded k) + 1
    · have hi : ((m.checksum : Int) == ((C17.payloadChecksum (C20.xor guarded k) : Nat) : Int) + 1) = true := by
        simp only [beq_iff_eq]; omega
      simp only [hi, if_true]
      simp only [hc, if_true, encMeta, encOptBytes]
    · have hi : ((m.checksum : Int) == ((C17.payloadChecksum (C20.xor guarded k) : Nat) : Int) + 1) = false := by
        simp only [beq_eq_false_iff_ne, ne_eq]; omega
      simp only [hi, if_false, Bool.false_eq_true]
      simp only [hc, if_false]
      have := ih
      simp only [encMeta, selResult] at this
      exact this


theorem gen_iter_guardrail_configs_with_beacon_loop1 (xi xc : V → Py V) (cands : Bytes → List Bytes)
    (hc : ∀ g : Bytes, xc (.bytesIO g 0) = .ok (.list ((cands g).map V.bytes))) (m : C17.Meta) (ys : List V) :
    Gen.PyGuardU.iter_guardrail_configs_with_beacon_loop1 xi xc (encMeta m) (.list ys)
      = .ok (Ctl.cont, .list (ys ++ [encMeta (withBeaconOneC cands m)])) := by
  -- `b"\x2e"` is a literal in the translated text; the model names it
  have hk : (V.bytes [46]) = V.bytes Gen.Guardrails.beaconXorKey := rfl
  simp only [Gen.PyGuardU.iter_guardrail_configs_with_beacon_loop1, hk, setAttr_encMeta_bxk, getAttr_encMeta_mbc, getAttr_encMeta_bxk,
    PyU.ok_bind, xor_enc, newBytesIO, hc, iterList, gen_iter_guardrail_configs_with_beacon_loop2, pure_ok]
  cases hs : C17.selectKey (C20.xor m.maskedBeaconConfig Gen.Guardrails.beaconXorKey) m.checksum
      (cands (C20.xor m.maskedBeaconConfig Gen.Guardrails.beaconXorKey)) with
  | none => simp only [selResult, withBeaconOneC, hs, yieldTo, ↓reduceIte]
  | some p =>
    obtain ⟨k, u⟩ := p
    simp only [selResult, withBeaconOneC, hs, Bool.false_eq_true, ↓reduceIte]

theorem gen_iter_guardrail_configs_with_beacon_records (xi xc : V → Py V) (cands : Bytes → List Bytes)
    (hc : ∀ g : Bytes, xc (.bytesIO g 0) = .ok (.list ((cands g).map V.bytes))) (ms : List C17.Meta) (ys : List V) :
    forList (ms.map encMeta) (Gen.PyGuardU.iter_guardrail_configs_with_beacon_loop1 xi xc) (.list ys)
      = .ok (.list (ys ++ (ms.map (withBeaconOneC cands)).map encMeta)) := by
  induction ms generalizing ys with
  | nil => simp [forList]
  | cons m ms ih =>
    simp only [List.map_cons, forList, gen_iter_guardrail_configs_with_beacon_loop1 xi xc cands hc, ih]
    simp

/-! ## the candidate keys (`find_xor_key_candidates`) -/

/-! ### grouper -/
def toV (b : UInt8) : V := .int (b.toNat : Int)

theorem groupsOf_eq (n : Nat) (hn : 0 < n) : ∀ (fuel : Nat) (d : Bytes), d.length ≤ fuel →
    groupsOf n (V.int 0) fuel (d.map toV) = (C17.grouper n d).map (fun g => g.map toV) := by
  intro fuel
  induction fuel with
  | zero =>
    intro d hd
    have : d = [] := List.length_eq_zero_iff.mp (by omega)
    subst this
    unfold C17.grouper
    simp [groupsOf]
  | succ fuel ih =>
    intro d hd
    cases d with
    | nil => unfold C17.grouper; simp [groupsOf]
    | cons x xs =>
      rw [C17.grouper]
      have h0 : ¬ (n = 0 ∨ x :: xs = []) := by simp; omega
      simp only [h0, dite_false, List.map_cons, groupsOf]
      have hl : ((x :: xs).drop n).length ≤ fuel := by
        simp only [List.length_drop, List.length_cons] at hd ⊢; omega
      have := ih ((x :: xs).drop n) hl
      simp only [List.map_drop, List.map_cons] at this
      rw [this]
      congr 1
      simp only [← List.map_cons, ← List.map_take, List.length_map, List.map_append, List.map_replicate]
      rfl

theorem grouper_enc (chunk : Bytes) (L : Nat) (hL : 0 < L) :
    PyU.grouper (.bytes chunk) (.int (L : Int)) (.int 0)
      = .ok (.list ((C17.grouper L chunk).map fun g => V.tuple (g.map toV))) := by
  have h1 : ¬ ((L : Int) ≤ 0) := by omega
  have := groupsOf_eq L hL chunk.length chunk (Nat.le_refl _)
  simp only [PyU.grouper, iterList, asInt, h1, if_false, Int.toNat_natCast, List.length_map]
  have e : (List.map (fun x => V.int ↑x.toNat) chunk) = chunk.map toV := rfl
  rw [e, this, List.map_map]
  rfl

theorem bytesItems_toV (g : Bytes) : bytesItems17 (g.map toV) = .ok g := by
  induction g with
  | nil => rfl
  | cons b bs ih =>
    have hb : (0 : Int) ≤ (b.toNat : Int) ∧ (b.toNat : Int) < 256 := by
      have := b.toNat_lt; omega
    simp only [List.map_cons, toV, bytesItems17, asInt, hb, and_self, if_true, ih, Except.map, Int.toNat_natCast]
    simp

theorem bytesOf_tuple (g : Bytes) : bytesOf17 (.tuple (g.map toV)) = .ok (.bytes g) := by
  simp only [bytesOf17, bytesItems_toV, Except.map]

/-! ### Counter -/
def encCounter (c : C17.Counter) : V := .dict (c.map fun p => V.bytes p.1) (c.map fun p => V.int (p.2 : Int))

theorem counterIncr_cons_ne (k k' : Bytes) (n : Int) (ks vs : List V) (h : k' ≠ k) :
    counterIncr (.dict (.bytes k' :: ks) (.int n :: vs)) (.bytes k)
      = (counterIncr (.dict ks vs) (.bytes k)).map fun r =>
          match r with
          | .dict ks' vs' => .dict (.bytes k' :: ks') (.int n :: vs')
          | v => v := by
  have hk : keyEq (.bytes k) (.bytes k') = false := by
    simp only [keyEq, PyU.eq, Bool.and_true, beq_eq_false_iff_ne, ne_eq]
    exact fun e => h e.symm
  simp only [counterIncr, hashable, if_true, findKey, hk, Bool.false_eq_true, if_false, setKey]
  cases hf : findKey (.bytes k) ks vs with
  | none => simp [Except.map]
  | some v =>
    simp only []
    cases PyU.add v (.int 1) <;> simp [Except.map]

theorem counterIncr_enc (c : C17.Counter) (k : Bytes) :
    counterIncr (encCounter c) (.bytes k) = .ok (encCounter (c.incr k)) := by
  induction c with
  | nil => simp [encCounter, counterIncr, hashable, findKey, C17.Counter.incr]
  | cons p rest ih =>
    obtain ⟨k', n⟩ := p
    by_cases h : k' = k
    · subst h
      have hk : keyEq (.bytes k') (.bytes k') = true := by simp [keyEq, PyU.eq]
      simp only [encCounter, List.map_cons, counterIncr, hashable, if_true, findKey, hk, PyU.add, asInt, setKey,
        C17.Counter.incr, if_true]
      rfl
    · have := counterIncr_cons_ne k k' (n : Int) (rest.map fun p => V.bytes p.1) (rest.map fun p => V.int (p.2 : Int)) h
      simp only [encCounter, List.map_cons] at ih ⊢
      rw [this, ih]
      simp only [Except.map, C17.Counter.incr, h, if_false, List.map_cons]

theorem gen_find_xor_key_candidates_comp1 (B : V) (gs : List Bytes) (c : C17.Counter) :
    forList (gs.map fun g => V.tuple (g.map toV)) (Gen.PyGuardU.find_xor_key_candidates_comp1 B) (encCounter c)
      = .ok (encCounter (C17.Counter.update c gs)) := by
  induction gs generalizing c with
  | nil => rfl
  | cons g gs ih =>
    simp only [List.map_cons, forList, Gen.PyGuardU.find_xor_key_candidates_comp1, bytesOf_tuple, PyU.ok_bind, counterIncr_enc, pure_ok,
      ih, C17.Counter.update, List.foldl_cons]


/-! ### file objects
`encFile` and `C15Gen.encFile` unfold to the same `mkFile` term, so the lemmas of Lemmas/PyUFile.lean apply as they are. -/
theorem asFile_enc (f : PyFile) : asFile (encFile f) = some (f.data, f.pos, kindNat f.kind) := C15Gen.asFile_enc f

theorem fileRead_nat (f : PyFile) (n : Nat) :
    fileRead (encFile f) (.int (n : Int)) = .ok (.bytes ((f.data.drop f.pos).take n), encFile { f with pos := f.pos + ((f.data.drop f.pos).take n).length }) :=
  C15Gen.fileRead_nat f n

theorem fileSeek_nat (f : PyFile) (n : Nat) :
    fileSeek (encFile f) (.int (n : Int)) (.int 0) = .ok (.int (n : Int), encFile { f with pos := n }) := C15Gen.fileSeek_nat f n

theorem eq_bytes_nil (b : Bytes) : PyU.eq (.bytes b) (.bytes []) = b.isEmpty := by
  cases b <;> rfl

theorem drop_take_length {α : Type} (d : List α) (n : Nat) : d.drop (d.take n).length = d.drop n := by
  rw [List.length_take]
  rcases Nat.le_total n d.length with h | h
  · rw [Nat.min_eq_left h]
  · rw [Nat.min_eq_right h, List.drop_length, List.drop_eq_nil_of_le h]

/-- `fh.read(b)` answers what `fh.read(B)` answers on every file object with this content: `b` is `B`, or `None` when `|data| ≤ B` -/
def ReadsLike (b : V) (B : Nat) (data : Bytes) : Prop :=
  ∀ g : PyFile, g.data = data → fileRead (encFile g) b = fileRead (encFile g) (.int (B : Int))

theorem readsLike_int (B : Nat) (data : Bytes) : ReadsLike (.int (B : Int)) B data := fun _ _ => rfl

theorem readsLike_none (B : Nat) (data : Bytes) (h : data.length ≤ B) : ReadsLike .none B data := by
  intro g hg
  rw [fileRead_nat, List.take_of_length_le (by rw [List.length_drop, hg]; omega)]
  simp only [fileRead, asFile_enc]
  rfl

theorem gen_find_xor_key_candidates_loop2_body (b : V) (B L : Nat) (hL : 0 < L) (f : PyFile) (hb : ReadsLike b B f.data)
    (c : C17.Counter) :
    Gen.PyGuardU.find_xor_key_candidates_loop2 b (.int (L : Int)) (encFile f, encCounter c)
      = .ok (if ((f.data.drop f.pos).take B).isEmpty then (Ctl.brk, encFile f, encCounter c)
             else (Ctl.cont, encFile { f with pos := f.pos + ((f.data.drop f.pos).take B).length },
                   encCounter (c.update (C17.grouper L ((f.data.drop f.pos).take B))))) := by
  simp only [Gen.PyGuardU.find_xor_key_candidates_loop2, hb f rfl, fileRead_nat, PyU.ok_bind, eq_bytes_nil, grouper_enc _ L hL,
    iterList, gen_find_xor_key_candidates_comp1, pure_ok]
  cases (f.data.drop f.pos).take B <;> rfl

/-- the chunk loop: `for chunk in iter(functools.partial(fh.read, B), b"")` -/
theorem gen_find_xor_key_candidates_loop2 (b : V) (B L : Nat) (hL : 0 < L) : ∀ (fuel : Nat) (f : PyFile) (c : C17.Counter),
    ReadsLike b B f.data → f.data.length - f.pos < fuel → f.pos ≤ f.data.length →
    whileFuel fuel (Gen.PyGuardU.find_xor_key_candidates_loop2 b (.int (L : Int))) (encFile f, encCounter c)
      = .ok (encFile { f with pos := if B = 0 then f.pos else f.data.length },
             encCounter ((C17.chunks B (f.data.drop f.pos)).foldl (fun c chunk => c.update (C17.grouper L chunk)) c)) := by
  intro fuel
  induction fuel with
  | zero => intro f c _ h; omega
  | succ fu ih =>
    intro f c hb hf hp
    have hle : ((f.data.drop f.pos).take B).length ≤ f.data.length - f.pos := by
      rw [List.length_take, List.length_drop]; exact Nat.min_le_right _ _
    rw [whileFuel, gen_find_xor_key_candidates_loop2_body b B L hL f hb, C17.chunks, ← drop_take_length (f.data.drop f.pos) B, List.drop_drop]
    cases hx : (f.data.drop f.pos).take B with
    | nil =>
      -- nothing read: `B = 0`, or the file is at its end
      have he := List.take_eq_nil_iff.mp hx
      have hpos : (if B = 0 then f.pos else f.data.length) = f.pos := by
        rcases he with h | h
        · rw [if_pos h]
        · have := List.drop_eq_nil_iff.mp h; split <;> omega
      rw [dif_pos he, hpos]
      rfl
    | cons x xs =>
      have he : ¬ (B = 0 ∨ f.data.drop f.pos = []) := fun h => by rw [List.take_eq_nil_iff.mpr h] at hx; cases hx
      rw [hx] at hle
      have := ih { f with pos := f.pos + (x :: xs).length } (c.update (C17.grouper L (x :: xs))) hb
        (by simp only [List.length_cons] at hle ⊢; omega) (by simp only; omega)
      rw [dif_neg he, List.foldl_cons, if_neg (fun h => he (Or.inl h))]
      rw [if_neg (fun h => he (Or.inl h))] at this
      exact this


/-! ### most_common(2) -/
def encItem (p : Bytes × Nat) : V × Int := (V.bytes p.1, (p.2 : Int))

theorem takeMaxFirst_enc (c : C17.Counter) :
    takeMaxFirst (c.map encItem) = (C17.maxFirst c).map fun a => (encItem a, (c.erase a).map encItem) := by
  induction c with
  | nil => rfl
  | cons x rest ih =>
    simp only [List.map_cons, takeMaxFirst, ih, C17.maxFirst]
    cases hm : C17.maxFirst rest with
    | none =>
      have := C17.maxFirst_eq_none hm
      subst this
      simp
    | some y =>
      simp only [Option.map_some]
      by_cases hgt : y.2 > x.2
      · have h1 : (encItem y).2 > (encItem x).2 := by simp only [encItem]; omega
        have hne : x ≠ y := by intro e; subst e; omega
        have hb : (x == y) = false := by simpa using hne
        simp only [h1, if_true, hgt, Option.map_some, List.erase_cons, hb, Bool.false_eq_true, if_false, List.map_cons]
      · have h1 : ¬ (encItem y).2 > (encItem x).2 := by simp only [encItem]; omega
        simp only [h1, if_false, hgt, Option.map_some, List.erase_cons_head]

theorem mostCommonGo_two (c : C17.Counter) : mostCommonGo 2 (c.map encItem) = (C17.mostCommon2 c).map encItem := by
  simp only [mostCommonGo, takeMaxFirst_enc, C17.mostCommon2]
  cases C17.maxFirst c with
  | none => rfl
  | some a =>
    simp only [Option.map_some, takeMaxFirst_enc, List.map_cons]
    cases C17.maxFirst (c.erase a) <;> rfl

theorem counterItems_enc (c : C17.Counter) :
    counterItems (c.map fun p => V.bytes p.1) (c.map fun p => V.int (p.2 : Int)) = some (c.map encItem) := by
  induction c with
  | nil => rfl
  | cons p rest ih => simp only [List.map_cons, counterItems, ih, Option.map_some, encItem]

def encPair (p : Bytes × Nat) : V := .tuple [.bytes p.1, .int (p.2 : Int)]

theorem mostCommon_enc (c : C17.Counter) :
    mostCommon (encCounter c) (.int 2) = .ok (.list ((C17.mostCommon2 c).map encPair)) := by
  simp only [mostCommon, encCounter, counterItems_enc, asInt, Option.map_some]
  have : (2 : Int).toNat = 2 := rfl
  simp only [this, mostCommonGo_two, List.map_map]
  rfl

/-! ### the yield loop -/
theorem ge_int (a b : Int) : PyU.ge (.int a) (.int b) = .ok (!decide (a < b)) := rfl

theorem gen_find_xor_key_candidates_loop3 (B : V) (l : List (Bytes × Nat)) : ∀ (ys : List V) (fc : Nat),
    ∃ x, forList (l.map encPair) (Gen.PyGuardU.find_xor_key_candidates_loop3 B) (.list ys, .int (fc : Int))
      = .ok (.list (ys ++ (C17.yieldLoop fc l).map V.bytes), x) := by
  induction l with
  | nil => intro ys fc; exact ⟨.int (fc : Int), by simp [forList, C17.yieldLoop]⟩
  | cons p rest ih =>
    intro ys fc
    obtain ⟨k, n⟩ := p
    by_cases hge : n ≥ fc
    · obtain ⟨x, hx⟩ := ih (ys ++ [.bytes k]) n
      refine ⟨x, ?_⟩
      have hd : decide ((n : Int) < (fc : Int)) = false := by simp; omega
      simp only [List.map_cons, forList, Gen.PyGuardU.find_xor_key_candidates_loop3, encPair, unpack2, iterList, PyU.ok_bind, pure_ok,
        ge_int, hd, Bool.not_false, if_true, yieldTo, hx, C17.yieldLoop, hge, List.map_cons, List.append_assoc, List.singleton_append]
    · refine ⟨.int (fc : Int), ?_⟩
      have hd : decide ((n : Int) < (fc : Int)) = true := by simp; omega
      simp only [List.map_cons, forList, Gen.PyGuardU.find_xor_key_candidates_loop3, encPair, unpack2, iterList, PyU.ok_bind, pure_ok,
        ge_int, hd, Bool.not_true, Bool.false_eq_true, if_false, C17.yieldLoop, hge, List.map_nil, List.append_nil]

/-! ### one key length, all key lengths -/
/-- where `find_xor_key_candidates` leaves the file: at its end, or at 0 when `io.DEFAULT_BUFFER_SIZE` is 0 (every read is empty) -/
def candEnd (B : Nat) (f : PyFile) : PyFile := { f with pos := if B = 0 then 0 else f.data.length }

theorem gen_find_xor_key_candidates_loop1 (b : V) (B L fuel : Nat) (hL : 0 < L) (f : PyFile) (hb : ReadsLike b B f.data)
    (hf : f.data.length < fuel) (ys : List V) :
    Gen.PyGuardU.find_xor_key_candidates_loop1 b fuel (.int (L : Int)) (encFile f, .list ys)
      = .ok (Ctl.cont, encFile (candEnd B f), .list (ys ++ (C17.candidatesAt B f.data L).map V.bytes)) := by
  have h0 := fileSeek_nat f 0
  have hl := gen_find_xor_key_candidates_loop2 b B L hL fuel { f with pos := 0 } [] hb hf (Nat.zero_le _)
  obtain ⟨x, hx⟩ := gen_find_xor_key_candidates_loop3 b (C17.mostCommon2 (C17.counterFor B L f.data)) ys 0
  have he : encCounter [] = V.dict [] [] := rfl
  simp only [List.drop_zero, he] at hl
  simp only [Int.natCast_zero] at h0 hx
  simp only [Gen.PyGuardU.find_xor_key_candidates_loop1, h0, PyU.ok_bind, hl, pure_ok]
  have hc : (List.foldl (fun (c : C17.Counter) chunk => c.update (C17.grouper L chunk)) [] (C17.chunks B f.data)) = C17.counterFor B L f.data := rfl
  simp only [hc, mostCommon_enc, iterList, PyU.ok_bind, hx, C17.candidatesAt, candEnd]


theorem candEnd_idem (B : Nat) (f : PyFile) : candEnd B (candEnd B f) = candEnd B f := rfl
theorem candEnd_data (B : Nat) (f : PyFile) : (candEnd B f).data = f.data := rfl

theorem gen_find_xor_key_candidates_keylens (b : V) (B fuel : Nat) (Ls : List Nat) (hLs : ∀ L ∈ Ls, 0 < L) :
    ∀ (f : PyFile) (ys : List V), ReadsLike b B f.data → f.data.length < fuel →
    forList (Ls.map fun (L : Nat) => V.int (L : Int)) (Gen.PyGuardU.find_xor_key_candidates_loop1 b fuel) (encFile f, .list ys)
      = .ok (encFile (if Ls = [] then f else candEnd B f), .list (ys ++ (Ls.flatMap (C17.candidatesAt B f.data)).map V.bytes)) := by
  induction Ls with
  | nil => intro f ys _ _; simp [forList]
  | cons L Ls ih =>
    intro f ys hb hf
    have hL : 0 < L := hLs L (by simp)
    have := ih (fun L' h => hLs L' (by simp [h])) (candEnd B f) (ys ++ (C17.candidatesAt B f.data L).map V.bytes) hb hf
    simp only [List.map_cons, forList, gen_find_xor_key_candidates_loop1 b B L fuel hL f hb hf ys, this, candEnd_data, candEnd_idem]
    by_cases hn : Ls = [] <;> simp [hn]

theorem range2_eq : PyU.range2V (.int 2) (.int 257) = .ok (.list ((List.range' 2 255).map fun (L : Nat) => V.int (L : Int))) := by
  decide +kernel

theorem gen_find_xor_key_candidates_reads (b : V) (B : Nat) (f : PyFile) (hb : ReadsLike b B f.data) (fuel : Nat)
    (hf : f.data.length < fuel) :
    Gen.PyGuardU.find_xor_key_candidates b fuel (encFile f)
      = .ok (encCands (C17.findXorKeyCandidates f.data B) (candEnd B f)) := by
  have hLs : ∀ L ∈ List.range' 2 255, 0 < L := by
    intro L h; simp [List.mem_range'] at h; omega
  have := gen_find_xor_key_candidates_keylens b B fuel (List.range' 2 255) hLs f [] hb hf
  simp only [Gen.PyGuardU.find_xor_key_candidates, range2_eq, PyU.ok_bind, iterList, this, pure_ok, List.nil_append]
  rfl

/-! ## the marker scan (`iter_guardrail_configs`) -/

/-! ### one `GuardrailSetting(fh_guard)` -/
theorem uintOf_two (a b : UInt8) : uintOf true [a, b] = a.toNat * 256 + b.toNat := by
  simp only [uintOf, beNat, if_true, Nat.zero_mul, Nat.zero_add]

theorem readFields_setting (d : Bytes) :
    readFields Gen.PyGuardU.GuardrailSetting.bigEndian Gen.PyGuardU.GuardrailSetting.cls.fields Gen.PyGuardU.GuardrailSetting.tys d []
      = match C17.parseSetting d with
        | .error _ => .error .eofError
        | .ok (s, rest) => .ok ([.enum Gen.PyGuardU.GuardOption (s.option : Int), .enum Gen.PyGuardU.SettingsType (s.type : Int), .int (s.length : Int), .bytes s.value], rest) := by
  match d with
  | [] | [_] | [_, _] | [_, _, _] | [_, _, _, _] | [_, _, _, _, _] => rfl
  | a :: b :: c :: e :: g :: h :: tail =>
    rw [C17.parseSetting_cons]
    simp only [Gen.PyGuardU.GuardrailSetting, Gen.PyGuardU.GuardrailSettingCls, readFields, Gen.PyGuardU.GuardOption,
      Gen.PyGuardU.SettingsType, List.length_cons]
    have h2 : ∀ n : Nat, ¬ (n + 1 + 1 < 2) := fun n => by omega
    -- `dsimp` first: inside `simp` the equations of `List.take` / `List.drop` are definitional rewrites under the `if`s (see `pure_ok`)
    dsimp only [List.take, List.drop, List.find?]
    simp only [asInt, List.length_cons, uintOf_two, beq_self_eq_true, Option.map_some, h2, ↓reduceIte, Int.toNat_natCast]
    by_cases hlt : tail.length < g.toNat * 256 + h.toNat <;> simp only [hlt, ↓reduceIte]

theorem structRead_setting (ug : Bytes) (p : Nat) :
    structRead Gen.PyGuardU.GuardrailSetting (.bytesIO ug p)
      = match C17.parseSetting (ug.drop p) with
        | .error _ => .error .eofError
        | .ok (s, _) => .ok (encSetting s, .bytesIO ug (p + (6 + s.length))) := by
  rw [structRead, readFields_setting]
  cases h : C17.parseSetting (ug.drop p) with
  | error _ => rfl
  | ok r =>
    obtain ⟨h1, h2⟩ := C17.parseSetting_ok h
    rw [List.length_drop] at h1
    have : ug.length - r.2.length = p + (6 + r.1.length) := by rw [h2, List.length_drop, List.length_drop]; omega
    simp only [this]
    rfl

theorem member_checksum : enumMember Gen.PyGuardU.GuardOption "GUARD_PAYLOAD_CHECKSUM"
    = .ok (.enum Gen.PyGuardU.GuardOption (Gen.Guardrails.GUARD_PAYLOAD_CHECKSUM : Nat)) := by decide +kernel

theorem u32be_enc (v : Bytes) : Gen.PyGuardU.u32be (.bytes v) = .ok (.int (C17.u32be v : Nat)) := by
  simp only [Gen.PyGuardU.u32be, liftBytesInt, C20Gen.gen_u32be, Except.map, C20.unpack, C17.u32be, C20.fromBytes, pySliceTo]
  simp

section sattrs
variable (a b c d : V)
theorem getAttr_set_option : getAttr (.inst Gen.PyGuardU.GuardrailSettingCls [a, b, c, d]) "option" = .ok a := by
  simp [getAttr, lookupField, Gen.PyGuardU.GuardrailSettingCls]
theorem getAttr_set_value : getAttr (.inst Gen.PyGuardU.GuardrailSettingCls [a, b, c, d]) "value" = .ok d := by
  simp [getAttr, lookupField, Gen.PyGuardU.GuardrailSettingCls]
end sattrs

theorem getAttr_enum_name (c : EnumCls) (v : Int) : ∃ x, getAttr (.enum c v) "name" = .ok x := by
  simp only [getAttr]
  exact ⟨_, rfl⟩

theorem eq_bytes (a b : Bytes) : PyU.eq (.bytes a) (.bytes b) = (a == b) := rfl


theorem peek_nat (ug : Bytes) (p : Nat) : PyU.peek (.bytesIO ug p) (.int 2) = .ok (.bytes (ug.drop p)) := rfl

theorem attempt_ok {α : Type} (l : List PyExc) (a : α) : attempt l (.ok a : Py α) = .ok (some a) := rfl
theorem attempt_eof {α : Type} : attempt [PyExc.eofError] (.error .eofError : Py α) = .ok none := rfl

theorem slice_to2 (d : Bytes) : PyU.slice (.bytes d) .none (.int 2) = .ok (.bytes (d.take 2)) := slice_to_nat d 2

theorem gen_iter_guardrail_configs_loop2_body (ug : Bytes) (p ck : Nat) (ss : List C17.Setting) :
    Gen.PyGuardU.iter_guardrail_configs_loop2 (.bytesIO ug p, .int (ck : Int), .list (ss.map encSetting))
      = .ok (if (ug.drop p).take 2 = [0, 0] then (Ctl.brk, .bytesIO ug p, .int (ck : Int), .list (ss.map encSetting))
          else match C17.parseSetting (ug.drop p) with
            | .error _ => (Ctl.brk, .bytesIO ug p, .int (ck : Int), .list (ss.map encSetting))
            | .ok (s, _) => (Ctl.cont, .bytesIO ug (p + (6 + s.length)),
                .int ((if s.option = Gen.Guardrails.GUARD_PAYLOAD_CHECKSUM then C17.u32be s.value else ck : Nat) : Int),
                .list ((ss ++ [s]).map encSetting))) := by
  simp only [Gen.PyGuardU.iter_guardrail_configs_loop2, peek_nat, PyU.ok_bind, slice_to2, eq_bytes, beq_iff_eq, structRead_setting]
  split
  · rfl
  · cases C17.parseSetting (ug.drop p) with
    | error _ => rfl
    | ok r =>
      obtain ⟨nm, hnm⟩ := getAttr_enum_name Gen.PyGuardU.GuardOption (r.1.option : Int)
      simp only [attempt_ok, PyU.ok_bind, PyU.append, encSetting, getAttr_set_option, member_checksum, eq_enum_same,
        getAttr_set_value, u32be_enc, hnm, pure_ok, decide_eq_true_eq, List.map_append, List.map_cons, List.map_nil]
      split <;> rfl

/-- the guard settings loop -/
theorem gen_iter_guardrail_configs_loop2 (ug : Bytes) : ∀ (fuel p : Nat) (ss : List C17.Setting) (ck : Nat), ug.length - p < 6 * fuel →
    ∃ x, whileFuel fuel Gen.PyGuardU.iter_guardrail_configs_loop2 (.bytesIO ug p, .int (ck : Int), .list (ss.map encSetting))
      = .ok (x, .int ((C17.settingsPure (ug.drop p) ss ck).2 : Int), .list ((C17.settingsPure (ug.drop p) ss ck).1.map encSetting)) := by
  intro fuel
  induction fuel with
  | zero => intro p ss ck h; omega
  | succ fu ih =>
    intro p ss ck hf
    rw [whileFuel, gen_iter_guardrail_configs_loop2_body, C17.settingsPure_step]
    by_cases hz : (ug.drop p).take 2 = [0, 0]
    · rw [if_pos hz, if_pos hz]
      exact ⟨_, rfl⟩
    · rw [if_neg hz, if_neg hz]
      cases h : C17.parseSetting (ug.drop p) with
      | error _ => exact ⟨_, rfl⟩
      | ok r =>
        obtain ⟨h1, h2⟩ := C17.parseSetting_ok h
        rw [List.length_drop] at h1
        rw [List.drop_drop] at h2
        obtain ⟨x, hx⟩ := ih (p + (6 + r.1.length)) (ss ++ [r.1])
          (if r.1.option = Gen.Guardrails.GUARD_PAYLOAD_CHECKSUM then C17.u32be r.1.value else ck) (by omega)
        rw [← h2] at hx
        exact ⟨x, hx⟩

/-! ### pieces of one run of the scan loop -/
theorem iadd_int (a b : Int) : PyU.iadd (.int a) (.int b) = .ok (.int (a + b)) := rfl
theorem sub_int (a b : Int) : PyU.sub (.int a) (.int b) = .ok (.int (a - b)) := rfl
theorem mul_int (a b : Int) : PyU.mul (.int a) (.int b) = .ok (.int (a * b)) := rfl
theorem lt_int (a b : Int) : PyU.lt (.int a) (.int b) = .ok (decide (a < b)) := rfl
theorem truthy_bytes (b : Bytes) : truthy (.bytes b) = !b.isEmpty := rfl
theorem gen_iter_guardrail_configs_comp1 (key : Bytes) (l : List Bytes) (acc : List V) :
    forList (l.map V.bytes) (Gen.PyGuardU.iter_guardrail_configs_comp1 (.bytes key)) (.list acc)
      = .ok (.list (acc ++ (l.map (C20.xor · key)).map V.bytes)) := by
  induction l generalizing acc with
  | nil => simp [forList]
  | cons x l ih =>
    simp only [List.map_cons, forList, Gen.PyGuardU.iter_guardrail_configs_comp1, xor_enc, PyU.ok_bind, PyU.append, pure_ok, ih]
    simp

theorem contains_bytes (l : List Bytes) (x : Bytes) :
    PyU.contains (.list (l.map V.bytes)) (.bytes x) = .ok (decide (x ∈ l)) := by
  simp only [PyU.contains]
  congr 1
  induction l with
  | nil => simp
  | cons y l ih =>
    simp only [List.map_cons, List.any_cons, ih, eq_bytes, List.mem_cons]
    by_cases h : x = y <;> simp [h]

theorem slice_to6 (d : Bytes) : PyU.slice (.bytes d) .none (.int 6) = .ok (.bytes (d.take 6)) := slice_to_nat d 6
theorem slice_from6 (d : Bytes) : PyU.slice (.bytes d) (.int 6) .none = .ok (.bytes (d.drop 6)) := slice_from_nat d 6
theorem sliceRev_bytes (d : Bytes) : sliceRev (.bytes d) = .ok (.bytes d.reverse) := rfl

theorem newBytesIO_bytes (b : Bytes) : newBytesIO (.bytes b) = .ok (.bytesIO b 0) := rfl
theorem newBufReader_ok (d : Bytes) (h : d.length ≤ readerBufferSize) : newBufReader (.bytesIO d 0) = .ok (.bytesIO d 0) := by
  simp only [newBufReader, Nat.sub_zero, h, if_true]

open Gen.Guardrails in
/-- One run of the body of the scan loop at an offset inside the file: one `simp` pass per case of `o + 6 < 6144`; in the second the
marker test stays an `if` between the record and the skip, and the same test chooses the position the file is left at. -/
theorem gen_iter_guardrail_configs_loop1 (key : Bytes) (fuel : Nat) (hfuel : settingsFuel ≤ fuel) (g : PyFile) (o : Nat) (ho : o < g.data.length) (ys : List V) :
    ∃ p : Nat,
      Gen.PyGuardU.iter_guardrail_configs_loop1 fuel (.bytes key) (.list ((C17.maskedStarts key).map V.bytes)) (.int 6)
          (encFile g, .list ys, .int (o : Int))
        = .ok (Ctl.cont, encFile { g with pos := p },
            .list (ys ++ (C17.probeAt g.data (C17.maskedStarts key) 6 key o).toList.map encMeta), .int ((o + 1 : Nat) : Int)) := by
  have hblock : ((g.data.drop o).take 12).isEmpty = false := by
    rw [List.isEmpty_eq_false_iff, ← List.length_pos_iff, List.length_take, List.length_drop]; omega
  have hmul : PyU.mul (.int 6) (.int 2) = .ok (.int ((12 : Nat) : Int)) := rfl
  have hcast : ((o : Int) + 1) = ((o + 1 : Nat) : Int) := by omega
  have hmem : (C20.xor (((g.data.drop o).take 12).take 6).reverse (((g.data.drop o).take 12).drop 6) ∈ C17.maskedStarts key)
      = C17.markerAt g.data (C17.maskedStarts key) 6 o := rfl
  by_cases hlt : o + 6 < BEACON_CONFIG_PATCH_SIZE
  · -- no 6144-byte area fits in front: with or without a marker, nothing is yielded
    refine ⟨o + ((g.data.drop o).take 12).length, ?_⟩
    have hl : decide ((o : Int) + 6 - ((BEACON_CONFIG_PATCH_SIZE : Nat) : Int) < 0) = true := by simp; omega
    simp only [Gen.PyGuardU.iter_guardrail_configs_loop1, fileSeek_nat, PyU.ok_bind, hmul, fileRead_nat, truthy_bytes, hblock,
      Bool.not_false, Bool.not_true, Bool.false_eq_true, ↓reduceIte, slice_to6, slice_from6, unpack2, iterList, sliceRev_bytes, xor_enc,
      contains_bytes, add_int, sub_int, lt_int, hl, iadd_int, pure_ok, ite_self,
      C17.probeAt_none_early g.data _ key o hlt, Option.toList, List.map_nil, List.append_nil, hcast]
  · have hge : BEACON_CONFIG_PATCH_SIZE ≤ o + 6 := by omega
    have hbco : ((o : Int) + 6 - ((BEACON_CONFIG_PATCH_SIZE : Nat) : Int)) = ((o + 6 - BEACON_CONFIG_PATCH_SIZE : Nat) : Int) := by omega
    have hgco : ((o : Int) + 6) = ((o + 6 : Nat) : Int) := by omega
    have hl : decide ((((o + 6 - BEACON_CONFIG_PATCH_SIZE : Nat) : Int)) < 0) = false := by simp
    -- the two areas and the unmasked guard configuration
    let mb := (g.data.drop (o + 6 - BEACON_CONFIG_PATCH_SIZE)).take BEACON_CONFIG_PATCH_SIZE
    let mg := (g.data.drop (o + 6 - BEACON_CONFIG_PATCH_SIZE + mb.length)).take GUARD_PATCH_SIZE
    let ug := C20.xor (C20.xor mg mb.reverse) key
    have hug : ug.length ≤ GUARD_PATCH_SIZE := by
      simp only [ug, mg, C17.xor_length_model, List.length_take]; omega
    have hrd : ug.length ≤ readerBufferSize := Nat.le_trans hug (by decide)
    have hfu : ug.length - 0 < 6 * fuel := by
      have : GUARD_PATCH_SIZE < 6 * settingsFuel := by unfold settingsFuel GUARD_PATCH_SIZE; omega
      omega
    obtain ⟨x, hx⟩ := gen_iter_guardrail_configs_loop2 ug fuel 0 [] 0 hfu
    simp only [List.drop_zero, List.map_nil, Int.natCast_zero] at hx
    simp only [ug, mg, mb] at hx hrd
    refine ⟨if C17.markerAt g.data (C17.maskedStarts key) 6 o then o + 6 - BEACON_CONFIG_PATCH_SIZE + mb.length + mg.length
      else o + ((g.data.drop o).take 12).length, ?_⟩
    simp only [Gen.PyGuardU.iter_guardrail_configs_loop1, fileSeek_nat, PyU.ok_bind, hmul, fileRead_nat, truthy_bytes, hblock,
      Bool.not_false, Bool.not_true, Bool.false_eq_true, ↓reduceIte, slice_to6, slice_from6, unpack2, iterList, sliceRev_bytes, xor_enc,
      contains_bytes, decide_eq_true_eq, hmem, add_int, sub_int, hbco, lt_int, hl, iadd_int, pure_ok,
      newBytesIO_bytes, newBufReader_ok _ hrd, hx, yieldTo, hcast]
    have hk : (V.bytes [46]) = V.bytes metaBeaconXorKey := rfl
    by_cases hm : C17.markerAt g.data (C17.maskedStarts key) 6 o
    · -- a marker with a 6144-byte area in front: a record
      have hp : C17.probeAt g.data (C17.maskedStarts key) 6 key o
          = some (C17.metaAt g.data key (o + 6) (o + 6 - BEACON_CONFIG_PATCH_SIZE)) := if_pos ⟨hm, hge⟩
      simp only [hm, ↓reduceIte, hp, Option.toList, hgco, hk, List.map_cons, List.map_nil, encMeta, C17.metaAt, encOptBytes, mb, mg]
    · have hp : C17.probeAt g.data (C17.maskedStarts key) 6 key o = none := if_neg (fun h => hm h.1)
      simp only [hm, ↓reduceIte, hp, Option.toList, List.map_nil, List.append_nil]


theorem gen_iter_guardrail_configs_loop1_end (key : Bytes) (fuel : Nat) (g : PyFile) (ys : List V) :
    Gen.PyGuardU.iter_guardrail_configs_loop1 fuel (.bytes key) (.list ((C17.maskedStarts key).map V.bytes)) (.int 6)
        (encFile g, .list ys, .int (g.data.length : Int))
      = .ok (Ctl.brk, encFile { g with pos := g.data.length }, .list ys, .int (g.data.length : Int)) := by
  have hmul : PyU.mul (.int 6) (.int 2) = .ok (.int ((12 : Nat) : Int)) := rfl
  have hd : (g.data.drop g.data.length).take 12 = [] := by simp
  simp only [Gen.PyGuardU.iter_guardrail_configs_loop1, fileSeek_nat, PyU.ok_bind, hmul, fileRead_nat, hd, truthy_bytes,
    List.isEmpty_nil, Bool.not_true, Bool.not_false, ↓reduceIte, pure_ok, List.length_nil, Nat.add_zero]

/-- the scan loop -/
theorem gen_iter_guardrail_configs_scan (key : Bytes) (fuel0 : Nat) (hfuel0 : settingsFuel ≤ fuel0) (f : PyFile) :
    ∀ (n p o : Nat) (ys : List V) (fuel : Nat), f.data.length - o = n → o ≤ f.data.length → n < fuel →
    ∃ x, whileFuel fuel (Gen.PyGuardU.iter_guardrail_configs_loop1 fuel0 (.bytes key) (.list ((C17.maskedStarts key).map V.bytes)) (.int 6))
        (encFile { f with pos := p }, .list ys, .int (o : Int))
      = .ok (encFile { f with pos := f.data.length },
             .list (ys ++ ((List.range' o n).filterMap (C17.probeAt f.data (C17.maskedStarts key) 6 key)).map encMeta), x) := by
  intro n
  induction n with
  | zero =>
    intro p o ys fuel hn ho hf
    obtain ⟨fu, rfl⟩ : ∃ fu, fuel = fu + 1 := ⟨fuel - 1, by omega⟩
    obtain rfl : o = f.data.length := by omega
    refine ⟨.int (f.data.length : Int), ?_⟩
    rw [whileFuel, gen_iter_guardrail_configs_loop1_end key fuel0 { f with pos := p } ys, List.range'_zero, List.filterMap_nil,
      List.map_nil, List.append_nil]
  | succ n ih =>
    intro p o ys fuel hn ho hf
    obtain ⟨fu, rfl⟩ : ∃ fu, fuel = fu + 1 := ⟨fuel - 1, by omega⟩
    obtain ⟨p', hb⟩ := gen_iter_guardrail_configs_loop1 key fuel0 hfuel0 { f with pos := p } o (by simp only; omega) ys
    obtain ⟨x, hx⟩ := ih p' (o + 1) (ys ++ (C17.probeAt f.data (C17.maskedStarts key) 6 key o).toList.map encMeta) fu
      (by omega) (by omega) (by omega)
    refine ⟨x, ?_⟩
    rw [whileFuel, hb]
    simp only [hx, List.range'_succ, List.filterMap_cons]
    cases C17.probeAt f.data (C17.maskedStarts key) 6 key o <;> simp


end C17Gen

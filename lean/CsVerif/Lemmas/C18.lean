import CsVerif.Model.C18
/-! C18 — lemmas, and the declarative notions the property theorems are stated with: the view `Img.*` of an image (absolute
offsets), the `Stage` hypotheses, structure reads as pure functions of the data (`sliceOpt`, `machineAt`, `firstHit`). -/
namespace C18
open Gen.Version Gen.PeStruct

/-! ## version strings -/

theorem digitsVal_append (xs : Txt) (c : Nat) : digitsVal (xs ++ [c]) = digitsVal xs * 10 + digitVal c := by
  simp [digitsVal, List.foldl_append]

theorem ascii_digit : ∀ k, k < 10 → isDigit (48 + k) = true ∧ digitVal (48 + k) = k := by decide +kernel

theorem natDigits_spec (n : Nat) :
    natDigits n ≠ [] ∧ (∀ c ∈ natDigits n, isDigit c = true) ∧ digitsVal (natDigits n) = n := by
  induction n using Nat.strongRecOn with
  | _ n ih =>
    rw [natDigits]
    split
    · rename_i h
      refine ⟨by simp, ?_, ?_⟩
      · intro c hc
        simp at hc; subst hc
        exact (ascii_digit n h).1
      · simp [digitsVal, (ascii_digit n h).2]
    · rename_i h
      have ⟨h1, h2, h3⟩ := ih (n / 10) (by omega)
      refine ⟨by simp, ?_, ?_⟩
      · intro c hc
        simp at hc
        rcases hc with hc | hc
        · exact h2 c hc
        · subst hc; exact (ascii_digit (n % 10) (by omega)).1
      · rw [digitsVal_append, h3, (ascii_digit (n % 10) (by omega)).2]; omega

theorem natDigits_group (n c : Nat) (rest : Txt) (hc : isDigit c = false) :
    (natDigits n ++ c :: rest).takeWhile isDigit = natDigits n ∧ (natDigits n ++ c :: rest).dropWhile isDigit = c :: rest ∧
    (natDigits n).isEmpty = false := by
  obtain ⟨h1, h2, _⟩ := natDigits_spec n
  refine ⟨?_, ?_, List.isEmpty_eq_false_iff.mpr h1⟩
  · rw [List.takeWhile_append_of_pos h2, List.takeWhile_cons_of_neg (by simp [hc]), List.append_nil]
  · rw [List.dropWhile_append_of_pos h2, List.dropWhile_cons_of_neg (by simp [hc])]

theorem stripPrefix_append (p t : Txt) : stripPrefix p (p ++ t) = some t := by
  induction p with
  | nil => simp [stripPrefix]
  | cons x xs ih => simp [stripPrefix, ih]


def patchTxt : Option Nat → Txt
  | some p => 46 :: natDigits p
  | none => []

def dateTxt (d : Date) : Txt := monthName d.m ++ 32 :: pad2 d.d ++ [44, 32] ++ pad4 d.y

theorem formatVersion_eq (maj mn : Nat) (patch : Option Nat) (d : Date) :
    formatVersion maj mn patch d =
      prefixCS ++ (natDigits maj ++ 46 :: (natDigits mn ++ (patchTxt patch ++ 32 :: 40 :: (dateTxt d ++ [41])))) := by
  cases patch <;> simp [formatVersion, patchTxt, dateTxt, List.append_assoc]

theorem matchVersion_shape (maj mn : Nat) (patch : Option Nat) (D : Txt) (hD : ∀ c ∈ D, c ≠ 10) :
    matchVersion (prefixCS ++ (natDigits maj ++ 46 :: (natDigits mn ++ (patchTxt patch ++ 32 :: 40 :: (D ++ [41])))))
      = some (natDigits maj, natDigits mn, patch.map natDigits, D) := by
  unfold matchVersion
  rw [stripPrefix_append]
  simp only
  obtain ⟨t1, d1, e1⟩ := natDigits_group maj 46 (natDigits mn ++ (patchTxt patch ++ 32 :: 40 :: (D ++ [41]))) (by decide)
  rw [t1, d1]
  simp only [e1, Bool.false_eq_true, ↓reduceIte]
  have hline : ((D ++ [41]).takeWhile (· != 10)) = D ++ [41] := by
    rw [List.takeWhile_append_of_pos (fun x hx => by simpa using hD x hx)]
    rfl
  have hrev : ((D ++ [41]).reverse.dropWhile (· != 41)) = 41 :: D.reverse := by
    simp
  cases patch with
  | none =>
    obtain ⟨t2, d2, e2⟩ := natDigits_group mn 32 (40 :: (D ++ [41])) (by decide)
    simp only [patchTxt, List.nil_append, t2, d2, e2, Bool.false_eq_true, ↓reduceIte, stripPrefix, hline, hrev]
    simp
  | some p =>
    obtain ⟨t2, d2, e2⟩ := natDigits_group mn 46 (natDigits p ++ 32 :: 40 :: (D ++ [41])) (by decide)
    obtain ⟨t3, d3, e3⟩ := natDigits_group p 32 (40 :: (D ++ [41])) (by decide)
    simp only [patchTxt, List.cons_append, t2, d2, e2, Bool.false_eq_true, ↓reduceIte, t3, d3, e3, stripPrefix, hline, hrev]
    simp


def monthOk (m : Nat) : Bool :=
  match monthName m with
  | [a, b, c] => monthIndex a b c == some m && a != 10 && b != 10 && c != 10
  | _ => false

theorem monthOk_all : ∀ m, m < 13 → 1 ≤ m → monthOk m = true := by decide +kernel

theorem monthName_spec (m : Nat) (h1 : m < 13) (h2 : 1 ≤ m) :
    ∃ a b c, monthName m = [a, b, c] ∧ monthIndex a b c = some m ∧ a ≠ 10 ∧ b ≠ 10 ∧ c ≠ 10 := by
  have h := monthOk_all m h1 h2
  unfold monthOk at h
  split at h
  · rename_i a b c heq
    simp at h
    exact ⟨a, b, c, heq, by simp [h], by omega, by omega, by omega⟩
  · simp at h

theorem isSpace_digit : ∀ k, k < 10 → isSpace (48 + k) = false := by decide +kernel

theorem isSpace_blank : isSpace 32 = true := by decide +kernel

theorem parseDay_pad2 (d : Nat) (rest : Txt) (h1 : 1 ≤ d) (h2 : d ≤ 31) :
    parseDay (pad2 d ++ 44 :: rest) = some (d, rest) := by
  simp only [pad2, List.cons_append, List.nil_append, parseDay]
  rw [if_pos]
  · rw [(ascii_digit (d % 10) (by omega)).2]
    simp; omega
  · have := (ascii_digit (d % 10) (by omega)).1
    simp only [this, and_true]
    omega

theorem pad4_spec (y : Nat) (h : y ≤ 9999) :
    (isDigit (48 + y / 1000 % 10) ∧ isDigit (48 + y / 100 % 10) ∧ isDigit (48 + y / 10 % 10) ∧ isDigit (48 + y % 10)) ∧
    digitsVal (pad4 y) = y := by
  have a1 := ascii_digit (y / 1000 % 10) (by omega)
  have a2 := ascii_digit (y / 100 % 10) (by omega)
  have a3 := ascii_digit (y / 10 % 10) (by omega)
  have a4 := ascii_digit (y % 10) (by omega)
  refine ⟨⟨a1.1, a2.1, a3.1, a4.1⟩, ?_⟩
  simp only [digitsVal, pad4, List.foldl_cons, List.foldl_nil, a1.2, a2.2, a3.2, a4.2]
  omega

theorem strptimeDate_dateTxt (d : Date) (h : validDate d.y d.m d.d = true) : strptimeDate (dateTxt d) = some d := by
  simp only [validDate, decide_eq_true_eq] at h
  obtain ⟨hy1, hy2, hm1, hm2, hd1, hd2⟩ := h
  have hd31 : d.d ≤ 31 := by
    have : daysInMonth d.y d.m ≤ 31 := by unfold daysInMonth; split <;> (try split) <;> omega
    omega
  obtain ⟨a, b, c, hn, hi, _⟩ := monthName_spec d.m (by omega) hm1
  obtain ⟨hdig, hval⟩ := pad4_spec d.y hy2
  have hv : validDate d.y d.m d.d = true := by simp [validDate]; omega
  simp only [dateTxt, hn, List.cons_append, List.nil_append, strptimeDate, hi]
  have hs1 : List.dropWhile isSpace (32 :: (pad2 d.d ++ 44 :: 32 :: pad4 d.y)) = pad2 d.d ++ 44 :: 32 :: pad4 d.y := by
    simp only [pad2, List.cons_append, List.dropWhile, isSpace_digit (d.d / 10 % 10) (by omega), isSpace_blank]
  have hs2 : List.dropWhile isSpace (32 :: pad4 d.y) = pad4 d.y := by
    simp only [pad4, List.dropWhile, isSpace_digit (d.y / 1000 % 10) (by omega), isSpace_blank]
  simp only [List.append_assoc, List.cons_append, List.nil_append]
  rw [hs1, parseDay_pad2 _ _ hd1 hd31]
  simp only [hs2]
  have l1 : ¬ ((pad2 d.d ++ 44 :: 32 :: pad4 d.y).length = (32 :: (pad2 d.d ++ 44 :: 32 :: pad4 d.y)).length) := by simp
  have l2 : ¬ ((pad4 d.y).length = (32 :: pad4 d.y).length) := by simp
  rw [if_neg l1, if_neg l2]
  simp only [pad4] at hval ⊢
  simp only [hdig, and_self, ↓reduceIte, hval, hv]

theorem dateTxt_no_newline (d : Date) (h : validDate d.y d.m d.d = true) : ∀ c ∈ dateTxt d, c ≠ 10 := by
  simp only [validDate, decide_eq_true_eq] at h
  obtain ⟨a, b, c, hn, _, ha, hb, hc⟩ := monthName_spec d.m (by omega) (by omega)
  intro x hx
  simp only [dateTxt, hn, pad2, pad4] at hx
  simp at hx
  omega

/-! ## PE images -/

/-- the bytes a structure read of `n` bytes at offset `off` obtains; `none` when the data is too short -/
def sliceOpt (d : Bytes) (off n : Nat) : Option Bytes :=
  if (slice d off n).length = n then some (slice d off n) else none

theorem slice_length (d : Bytes) (off n : Nat) : (slice d off n).length = min n (d.length - off) := by
  simp [slice]

theorem sliceOpt_ok (d : Bytes) (off n : Nat) (h : off + n ≤ d.length) : sliceOpt d off n = some (slice d off n) := by
  unfold sliceOpt; rw [if_pos]; rw [slice_length]; omega

theorem sliceOpt_none (d : Bytes) (off n : Nat) (h : d.length < off + n) (hn : 0 < n) : sliceOpt d off n = none := by
  unfold sliceOpt; rw [if_neg]; rw [slice_length]
  have := Nat.min_le_right n (d.length - off); omega

theorem readStruct_eq (d : Bytes) (p : Nat) (k : FileKind) (n : Nat) :
    readStruct ⟨d, p, k⟩ n = (sliceOpt d p n, ⟨d, p + (slice d p n).length, k⟩) := by
  have hr : (PyFile.read ⟨d, p, k⟩ (n : Int)).1 = slice d p n := by
    rw [PyFile.read_nonneg]; rfl
  have hr2 : (PyFile.read ⟨d, p, k⟩ (n : Int)).2 = ⟨d, p + (slice d p n).length, k⟩ := by
    have : (PyFile.read ⟨d, p, k⟩ (n : Int)).2 = ⟨d, p + (PyFile.read ⟨d, p, k⟩ (n : Int)).1.length, k⟩ := rfl
    rw [this, hr]
  unfold readStruct sliceOpt
  simp only [hr, hr2]
  split <;> rfl

theorem readStruct_fst (f : PyFile) (n : Nat) : (readStruct f n).1 = sliceOpt f.data f.pos n := by
  cases f; rw [readStruct_eq]

theorem readStruct_data (f : PyFile) (n : Nat) : (readStruct f n).2.data = f.data ∧ (readStruct f n).2.kind = f.kind := by
  cases f; rw [readStruct_eq]; simp

theorem readStruct_ok (d : Bytes) (p : Nat) (k : FileKind) (n : Nat) (h : p + n ≤ d.length) :
    readStruct ⟨d, p, k⟩ n = (some (slice d p n), ⟨d, p + n, k⟩) := by
  rw [readStruct_eq, sliceOpt_ok d p n h, slice_length]
  congr 2
  omega

@[simp] theorem seekNat_mk (d : Bytes) (p : Nat) (k : FileKind) (n : Nat) : seekNat ⟨d, p, k⟩ n = ⟨d, n, k⟩ := rfl

theorem seekSet_nonneg (d : Bytes) (p : Nat) (k : FileKind) (x : Int) (h : 0 ≤ x) :
    PyFile.seekSet ⟨d, p, k⟩ x = .ok (x.toNat, ⟨d, x.toNat, k⟩) := by
  unfold PyFile.seekSet
  rw [if_neg (by omega)]

/-- the seeks of the scan loop are `fh.seek(start_offset + offset + 4 + mz.e_lfanew)` with `e_lfanew > 0` -/
theorem seekNat_faithful (f : PyFile) (base : Nat) (e : Int) (h : 0 < e) :
    f.seekSet ((base : Int) + 4 + e) = .ok (base + 4 + e.toNat, seekNat f (base + 4 + e.toNat)) := by
  cases f
  rw [seekSet_nonneg _ _ _ _ (by omega)]
  have : ((base : Int) + 4 + e).toNat = base + 4 + e.toNat := by omega
  rw [this]; rfl

/-! ### the scan loop as a pure function of the data -/

/-- `image.Machine` seen by the loop body at absolute offset `base` (pure counterpart of `probe`). -/
def machineAt (d : Bytes) (base maxrange : Nat) : Option Int :=
  match sliceOpt d base dosHeaderSize with
  | none => none
  | some mz =>
    let e := fieldVal mz dosLfanew
    if 0 < e ∧ e < (maxrange : Int) then
      match sliceOpt d (base + 4 + e.toNat) fileHeaderSize with
      | none => none
      | some img => some (fieldVal img fhMachine)
    else none

theorem probe_spec (f : PyFile) (base maxrange : Nat) :
    (probe f base maxrange).1 = machineAt f.data base maxrange ∧
    (probe f base maxrange).2.data = f.data ∧ (probe f base maxrange).2.kind = f.kind := by
  obtain ⟨d, p, k⟩ := f
  unfold probe machineAt
  simp only [seekNat_mk, readStruct_eq]
  cases h : sliceOpt d base dosHeaderSize with
  | none => simp
  | some mz =>
    simp only
    split
    · simp only [seekNat_mk, readStruct_eq]
      cases h2 : sliceOpt d (base + 4 + (fieldVal mz dosLfanew).toNat) fileHeaderSize <;> simp
    · simp

/-- first offset of `offs` whose loop body accepts (the accepting case is stated on the loop, `scanLoop_first`: it also gives the file) -/
def firstHit (classify : Int → Option α) (d : Bytes) (start maxrange : Nat) : List Nat → Option (Nat × α)
  | [] => none
  | off :: rest =>
    match (machineAt d (start + off) maxrange).bind classify with
    | some a => some (start + off, a)
    | none => firstHit classify d start maxrange rest

theorem scanLoop_spec (classify : Int → Option α) (start maxrange : Nat) (offs : List Nat) (f : PyFile) :
    (scanLoop classify start maxrange offs f).1 = firstHit classify f.data start maxrange offs ∧
    (scanLoop classify start maxrange offs f).2.data = f.data ∧
    (scanLoop classify start maxrange offs f).2.kind = f.kind := by
  induction offs generalizing f with
  | nil => simp [scanLoop, firstHit]
  | cons off rest ih =>
    obtain ⟨h1, h2, h3⟩ := probe_spec f (start + off) maxrange
    unfold scanLoop firstHit
    rw [← h1]
    generalize probe f (start + off) maxrange = r at h2 h3
    obtain ⟨m, f1⟩ := r
    have ih1 := ih f1
    simp only at h2 h3
    rw [h2, h3] at ih1
    cases m with
    | none => exact ih1
    | some m =>
      simp only [Option.bind_some]
      cases classify m with
      | none => exact ih1
      | some a => exact ⟨rfl, h2, h3⟩

/-- "no smaller offset passes the e_lfanew + Machine test" (decidable) -/
def NoEarlierCandidate (d : Bytes) (start maxrange n : Nat) : Prop :=
  ∀ o, o < n → (machineAt d (start + o) maxrange).bind classifyMz = none

instance (d : Bytes) (start maxrange n : Nat) : Decidable (NoEarlierCandidate d start maxrange n) := by
  unfold NoEarlierCandidate; infer_instance

theorem firstHit_none (classify : Int → Option α) (d : Bytes) (start maxrange : Nat) (l : List Nat)
    (h : ∀ o ∈ l, (machineAt d (start + o) maxrange).bind classify = none) : firstHit classify d start maxrange l = none := by
  induction l with
  | nil => rfl
  | cons o os ih =>
    unfold firstHit
    rw [h o (by simp)]
    exact ih fun x hx => h x (by simp [hx])


theorem slice_prepend (P I : Bytes) (x n : Nat) : slice (P ++ I) (P.length + x) n = slice I x n := by
  simp [slice, List.drop_length_add_append]

theorem sliceOpt_prepend (P I : Bytes) (x n : Nat) : sliceOpt (P ++ I) (P.length + x) n = sliceOpt I x n := by
  simp [sliceOpt, slice_prepend]

theorem machineAt_prepend (P I : Bytes) (x maxrange : Nat) :
    machineAt (P ++ I) (P.length + x) maxrange = machineAt I x maxrange := by
  unfold machineAt
  rw [sliceOpt_prepend]
  cases sliceOpt I x dosHeaderSize with
  | none => rfl
  | some mz =>
    simp only
    have : P.length + x + 4 + (fieldVal mz dosLfanew).toNat = P.length + (x + 4 + (fieldVal mz dosLfanew).toNat) := by omega
    rw [this, sliceOpt_prepend]

theorem slice_slice (I : Bytes) (off n fo fs : Nat) (h : fo + fs ≤ n) :
    slice (slice I off n) fo fs = slice (I.drop off) fo fs := by
  unfold slice
  rw [List.drop_take, List.take_take]
  congr 1
  omega

theorem fieldVal_slice (I : Bytes) (off n : Nat) (fld : Field) (h : fld.off + fld.size ≤ n) :
    fieldVal (slice I off n) fld = fieldVal (I.drop off) fld := by
  unfold fieldVal
  rw [slice_slice I off n _ _ h]

/-! ### declarative view of a PE image `I` (absolute offsets inside the image) -/

namespace Img

/-- `IMAGE_DOS_HEADER.e_lfanew` (signed) -/
def lfanew (I : Bytes) : Int := fieldVal I dosLfanew
/-- offset of the PE signature -/
def nt (I : Bytes) : Nat := (lfanew I).toNat
/-- the `IMAGE_FILE_HEADER` starts 4 bytes after the signature -/
def fileHdr (I : Bytes) : Bytes := I.drop (nt I + 4)
def machine (I : Bytes) : Int := fieldVal (fileHdr I) fhMachine
def is64 (I : Bytes) : Bool := decide (machine I = (machineAmd64 : Int))
def compileStamp (I : Bytes) : Int := fieldVal (fileHdr I) fhTimeDateStamp
def nsec (I : Bytes) : Nat := (fieldVal (fileHdr I) fhNumberOfSections).toNat
def optOff (I : Bytes) : Nat := nt I + 4 + fileHeaderSize
def optHdr (I : Bytes) : Bytes := I.drop (optOff I)
def exportRva (I : Bytes) : Int := fieldVal (optHdr I) (optExportVA (is64 I))
def sizeOfHeaders (I : Bytes) : Int := fieldVal (optHdr I) (optSizeOfHeaders (is64 I))
def secOff (I : Bytes) (i : Nat) : Nat := optOff I + optSize (is64 I) + sectionSize * i
def sections (I : Bytes) : List Bytes := (List.range (nsec I)).map fun i => slice I (secOff I i) sectionSize
def headersEnd (I : Bytes) : Nat := secOff I (nsec I)

end Img

/-- `P ++ I` is a stage: image `I` with a valid DOS/file header, preceded by `P`, and no earlier offset passes the test. -/
structure Stage (P I : Bytes) (maxrange : Nat) : Prop where
  dos : dosHeaderSize ≤ I.length
  lfanew_pos : 0 < Img.lfanew I
  lfanew_lt : Img.lfanew I < (maxrange : Int)
  fileHeader : Img.optOff I ≤ I.length
  machine : Img.machine I = (machineAmd64 : Int) ∨ Img.machine I = (machineI386 : Int)
  prepend : P.length < maxrange
  first : NoEarlierCandidate (P ++ I) 0 maxrange P.length

/-- the part of the stage hypothesis that only concerns the image -/
structure ImageOK (I : Bytes) (maxrange : Nat) : Prop where
  dos : dosHeaderSize ≤ I.length
  lfanew_pos : 0 < Img.lfanew I
  lfanew_lt : Img.lfanew I < (maxrange : Int)
  fileHeader : Img.optOff I ≤ I.length
  machine : Img.machine I = (machineAmd64 : Int) ∨ Img.machine I = (machineI386 : Int)

theorem Stage.image {P I : Bytes} {maxrange : Nat} (h : Stage P I maxrange) : ImageOK I maxrange :=
  ⟨h.dos, h.lfanew_pos, h.lfanew_lt, h.fileHeader, h.machine⟩

/-- `J ++ P ++ I` searched with `start_offset = |J|`: `J` are the bytes in front of the start offset (never inspected by the
scan), `P` the bytes between the start offset and the image, `|P| < maxrange`, and no offset `|J| + o` with `o < |P|` passes
the e_lfanew + Machine test. `Stage P I m` gives `StageAt [] P I m` (`Stage.at`). -/
structure StageAt (J P I : Bytes) (maxrange : Nat) : Prop where
  image : ImageOK I maxrange
  prepend : P.length < maxrange
  first : NoEarlierCandidate (J ++ P ++ I) J.length maxrange P.length

theorem Stage.at {P I : Bytes} {maxrange : Nat} (h : Stage P I maxrange) : StageAt [] P I maxrange :=
  ⟨h.image, h.prepend, h.first⟩

theorem dosHdr_lfanew (I : Bytes) : fieldVal (slice I 0 dosHeaderSize) dosLfanew = Img.lfanew I := by
  rw [fieldVal_slice _ _ _ _ (by decide)]; rfl

theorem fileHdr_machine (I : Bytes) : fieldVal (slice I (Img.nt I + 4) fileHeaderSize) fhMachine = Img.machine I := by
  rw [fieldVal_slice _ _ _ _ (by decide)]; rfl

theorem fileHdr_stamp (I : Bytes) : fieldVal (slice I (Img.nt I + 4) fileHeaderSize) fhTimeDateStamp = Img.compileStamp I := by
  rw [fieldVal_slice _ _ _ _ (by decide)]; rfl

theorem fileHdr_nsec (I : Bytes) : (fieldVal (slice I (Img.nt I + 4) fileHeaderSize) fhNumberOfSections).toNat = Img.nsec I := by
  rw [fieldVal_slice _ _ _ _ (by decide)]; rfl

theorem machineAt_image (I : Bytes) (maxrange : Nat) (hd : dosHeaderSize ≤ I.length)
    (h1 : 0 < Img.lfanew I) (h2 : Img.lfanew I < (maxrange : Int)) (hf : Img.optOff I ≤ I.length) :
    machineAt I 0 maxrange = some (Img.machine I) := by
  unfold machineAt
  rw [sliceOpt_ok I 0 dosHeaderSize (by omega)]
  simp only
  rw [dosHdr_lfanew, if_pos ⟨h1, h2⟩]
  have hoff : 0 + 4 + (Img.lfanew I).toNat = Img.nt I + 4 := by unfold Img.nt; omega
  rw [hoff, sliceOpt_ok I _ _ (by unfold Img.optOff at hf; omega)]
  simp only
  rw [fileHdr_machine]

/-- architecture encoded in the image -/
def Img.arch (I : Bytes) : Arch := if Img.is64 I then .x64 else .x86

theorem classifyArch_none_of_mz (m : Int) (h : classifyMz m = none) : classifyArch m = none := by
  unfold classifyMz at h
  unfold classifyArch
  split at h
  · cases h
  · rename_i hn
    rw [if_neg (fun e => hn (Or.inl e)), if_neg (fun e => hn (Or.inr e))]

theorem noEarlier_arch {d : Bytes} {start maxrange n : Nat} (h : NoEarlierCandidate d start maxrange n) :
    ∀ o, o < n → (machineAt d (start + o) maxrange).bind classifyArch = none := by
  intro o ho
  have := h o ho
  cases hm : machineAt d (start + o) maxrange with
  | none => rfl
  | some m =>
    rw [hm] at this
    simp only [Option.bind_some] at this ⊢
    exact classifyArch_none_of_mz m this

/-! ### stepping through `Q ++ I` (`Q` = everything in front of the image) -/

theorem readStruct_stage (Q I : Bytes) (x n : Nat) (k : FileKind) (h : x + n ≤ I.length) :
    readStruct ⟨Q ++ I, Q.length + x, k⟩ n = (some (slice I x n), ⟨Q ++ I, Q.length + (x + n), k⟩) := by
  rw [readStruct_ok _ _ _ _ (by simp; omega), slice_prepend]
  congr 2
  omega

theorem readStruct_stage_short (Q I : Bytes) (x n : Nat) (k : FileKind) (h : I.length < x + n) (hn : 0 < n) :
    (readStruct ⟨Q ++ I, Q.length + x, k⟩ n).1 = none := by
  rw [readStruct_fst]
  simp only
  rw [sliceOpt_prepend, sliceOpt_none _ _ _ h hn]

theorem readSections_ok (d : Bytes) (k : FileKind) (n p : Nat) (h : p + sectionSize * n ≤ d.length) :
    readSections n ⟨d, p, k⟩ =
      (some ((List.range n).map fun i => slice d (p + sectionSize * i) sectionSize), ⟨d, p + sectionSize * n, k⟩) := by
  induction n generalizing p with
  | zero => simp [readSections]
  | succ n ih =>
    rw [Nat.mul_succ] at h
    have e : ∀ i, p + sectionSize + sectionSize * i = p + sectionSize * (i + 1) := fun i => by rw [Nat.mul_succ]; omega
    unfold readSections
    rw [readStruct_ok _ _ _ _ (by omega)]
    simp only
    rw [ih (p + sectionSize) (by omega)]
    simp only [List.range_succ_eq_map, List.map_cons, List.map_map, e, Nat.mul_zero, Nat.add_zero]
    rfl

theorem readSections_stage (Q I : Bytes) (k : FileKind) (n x : Nat) (h : x + sectionSize * n ≤ I.length) :
    readSections n ⟨Q ++ I, Q.length + x, k⟩ =
      (some ((List.range n).map fun i => slice I (x + sectionSize * i) sectionSize),
        ⟨Q ++ I, Q.length + (x + sectionSize * n), k⟩) := by
  rw [readSections_ok _ _ _ _ (by simp only [List.length_append]; omega)]
  have hm : ((List.range n).map fun i => slice (Q ++ I) (Q.length + x + sectionSize * i) sectionSize)
      = ((List.range n).map fun i => slice I (x + sectionSize * i) sectionSize) := by
    apply List.map_congr_left
    intro i _
    rw [Nat.add_assoc, slice_prepend]
  rw [hm, Nat.add_assoc]

theorem leNat_nonneg_field (buf : Bytes) (fld : Field) (h : fld.signed = false) : 0 ≤ fieldVal buf fld := by
  unfold fieldVal
  simp [h]

theorem readStruct_image (Q I : Bytes) (x n : Nat) (k : FileKind) :
    readStruct ⟨Q ++ I, Q.length + x, k⟩ n
      = (sliceOpt I x n, ⟨Q ++ I, Q.length + (x + (slice I x n).length), k⟩) := by
  rw [readStruct_eq, sliceOpt_prepend, slice_prepend, Nat.add_assoc]

theorem image_classifyMz {I : Bytes} {maxrange : Nat} (h : ImageOK I maxrange) :
    classifyMz (Img.machine I) = some () := by
  unfold classifyMz; rw [if_pos h.machine]

theorem image_classifyArch {I : Bytes} {maxrange : Nat} (h : ImageOK I maxrange) :
    classifyArch (Img.machine I) = some (Img.arch I) := by
  unfold classifyArch Img.arch Img.is64
  rcases h.machine with hm | hm
  · simp [hm]
  · have : ¬ ((machineI386 : Int) = (machineAmd64 : Int)) := by decide
    simp [hm, this]

theorem machineAt_at (Q I : Bytes) {maxrange : Nat} (h : ImageOK I maxrange) :
    machineAt (Q ++ I) Q.length maxrange = some (Img.machine I) := by
  have := machineAt_prepend Q I 0 maxrange
  simp only [Nat.add_zero] at this
  rw [this]
  exact machineAt_image I maxrange h.dos h.lfanew_pos h.lfanew_lt h.fileHeader

theorem readDos_image (Q I : Bytes) {maxrange : Nat} (h : ImageOK I maxrange) (k : FileKind) :
    readStruct ⟨Q ++ I, Q.length, k⟩ dosHeaderSize
      = (some (slice I 0 dosHeaderSize), ⟨Q ++ I, Q.length + dosHeaderSize, k⟩) := by
  simpa using readStruct_stage Q I 0 dosHeaderSize k (by have := h.dos; omega)

theorem readFileHdr_image (Q I : Bytes) {maxrange : Nat} (h : ImageOK I maxrange) (k : FileKind) :
    readStruct ⟨Q ++ I, Q.length + (Img.nt I + 4), k⟩ fileHeaderSize
      = (some (slice I (Img.nt I + 4) fileHeaderSize), ⟨Q ++ I, Q.length + Img.optOff I, k⟩) :=
  readStruct_stage Q I (Img.nt I + 4) fileHeaderSize k h.fileHeader

theorem probe_image (Q I : Bytes) {maxrange : Nat} (h : ImageOK I maxrange) (p : Nat) (k : FileKind) :
    probe ⟨Q ++ I, p, k⟩ Q.length maxrange = (some (Img.machine I), ⟨Q ++ I, Q.length + Img.optOff I, k⟩) := by
  have hpos := h.lfanew_pos
  have hoff : Q.length + 4 + (Img.lfanew I).toNat = Q.length + (Img.nt I + 4) := by unfold Img.nt; omega
  unfold probe
  simp only [seekNat_mk, readDos_image Q I h, dosHdr_lfanew, if_pos (And.intro h.lfanew_pos h.lfanew_lt), hoff,
    readFileHdr_image Q I h, fileHdr_machine]

/-- the loop body starts with an absolute seek: it does not depend on the position it finds -/
theorem probe_pos_indep (d : Bytes) (p q : Nat) (k : FileKind) (base maxrange : Nat) :
    probe ⟨d, p, k⟩ base maxrange = probe ⟨d, q, k⟩ base maxrange := rfl

theorem scanLoop_first (classify : Int → Option α) (start maxrange s len k : Nat) (a : α) (f : PyFile)
    (hk : s ≤ k ∧ k < s + len)
    (hit : (machineAt f.data (start + k) maxrange).bind classify = some a)
    (hno : ∀ o, s ≤ o → o < k → (machineAt f.data (start + o) maxrange).bind classify = none) :
    scanLoop classify start maxrange (List.range' s len) f
      = (some (start + k, a), (probe ⟨f.data, 0, f.kind⟩ (start + k) maxrange).2) := by
  induction len generalizing s f with
  | zero => omega
  | succ len ih =>
    obtain ⟨d, p, kd⟩ := f
    obtain ⟨h1, h2, h3⟩ := probe_spec ⟨d, p, kd⟩ (start + s) maxrange
    rw [List.range'_succ]
    unfold scanLoop
    by_cases hs : s = k
    · -- the head is the accepted offset: `probe` reports what `machineAt` sees (`h1`)
      subst hs
      rw [← h1] at hit
      rw [probe_pos_indep d 0 p kd]
      generalize probe ⟨d, p, kd⟩ (start + s) maxrange = r at hit ⊢
      obtain ⟨_ | m, f1⟩ := r
      · cases hit
      · simp only [Option.bind_some] at hit
        simp only [hit]
    · -- the head misses; same bytes and kind afterwards (`h2`, `h3`), so the hypotheses hold for the tail
      have hmiss := hno s (Nat.le_refl s) (by omega)
      rw [← h1] at hmiss
      have hrec := fun f1 (hd : f1.data = d) (hkd : f1.kind = kd) =>
        ih (s + 1) f1 (by omega) (by rw [hd]; exact hit) (fun o ho hok => by rw [hd]; exact hno o (by omega) hok)
      simp only at h2 h3 hit hrec
      generalize probe ⟨d, p, kd⟩ (start + s) maxrange = r at hmiss h2 h3 ⊢
      obtain ⟨_ | m, f1⟩ := r
      · simp only
        rw [hrec f1 h2 h3, h2, h3]
      · simp only [Option.bind_some] at hmiss
        simp only [hmiss]
        rw [hrec f1 h2 h3, h2, h3]

theorem scanLoop_pos_indep (classify : Int → Option α) (start maxrange : Nat) (offs : List Nat) (hne : offs ≠ [])
    (d : Bytes) (p q : Nat) (k : FileKind) :
    scanLoop classify start maxrange offs ⟨d, p, k⟩ = scanLoop classify start maxrange offs ⟨d, q, k⟩ := by
  cases offs with
  | nil => exact absurd rfl hne
  | cons off rest =>
    unfold scanLoop
    rw [probe_pos_indep d p q k]

theorem scanLoop_at {classify : Int → Option α} {J P I : Bytes} {maxrange : Nat} (h : StageAt J P I maxrange) (a : α)
    (hit : classify (Img.machine I) = some a)
    (hno : ∀ o, o < P.length → (machineAt (J ++ P ++ I) (J.length + o) maxrange).bind classify = none)
    (pos : Nat) (k : FileKind) :
    scanLoop classify J.length maxrange (List.range maxrange) ⟨J ++ P ++ I, pos, k⟩
      = (some (J.length + P.length, a), ⟨J ++ P ++ I, J.length + P.length + Img.optOff I, k⟩) := by
  have hlen : (J ++ P).length = J.length + P.length := List.length_append
  have hhit : (machineAt (J ++ P ++ I) (J.length + P.length) maxrange).bind classify = some a := by
    rw [← hlen, machineAt_at (J ++ P) I h.image, Option.bind_some, hit]
  have hbound : 0 ≤ P.length ∧ P.length < 0 + maxrange := ⟨Nat.zero_le _, by have := h.prepend; omega⟩
  rw [List.range_eq_range', scanLoop_first classify J.length maxrange 0 maxrange P.length a ⟨J ++ P ++ I, pos, k⟩ hbound hhit
    (fun o _ ho => hno o ho), ← hlen, probe_image (J ++ P) I h.image 0 k, hlen]

theorem findMzOffset_at {J P I : Bytes} {maxrange : Nat} (h : StageAt J P I maxrange) (pos : Nat) (k : FileKind) :
    findMzOffset ⟨J ++ P ++ I, pos, k⟩ (some J.length) maxrange
      = (some (J.length + P.length), ⟨J ++ P ++ I, J.length + P.length + Img.optOff I, k⟩) := by
  unfold findMzOffset startOf
  rw [scanLoop_at h () (image_classifyMz h.image) h.first]

theorem findArchitecture_at {J P I : Bytes} {maxrange : Nat} (h : StageAt J P I maxrange) (pos : Nat) (k : FileKind) :
    findArchitecture ⟨J ++ P ++ I, pos, k⟩ (some J.length) maxrange
      = (some (Img.arch I), ⟨J ++ P ++ I, J.length + P.length + Img.optOff I, k⟩) := by
  unfold findArchitecture startOf
  rw [scanLoop_at h _ (image_classifyArch h.image) (noEarlier_arch h.first)]

theorem findMzOffset_stage {P I : Bytes} {maxrange : Nat} (h : Stage P I maxrange) (pos : Nat) (k : FileKind) :
    ∃ p', findMzOffset ⟨P ++ I, pos, k⟩ (some 0) maxrange = (some P.length, ⟨P ++ I, p', k⟩) :=
  ⟨_, by simpa using findMzOffset_at h.at pos k⟩

theorem findArchitecture_stage {P I : Bytes} {maxrange : Nat} (h : Stage P I maxrange) (pos : Nat) (k : FileKind) :
    (findArchitecture ⟨P ++ I, pos, k⟩ (some 0) maxrange).1 = some (Img.arch I) :=
  congrArg Prod.fst (findArchitecture_at h.at pos k)

theorem optSize_fields (b : Bool) :
    (optExportVA b).off + (optExportVA b).size ≤ optSize b ∧ (optSizeOfHeaders b).off + (optSizeOfHeaders b).size ≤ optSize b
    ∧ (optExportVA b).signed = false ∧ (optSizeOfHeaders b).signed = false := by
  cases b <;> decide

namespace Img

/-- export timestamp of the image: the `IMAGE_EXPORT_DIRECTORY` located through the first section
(in header order) that contains the export RVA; `none` when no section contains it or the directory is cut off. -/
def exportStamp (I : Bytes) : Option Int :=
  match (sections I).find? (sectionContains (exportRva I)) with
  | none => none
  | some ds =>
    let off := (exportRva I - fieldVal ds secVirtualAddress + fieldVal ds secPointerToRawData).toNat
    if off + exportDirSize ≤ I.length then some (fieldVal (I.drop off) expTimeDateStamp) else none

/-- offset inside the image at which `find_compile_stamps` stops reading: the end of the section table, or the end of the
(possibly short) export-directory read -/
def stampsEnd (I : Bytes) : Nat :=
  match (sections I).find? (sectionContains (exportRva I)) with
  | none => headersEnd I
  | some ds =>
    let off := (exportRva I - fieldVal ds secVirtualAddress + fieldVal ds secPointerToRawData).toNat
    off + (slice I off exportDirSize).length

end Img

theorem compileStampsAt_image {I : Bytes} {maxrange : Nat} (Q : Bytes) (h : ImageOK I maxrange)
    (hc : Img.headersEnd I ≤ I.length) (pos : Nat) (k : FileKind) :
    compileStampsAt ⟨Q ++ I, pos, k⟩ Q.length
      = (.ok (some (Img.compileStamp I), Img.exportStamp I), ⟨Q ++ I, Q.length + Img.stampsEnd I, k⟩) := by
  have hpos := h.lfanew_pos
  have hf := h.fileHeader
  have hnt : ((Img.lfanew I) + (Q.length : Int)).toNat = Q.length + Img.nt I := by unfold Img.nt; omega
  have hend : Img.headersEnd I = Img.optOff I + optSize (Img.is64 I) + sectionSize * Img.nsec I := rfl
  obtain ⟨f1, _, f3, _⟩ := optSize_fields (Img.is64 I)
  have hrva : fieldVal (slice I (Img.optOff I) (optSize (Img.is64 I))) (optExportVA (Img.is64 I)) = Img.exportRva I := by
    rw [fieldVal_slice _ _ _ _ f1]; rfl
  unfold compileStampsAt
  simp only [seekNat_mk, readDos_image Q I h, dosHdr_lfanew, seekSet_nonneg _ _ _ _ (show 0 ≤ Img.lfanew I + (Q.length : Int) by omega), hnt]
  rw [readStruct_stage Q I (Img.nt I) sigSize k (by have : sigSize = 4 := rfl; unfold Img.optOff at hf; omega)]
  simp only [show Img.nt I + sigSize = Img.nt I + 4 from rfl, readFileHdr_image Q I h, fileHdr_machine, fileHdr_stamp, fileHdr_nsec]
  rw [show decide (Img.machine I = (machineAmd64 : Int)) = Img.is64 I from rfl,
    readStruct_stage Q I (Img.optOff I) (optSize (Img.is64 I)) k (by omega)]
  simp only [hrva]
  rw [readSections_stage Q I k (Img.nsec I) (Img.optOff I + optSize (Img.is64 I)) (by omega)]
  simp only
  have hsec : ((List.range (Img.nsec I)).map fun i => slice I (Img.optOff I + optSize (Img.is64 I) + sectionSize * i) sectionSize)
      = Img.sections I := rfl
  rw [hsec]
  unfold Img.exportStamp Img.stampsEnd
  cases hfind : (Img.sections I).find? (sectionContains (Img.exportRva I)) with
  | none => rfl
  | some ds =>
    simp only
    have hcont := List.find?_some hfind
    simp only [sectionContains, decide_eq_true_eq] at hcont
    have hp : 0 ≤ fieldVal ds secPointerToRawData := leNat_nonneg_field _ _ (by decide)
    have hoff : (Img.exportRva I - fieldVal ds secVirtualAddress + fieldVal ds secPointerToRawData + (Q.length : Int)).toNat
        = Q.length + (Img.exportRva I - fieldVal ds secVirtualAddress + fieldVal ds secPointerToRawData).toNat := by omega
    rw [seekSet_nonneg _ _ _ _ (by omega), hoff]
    simp only
    rw [readStruct_image]
    by_cases hfit : (Img.exportRva I - fieldVal ds secVirtualAddress + fieldVal ds secPointerToRawData).toNat + exportDirSize ≤ I.length
    · rw [sliceOpt_ok _ _ _ hfit, if_pos hfit]
      simp only
      rw [fieldVal_slice _ _ _ _ (by decide)]
    · rw [sliceOpt_none _ _ _ (by omega) (by decide), if_neg hfit]


theorem read_stage (Q I : Bytes) (x n : Nat) (k : FileKind) :
    PyFile.read ⟨Q ++ I, Q.length + x, k⟩ (n : Int) = (slice I x n, ⟨Q ++ I, Q.length + x + (slice I x n).length, k⟩) := by
  have hr : (PyFile.read ⟨Q ++ I, Q.length + x, k⟩ (n : Int)).1 = slice I x n := by
    rw [PyFile.read_nonneg]
    exact slice_prepend Q I x n
  have h2 : (PyFile.read ⟨Q ++ I, Q.length + x, k⟩ (n : Int)).2
      = ⟨Q ++ I, Q.length + x + (PyFile.read ⟨Q ++ I, Q.length + x, k⟩ (n : Int)).1.length, k⟩ := rfl
  rw [hr] at h2
  exact Prod.ext hr h2

namespace Img

/-- `magic_mz`: the bytes of the first 256 image bytes that precede the DOS-stub marker (x86 marker searched first). -/
def magicMz (I : Bytes) : Option Bytes :=
  match (match findSub dosHeaderX86 (slice I 0 256) 0 with
         | some p => some p
         | none => findSub dosHeaderX64 (slice I 0 256) 0) with
  | some p => some ((slice I 0 256).take p)
  | none => none

/-- `magic_pe`: the four signature bytes without trailing NULs -/
def magicPe (I : Bytes) : Bytes := rstrip0 (slice I (nt I) 4)

/-- `SizeOfHeaders + Σ SizeOfRawData` -/
def totalSize (I : Bytes) : Int :=
  (sections I).foldl (fun acc s => acc + fieldVal s secSizeOfRawData) (sizeOfHeaders I)

/-- bytes after the image (at most 1024, NUL padding removed); `none` when nothing follows -/
def append (I : Bytes) : Option Bytes :=
  if (slice I (totalSize I).toNat 1024).isEmpty then none else some (rstrip0 (slice I (totalSize I).toNat 1024))

end Img

def prependOf (P : Bytes) : Option Bytes := if P.length > 0 then some P else none

theorem magicMzAt_image (Q I : Bytes) (pos : Nat) (k : FileKind) :
    magicMzAt ⟨Q ++ I, pos, k⟩ Q.length = (Img.magicMz I, ⟨Q ++ I, Q.length + (slice I 0 256).length, k⟩) := by
  unfold magicMzAt Img.magicMz
  simp only [seekNat_mk]
  have := read_stage Q I 0 256 k
  simp only [Nat.add_zero] at this
  have h256 : ((256 : Nat) : Int) = 256 := rfl
  rw [h256] at this
  rw [this]
  simp only
  cases findSub dosHeaderX86 (slice I 0 256) 0 with
  | some p => rfl
  | none =>
    simp only
    cases findSub dosHeaderX64 (slice I 0 256) 0 <;> rfl

theorem magicPeAt_image {I : Bytes} {maxrange : Nat} (Q : Bytes) (h : ImageOK I maxrange) (pos : Nat) (k : FileKind) :
    magicPeAt ⟨Q ++ I, pos, k⟩ Q.length = (.ok (some (Img.magicPe I)), ⟨Q ++ I, Q.length + (Img.nt I + 4), k⟩) := by
  have hpos := h.lfanew_pos
  have hf := h.fileHeader
  have hnt : ((Img.lfanew I) + (Q.length : Int)).toNat = Q.length + Img.nt I := by unfold Img.nt; omega
  have hl : (slice I (Img.nt I) 4).length = 4 := by rw [slice_length]; unfold Img.optOff at hf; omega
  unfold magicPeAt
  simp only [seekNat_mk, readDos_image Q I h, dosHdr_lfanew, seekSet_nonneg _ _ _ _ (show 0 ≤ Img.lfanew I + (Q.length : Int) by omega), hnt]
  rw [show (4 : Int) = ((4 : Nat) : Int) from rfl, read_stage Q I (Img.nt I) 4 k, hl, Nat.add_assoc]
  rfl

theorem foldl_rawsize_nonneg (secs : List Bytes) (init : Int) (h : 0 ≤ init) :
    0 ≤ secs.foldl (fun acc s => acc + fieldVal s secSizeOfRawData) init := by
  induction secs generalizing init with
  | nil => simpa
  | cons s ss ih =>
    simp only [List.foldl_cons]
    apply ih
    have := leNat_nonneg_field s secSizeOfRawData (by decide)
    omega

theorem prependAppendAt_image {I : Bytes} {maxrange : Nat} (Q : Bytes) (h : ImageOK I maxrange)
    (hc : Img.headersEnd I ≤ I.length) (pos : Nat) (k : FileKind) :
    prependAppendAt ⟨Q ++ I, pos, k⟩ Q.length
      = (.ok (prependOf Q, Img.append I),
          ⟨Q ++ I, Q.length + (Img.totalSize I).toNat + (slice I (Img.totalSize I).toNat 1024).length, k⟩) := by
  have hd := h.dos
  have hpos := h.lfanew_pos
  have hf := h.fileHeader
  have hnt : ((Img.lfanew I) + (Q.length : Int) + 4).toNat = Q.length + (Img.nt I + 4) := by unfold Img.nt; omega
  have hpre : ∃ p', (if Q.length > 0 then
        (some ((seekNat ⟨Q ++ I, pos, k⟩ 0).read (Q.length : Int)).1, ((seekNat ⟨Q ++ I, pos, k⟩ 0).read (Q.length : Int)).2)
      else ((none : Option Bytes), (⟨Q ++ I, pos, k⟩ : PyFile))) = (prependOf Q, ⟨Q ++ I, p', k⟩) := by
    unfold prependOf
    by_cases hp : Q.length > 0
    · rw [if_pos hp, if_pos hp]
      have hr : ((seekNat ⟨Q ++ I, pos, k⟩ 0).read (Q.length : Int)).1 = Q := by
        rw [PyFile.read_nonneg]; simp
      refine ⟨_, Prod.ext (by simp only [hr]) rfl⟩
    · rw [if_neg hp, if_neg hp]
      exact ⟨pos, rfl⟩
  obtain ⟨p', hpre⟩ := hpre
  have hend : Img.headersEnd I = Img.optOff I + optSize (Img.is64 I) + sectionSize * Img.nsec I := rfl
  unfold prependAppendAt
  simp only
  rw [hpre]
  simp only [seekNat_mk, readDos_image Q I h, dosHdr_lfanew, seekSet_nonneg _ _ _ _ (show 0 ≤ Img.lfanew I + (Q.length : Int) + 4 by omega), hnt,
    readFileHdr_image Q I h, fileHdr_machine, fileHdr_nsec, if_pos h.machine]
  rw [show decide (Img.machine I = (machineAmd64 : Int)) = Img.is64 I from rfl,
    readStruct_stage Q I (Img.optOff I) (optSize (Img.is64 I)) k (by omega)]
  simp only
  rw [readSections_stage Q I k (Img.nsec I) (Img.optOff I + optSize (Img.is64 I)) (by omega)]
  simp only
  obtain ⟨_, f2, _, f4⟩ := optSize_fields (Img.is64 I)
  have htot : totalSize (slice I (Img.optOff I) (optSize (Img.is64 I))) (Img.is64 I)
      ((List.range (Img.nsec I)).map fun i => slice I (Img.optOff I + optSize (Img.is64 I) + sectionSize * i) sectionSize)
      = Img.totalSize I := by
    unfold totalSize Img.totalSize
    rw [fieldVal_slice _ _ _ _ f2]
    rfl
  rw [htot]
  have hnn : 0 ≤ Img.totalSize I := by
    unfold Img.totalSize
    apply foldl_rawsize_nonneg
    exact leNat_nonneg_field _ _ f4
  have hoff : ((Q.length : Int) + Img.totalSize I).toNat = Q.length + (Img.totalSize I).toNat := by omega
  rw [seekSet_nonneg _ _ _ _ (by omega), hoff]
  simp only
  have h1024 : ((1024 : Nat) : Int) = 1024 := rfl
  have := read_stage Q I (Img.totalSize I).toNat 1024 k
  rw [h1024] at this
  rw [this]
  unfold Img.append
  simp only
  split <;> rfl


theorem optSize_pos (b : Bool) : 0 < optSize b := by cases b <;> decide

/-- truncated optional header: "return what we have" — the compile stamp is still reported -/
theorem compileStampsAt_image_truncated {I : Bytes} {maxrange : Nat} (Q : Bytes) (h : ImageOK I maxrange)
    (hc : I.length < Img.optOff I + optSize (Img.is64 I)) (pos : Nat) (k : FileKind) :
    (compileStampsAt ⟨Q ++ I, pos, k⟩ Q.length).1 = .ok (some (Img.compileStamp I), none) := by
  have hpos := h.lfanew_pos
  have hf := h.fileHeader
  have hnt : ((Img.lfanew I) + (Q.length : Int)).toNat = Q.length + Img.nt I := by unfold Img.nt; omega
  unfold compileStampsAt
  simp only [seekNat_mk, readDos_image Q I h, dosHdr_lfanew, seekSet_nonneg _ _ _ _ (show 0 ≤ Img.lfanew I + (Q.length : Int) by omega), hnt]
  rw [readStruct_stage Q I (Img.nt I) sigSize k (by have : sigSize = 4 := rfl; unfold Img.optOff at hf; omega)]
  simp only [show Img.nt I + sigSize = Img.nt I + 4 from rfl, readFileHdr_image Q I h, fileHdr_machine, fileHdr_stamp]
  rw [show decide (Img.machine I = (machineAmd64 : Int)) = Img.is64 I from rfl]
  have hs := readStruct_stage_short Q I (Img.optOff I) (optSize (Img.is64 I)) k hc (optSize_pos _)
  rcases hr : readStruct ⟨Q ++ I, Q.length + Img.optOff I, k⟩ (optSize (Img.is64 I)) with ⟨r, f6⟩
  rw [hr] at hs
  simp only at hs
  subst hs
  rfl

/-! ## the generic (FileLike) functions agree with the PyFile versions, and no function touches bytes or kind

Not instances of each other: a generic function that raises answers the exception alone, a PyFile function also hands back
the file it raised on (the history theorems speak about it); `liftPy` forgets that file. -/

/-- same underlying bytes and file kind (only the position may differ) -/
def SameFile (f g : PyFile) : Prop := g.data = f.data ∧ g.kind = f.kind

theorem SameFile.refl (f : PyFile) : SameFile f f := ⟨rfl, rfl⟩
theorem SameFile.trans {f g h : PyFile} (a : SameFile f g) (b : SameFile g h) : SameFile f h :=
  ⟨b.1.trans a.1, b.2.trans a.2⟩

theorem same_seekNat (f : PyFile) (n : Nat) : SameFile f (seekNat f n) := ⟨rfl, rfl⟩
theorem same_read (f : PyFile) (n : Int) : SameFile f (f.read n).2 := ⟨rfl, rfl⟩
theorem same_readStruct (f : PyFile) (n : Nat) : SameFile f (readStruct f n).2 := readStruct_data f n
theorem same_seekSet {f : PyFile} {x : Int} {n : Nat} {g : PyFile} (h : f.seekSet x = .ok (n, g)) : SameFile f g := by
  unfold PyFile.seekSet at h
  split at h
  · cases h
  · injection h with h; injection h with _ h; subst h; exact ⟨rfl, rfl⟩

theorem same_readSections (n : Nat) (f : PyFile) : SameFile f (readSections n f).2 := by
  induction n generalizing f with
  | zero => exact SameFile.refl f
  | succ n ih =>
    unfold readSections
    have h1 := same_readStruct f sectionSize
    rcases hr : readStruct f sectionSize with ⟨_ | b, f1⟩
    · rw [hr] at h1; exact h1
    · rw [hr] at h1
      simp only
      have h2 := ih f1
      rcases hs : readSections n f1 with ⟨_ | bs, f2⟩ <;> (rw [hs] at h2; exact h1.trans h2)

theorem same_findMzOffset (f : PyFile) (start : Option Nat) (maxrange : Nat) :
    SameFile f (findMzOffset f start maxrange).2 := by
  obtain ⟨_, h2, h3⟩ := scanLoop_spec classifyMz (startOf f start) maxrange (List.range maxrange) f
  unfold findMzOffset
  rcases hr : scanLoop classifyMz (startOf f start) maxrange (List.range maxrange) f with ⟨_ | ⟨o, u⟩, f1⟩ <;>
    (rw [hr] at h2 h3; exact ⟨h2, h3⟩)

theorem same_findArchitecture (f : PyFile) (start : Option Nat) (maxrange : Nat) :
    SameFile f (findArchitecture f start maxrange).2 := by
  obtain ⟨_, h2, h3⟩ := scanLoop_spec classifyArch (startOf f start) maxrange (List.range maxrange) f
  unfold findArchitecture
  rcases hr : scanLoop classifyArch (startOf f start) maxrange (List.range maxrange) f with ⟨_ | ⟨o, u⟩, f1⟩ <;>
    (rw [hr] at h2 h3; exact ⟨h2, h3⟩)


theorem generic_readStruct (f : PyFile) (n : Nat) :
    Generic.readStruct pyFileLike f n = .ok (readStruct f n) := by
  unfold Generic.readStruct readStruct pyFileLike
  simp only
  split <;> rfl

theorem generic_probe (f : PyFile) (base maxrange : Nat) :
    Generic.probe pyFileLike f (base : Int) maxrange = .ok (probe f base maxrange) := by
  unfold Generic.probe probe
  have hs : pyFileLike.seek f (base : Int) = .ok (base, seekNat f base) := PyFile.seekSet_ok f base
  rw [hs]
  simp only [generic_readStruct]
  rcases readStruct (seekNat f base) dosHeaderSize with ⟨_ | mz, f2⟩
  · rfl
  · simp only
    split
    · rename_i h
      have hs2 : pyFileLike.seek f2 ((base : Int) + 4 + fieldVal mz dosLfanew)
          = .ok (base + 4 + (fieldVal mz dosLfanew).toNat, seekNat f2 (base + 4 + (fieldVal mz dosLfanew).toNat)) :=
        seekNat_faithful f2 base _ h.1
      rw [hs2]
      simp only
      rcases readStruct (seekNat f2 (base + 4 + (fieldVal mz dosLfanew).toNat)) fileHeaderSize with ⟨_ | img, f4⟩ <;> rfl
    · rfl

theorem generic_scanLoop (classify : Int → Option α) (start maxrange : Nat) (offs : List Nat) (f : PyFile) :
    Generic.scanLoop pyFileLike classify (start : Int) maxrange offs f =
      .ok (((scanLoop classify start maxrange offs f).1.map fun p => ((p.1 : Int), p.2)), (scanLoop classify start maxrange offs f).2) := by
  induction offs generalizing f with
  | nil => rfl
  | cons off rest ih =>
    unfold Generic.scanLoop scanLoop
    have : (start : Int) + (off : Int) = ((start + off : Nat) : Int) := by omega
    rw [this, generic_probe]
    rcases probe f (start + off) maxrange with ⟨_ | m, f1⟩
    · simp only; exact ih f1
    · simp only
      cases classify m with
      | none => simp only; exact ih f1
      | some a => simp

theorem generic_findMzOffset (f : PyFile) (start : Option Nat) (maxrange : Nat) :
    Generic.findMzOffset pyFileLike f (start.map Int.ofNat) maxrange =
      .ok ((findMzOffset f start maxrange).1.map Int.ofNat, (findMzOffset f start maxrange).2) := by
  have hst : Generic.startOf pyFileLike f (start.map Int.ofNat) = ((startOf f start : Nat) : Int) := by
    cases start <;> rfl
  unfold Generic.findMzOffset findMzOffset
  rw [hst, generic_scanLoop]
  rcases scanLoop classifyMz (startOf f start) maxrange (List.range maxrange) f with ⟨_ | ⟨o, u⟩, f1⟩ <;> rfl

theorem generic_findArchitecture (f : PyFile) (start : Option Nat) (maxrange : Nat) :
    Generic.findArchitecture pyFileLike f (start.map Int.ofNat) maxrange = .ok (findArchitecture f start maxrange) := by
  have hst : Generic.startOf pyFileLike f (start.map Int.ofNat) = ((startOf f start : Nat) : Int) := by
    cases start <;> rfl
  unfold Generic.findArchitecture findArchitecture
  rw [hst, generic_scanLoop]
  rcases scanLoop classifyArch (startOf f start) maxrange (List.range maxrange) f with ⟨_ | ⟨o, u⟩, f1⟩ <;> rfl



theorem generic_readSections (n : Nat) (f : PyFile) :
    Generic.readSections pyFileLike n f = .ok (readSections n f) := by
  induction n generalizing f with
  | zero => rfl
  | succ n ih =>
    unfold Generic.readSections readSections
    rw [generic_readStruct]
    rcases readStruct f sectionSize with ⟨_ | b, f1⟩
    · rfl
    · simp only
      rw [ih f1]
      rcases readSections n f1 with ⟨_ | bs, f2⟩ <;> rfl

theorem pyFileLike_seek (f : PyFile) (x : Int) :
    pyFileLike.seek f x = f.seekSet x := rfl

theorem pyFileLike_read (f : PyFile) (n : Int) : pyFileLike.read f n = .ok (f.read n) := rfl

/-! one walk through each body proves both facts; `h… : SameFile f g` is carried along for the file `g` reached so far -/

theorem magicMzAt_agree (f : PyFile) (o : Nat) :
    Generic.magicMzAt pyFileLike f (o : Int) = .ok (magicMzAt f o) ∧ SameFile f (magicMzAt f o).2 := by
  unfold Generic.magicMzAt magicMzAt
  rw [show pyFileLike.seek f (o : Int) = .ok (o, seekNat f o) from PyFile.seekSet_ok f o]
  have h := (same_seekNat f o).trans (same_read (seekNat f o) 256)
  simp only [pyFileLike_read]
  cases findSub dosHeaderX86 ((seekNat f o).read 256).1 0 with
  | some p => exact ⟨rfl, h⟩
  | none =>
    simp only
    cases findSub dosHeaderX64 ((seekNat f o).read 256).1 0 <;> exact ⟨rfl, h⟩

theorem magicPeAt_agree (f : PyFile) (o : Nat) :
    Generic.magicPeAt pyFileLike f (o : Int) = liftPy (magicPeAt f o) ∧ SameFile f (magicPeAt f o).2 := by
  unfold Generic.magicPeAt magicPeAt
  rw [show pyFileLike.seek f (o : Int) = .ok (o, seekNat f o) from PyFile.seekSet_ok f o]
  simp only [generic_readStruct, pyFileLike_seek, pyFileLike_read]
  have h2 := (same_seekNat f o).trans (same_readStruct (seekNat f o) dosHeaderSize)
  generalize readStruct (seekNat f o) dosHeaderSize = r at h2 ⊢
  obtain ⟨_ | mz, f2⟩ := r
  · exact ⟨rfl, h2⟩
  simp only
  cases h3 : f2.seekSet (fieldVal mz dosLfanew + (o : Int)) with
  | error e => exact ⟨rfl, h2⟩
  | ok p3 => exact ⟨rfl, h2.trans ((same_seekSet h3).trans (same_read _ _))⟩

theorem compileStampsAt_agree (f : PyFile) (o : Nat) :
    Generic.compileStampsAt pyFileLike f (o : Int) = liftPy (compileStampsAt f o) ∧ SameFile f (compileStampsAt f o).2 := by
  unfold Generic.compileStampsAt compileStampsAt
  rw [show pyFileLike.seek f (o : Int) = .ok (o, seekNat f o) from PyFile.seekSet_ok f o]
  simp only [generic_readStruct, generic_readSections, pyFileLike_seek]
  have h2 := (same_seekNat f o).trans (same_readStruct (seekNat f o) dosHeaderSize)
  generalize readStruct (seekNat f o) dosHeaderSize = r at h2 ⊢
  obtain ⟨_ | mz, f2⟩ := r
  · exact ⟨rfl, h2⟩
  simp only
  cases h3 : f2.seekSet (fieldVal mz dosLfanew + (o : Int)) with
  | error e => exact ⟨rfl, h2⟩
  | ok p3 =>
  obtain ⟨n3, f3⟩ := p3
  have h4 := (h2.trans (same_seekSet h3)).trans (same_readStruct f3 sigSize)
  simp only
  generalize readStruct f3 sigSize = r at h4 ⊢
  obtain ⟨_ | sg, f4⟩ := r
  · exact ⟨rfl, h4⟩
  have h5 := h4.trans (same_readStruct f4 fileHeaderSize)
  simp only
  generalize readStruct f4 fileHeaderSize = r at h5 ⊢
  obtain ⟨_ | img, f5⟩ := r
  · exact ⟨rfl, h5⟩
  have h6 := h5.trans (same_readStruct f5 (optSize (decide (fieldVal img fhMachine = (machineAmd64 : Int)))))
  simp only
  generalize readStruct f5 (optSize (decide (fieldVal img fhMachine = (machineAmd64 : Int)))) = r at h6 ⊢
  obtain ⟨_ | opt, f6⟩ := r
  · exact ⟨rfl, h6⟩
  have h7 := h6.trans (same_readSections (fieldVal img fhNumberOfSections).toNat f6)
  simp only
  generalize readSections (fieldVal img fhNumberOfSections).toNat f6 = r at h7 ⊢
  obtain ⟨_ | secs, f7⟩ := r
  · exact ⟨rfl, h7⟩
  simp only
  cases List.find? (sectionContains (fieldVal opt (optExportVA (decide (fieldVal img fhMachine = (machineAmd64 : Int)))))) secs with
  | none => exact ⟨rfl, h7⟩
  | some ds =>
  simp only
  cases h8 : f7.seekSet (fieldVal opt (optExportVA (decide (fieldVal img fhMachine = (machineAmd64 : Int))))
      - fieldVal ds secVirtualAddress + fieldVal ds secPointerToRawData + (o : Int)) with
  | error e => exact ⟨rfl, h7⟩
  | ok p8 =>
  obtain ⟨n8, f8⟩ := p8
  have h9 := (h7.trans (same_seekSet h8)).trans (same_readStruct f8 exportDirSize)
  simp only
  generalize readStruct f8 exportDirSize = r at h9 ⊢
  obtain ⟨_ | ed, f9⟩ := r <;> exact ⟨rfl, h9⟩

theorem prependAppendAt_agree (f : PyFile) (o : Nat) :
    Generic.prependAppendAt pyFileLike f (o : Int) = liftPy (prependAppendAt f o) ∧ SameFile f (prependAppendAt f o).2 := by
  unfold Generic.prependAppendAt prependAppendAt
  have hpre : Generic.readPrepend pyFileLike f (o : Int)
        = .ok (if o > 0 then (some ((seekNat f 0).read (o : Int)).1, ((seekNat f 0).read (o : Int)).2) else (none, f))
      ∧ SameFile f (if o > 0 then (some ((seekNat f 0).read (o : Int)).1, ((seekNat f 0).read (o : Int)).2) else ((none : Option Bytes), f)).2 := by
    unfold Generic.readPrepend
    by_cases h : o > 0
    · rw [if_pos h, if_pos (show (o : Int) > 0 by omega),
        show pyFileLike.seek f 0 = .ok (0, seekNat f 0) from PyFile.seekSet_ok f 0]
      exact ⟨rfl, (same_seekNat f 0).trans (same_read _ _)⟩
    · rw [if_neg h, if_neg (show ¬ (o : Int) > 0 by omega)]
      exact ⟨rfl, SameFile.refl f⟩
  rw [hpre.1]
  have hp := hpre.2
  generalize (if o > 0 then (some ((seekNat f 0).read (o : Int)).1, ((seekNat f 0).read (o : Int)).2) else ((none : Option Bytes), f)) = pf at hp ⊢
  obtain ⟨prepend, fp⟩ := pf
  simp only at hp ⊢
  rw [show pyFileLike.seek fp (o : Int) = .ok (o, seekNat fp o) from PyFile.seekSet_ok fp o]
  simp only [generic_readStruct, generic_readSections, pyFileLike_seek, pyFileLike_read]
  have h2 := (hp.trans (same_seekNat fp o)).trans (same_readStruct (seekNat fp o) dosHeaderSize)
  generalize readStruct (seekNat fp o) dosHeaderSize = r at h2 ⊢
  obtain ⟨_ | mz, f2⟩ := r
  · exact ⟨rfl, h2⟩
  simp only
  cases h3 : f2.seekSet (fieldVal mz dosLfanew + (o : Int) + 4) with
  | error e => exact ⟨rfl, h2⟩
  | ok p3 =>
  obtain ⟨n3, f3⟩ := p3
  have h4 := (h2.trans (same_seekSet h3)).trans (same_readStruct f3 fileHeaderSize)
  simp only
  generalize readStruct f3 fileHeaderSize = r at h4 ⊢
  obtain ⟨_ | img, f4⟩ := r
  · exact ⟨rfl, h4⟩
  simp only
  split
  · have h5 := h4.trans (same_readStruct f4 (optSize (decide (fieldVal img fhMachine = (machineAmd64 : Int)))))
    generalize readStruct f4 (optSize (decide (fieldVal img fhMachine = (machineAmd64 : Int)))) = r at h5 ⊢
    obtain ⟨_ | opt, f5⟩ := r
    · exact ⟨rfl, h5⟩
    have h6 := h5.trans (same_readSections (fieldVal img fhNumberOfSections).toNat f5)
    simp only
    generalize readSections (fieldVal img fhNumberOfSections).toNat f5 = r at h6 ⊢
    obtain ⟨_ | secs, f6⟩ := r
    · exact ⟨rfl, h6⟩
    simp only
    cases h7 : f6.seekSet ((o : Int) + totalSize opt (decide (fieldVal img fhMachine = (machineAmd64 : Int))) secs) with
    | error e => exact ⟨rfl, h6⟩
    | ok p7 =>
    obtain ⟨n7, f7⟩ := p7
    have h8 := (h6.trans (same_seekSet h7)).trans (same_read f7 1024)
    simp only
    split <;> exact ⟨rfl, h8⟩
  · exact ⟨rfl, h4⟩

theorem findCompileStamps_agree (f : PyFile) (start : Option Nat) (maxrange : Nat) :
    Generic.findCompileStamps pyFileLike f (start.map Int.ofNat) maxrange = liftPy (findCompileStamps f start maxrange)
      ∧ SameFile f (findCompileStamps f start maxrange).2 := by
  unfold Generic.findCompileStamps findCompileStamps
  rw [generic_findMzOffset]
  have h := same_findMzOffset f start maxrange
  generalize findMzOffset f start maxrange = r at h ⊢
  obtain ⟨_ | o, f1⟩ := r
  · exact ⟨rfl, h⟩
  · exact ⟨(compileStampsAt_agree f1 o).1, h.trans (compileStampsAt_agree f1 o).2⟩

theorem findMagicMz_agree (f : PyFile) (start : Option Nat) (maxrange : Nat) :
    Generic.findMagicMz pyFileLike f (start.map Int.ofNat) maxrange = .ok (findMagicMz f start maxrange)
      ∧ SameFile f (findMagicMz f start maxrange).2 := by
  unfold Generic.findMagicMz findMagicMz
  rw [generic_findMzOffset]
  have h := same_findMzOffset f start maxrange
  generalize findMzOffset f start maxrange = r at h ⊢
  obtain ⟨_ | o, f1⟩ := r
  · exact ⟨rfl, h⟩
  · exact ⟨(magicMzAt_agree f1 o).1, h.trans (magicMzAt_agree f1 o).2⟩

theorem findMagicPe_agree (f : PyFile) (start : Option Nat) (maxrange : Nat) :
    Generic.findMagicPe pyFileLike f (start.map Int.ofNat) maxrange = liftPy (findMagicPe f start maxrange)
      ∧ SameFile f (findMagicPe f start maxrange).2 := by
  unfold Generic.findMagicPe findMagicPe
  rw [generic_findMzOffset]
  have h := same_findMzOffset f start maxrange
  generalize findMzOffset f start maxrange = r at h ⊢
  obtain ⟨_ | o, f1⟩ := r
  · exact ⟨rfl, h⟩
  · exact ⟨(magicPeAt_agree f1 o).1, h.trans (magicPeAt_agree f1 o).2⟩

theorem findStagePrependAppend_agree (f : PyFile) (start : Option Nat) (maxrange : Nat) :
    Generic.findStagePrependAppend pyFileLike f (start.map Int.ofNat) maxrange = liftPy (findStagePrependAppend f start maxrange)
      ∧ SameFile f (findStagePrependAppend f start maxrange).2 := by
  unfold Generic.findStagePrependAppend findStagePrependAppend
  rw [generic_findMzOffset]
  have h := same_findMzOffset f start maxrange
  generalize findMzOffset f start maxrange = r at h ⊢
  obtain ⟨_ | o, f1⟩ := r
  · exact ⟨rfl, h⟩
  · exact ⟨(prependAppendAt_agree f1 o).1, h.trans (prependAppendAt_agree f1 o).2⟩

theorem generic_findCompileStamps (f : PyFile) (start : Option Nat) (maxrange : Nat) :
    Generic.findCompileStamps pyFileLike f (start.map Int.ofNat) maxrange = liftPy (findCompileStamps f start maxrange) :=
  (findCompileStamps_agree f start maxrange).1

theorem generic_findMagicMz (f : PyFile) (start : Option Nat) (maxrange : Nat) :
    Generic.findMagicMz pyFileLike f (start.map Int.ofNat) maxrange = .ok (findMagicMz f start maxrange) :=
  (findMagicMz_agree f start maxrange).1

theorem generic_findMagicPe (f : PyFile) (start : Option Nat) (maxrange : Nat) :
    Generic.findMagicPe pyFileLike f (start.map Int.ofNat) maxrange = liftPy (findMagicPe f start maxrange) :=
  (findMagicPe_agree f start maxrange).1

theorem generic_findStagePrependAppend (f : PyFile) (start : Option Nat) (maxrange : Nat) :
    Generic.findStagePrependAppend pyFileLike f (start.map Int.ofNat) maxrange
      = liftPy (findStagePrependAppend f start maxrange) :=
  (findStagePrependAppend_agree f start maxrange).1

theorem same_findCompileStamps (f : PyFile) (start : Option Nat) (maxrange : Nat) :
    SameFile f (findCompileStamps f start maxrange).2 :=
  (findCompileStamps_agree f start maxrange).2

/-! ## generated tables: decidable checks (discharged by `decide +kernel` in Props) and what they establish -/

/-- the model's own parse of the entry text equals what the real `BeaconVersion(text)` computed at generation time -/
def entryAgrees (e : Entry) : Bool :=
  match parseVersion e.text with
  | .ok (some v) => e.tuple == some v.tuple && e.date == some (v.date.y, v.date.m, v.date.d)
  | _ => false

theorem agrees_of_check (tbl : List Entry) (h : tbl.all entryAgrees = true) : ∀ e ∈ tbl,
    ∃ v, parseVersion e.text = .ok (some v) ∧ e.tuple = some v.tuple ∧ e.date = some (v.date.y, v.date.m, v.date.d) := by
  intro e he
  have := List.all_eq_true.mp h e he
  unfold entryAgrees at this
  split at this
  · rename_i v hv
    simp only [Bool.and_eq_true, beq_iff_eq] at this
    exact ⟨v, hv, this.1, this.2⟩
  · cases this

/-- the text is exactly `formatVersion` of the tuple and the (valid) date the code computed from it -/
def entryShape (e : Entry) : Bool :=
  match e.tuple, e.date with
  | some [a, b], some (y, m, d) => validDate y m d && formatVersion a b none ⟨y, m, d⟩ == e.text
  | some [a, b, c], some (y, m, d) => validDate y m d && formatVersion a b (some c) ⟨y, m, d⟩ == e.text
  | _, _ => false

theorem shape_of_check (tbl : List Entry) (h : tbl.all entryShape = true) :
    ∀ e ∈ tbl, ∃ major minor patch d, validDate d.y d.m d.d = true ∧ e.text = formatVersion major minor patch d := by
  intro e he
  have := List.all_eq_true.mp h e he
  unfold entryShape at this
  split at this
  · rename_i a b y m d _ _
    simp only [Bool.and_eq_true, beq_iff_eq] at this
    exact ⟨a, b, none, ⟨y, m, d⟩, this.1, this.2.symm⟩
  · rename_i a b c y m d _ _
    simp only [Bool.and_eq_true, beq_iff_eq] at this
    exact ⟨a, b, some c, ⟨y, m, d⟩, this.1, this.2.symm⟩
  · cases this

/-- on the values computed by the real code: a smaller key never has a later release -/
def pairMonotone (a b : Entry) : Bool :=
  !(decide (a.key < b.key)) ||
    (match a.tuple, b.tuple, a.date, b.date with
     | some ta, some tb, some (ya, ma, da), some (yb, mb, db) => tupleLe ta tb && dateLe ⟨ya, ma, da⟩ ⟨yb, mb, db⟩
     | _, _, _, _ => false)

def tableMonotone (t : List Entry) : Bool := t.all fun a => t.all fun b => pairMonotone a b

theorem monotone_of_checks (tbl : List Entry)
    (h1 : ∀ e ∈ tbl, ∃ v, parseVersion e.text = .ok (some v) ∧ e.tuple = some v.tuple ∧
      e.date = some (v.date.y, v.date.m, v.date.d))
    (h2 : tableMonotone tbl = true) :
    ∀ a ∈ tbl, ∀ b ∈ tbl, a.key < b.key →
      ∃ va vb, parseVersion a.text = .ok (some va) ∧ parseVersion b.text = .ok (some vb) ∧
        tupleLe va.tuple vb.tuple = true ∧ dateLe va.date vb.date = true := by
  intro a ha b hb hlt
  obtain ⟨va, hva, ta, da⟩ := h1 a ha
  obtain ⟨vb, hvb, tb, db⟩ := h1 b hb
  have hm := List.all_eq_true.mp (List.all_eq_true.mp h2 a ha) b hb
  unfold pairMonotone at hm
  simp only [hlt, decide_true, Bool.not_true, Bool.false_or, ta, tb, da, db, Bool.and_eq_true] at hm
  exact ⟨va, vb, hva, hvb, hm⟩

def keysNodup : List Entry → Bool
  | [] => true
  | e :: es => es.all (fun x => x.key != e.key) && keysNodup es

theorem lookup_mem (tbl : List Entry) (h : keysNodup tbl = true) (e : Entry) (he : e ∈ tbl) :
    lookup tbl (e.key : Int) = e.text := by
  induction tbl with
  | nil => cases he
  | cons x xs ih =>
    simp only [keysNodup, Bool.and_eq_true, List.all_eq_true, bne_iff_ne, ne_eq] at h
    unfold lookup
    simp only [List.find?_cons]
    rcases List.mem_cons.mp he with rfl | hmem
    · simp
    · have hne : ¬ ((x.key : Int) = (e.key : Int)) := by
        have := h.1 e hmem
        omega
      simp only [hne, decide_false]
      exact ih h.2 hmem

theorem lookup_absent (tbl : List Entry) (k : Int) (h : ∀ e ∈ tbl, (e.key : Int) ≠ k) : lookup tbl k = unknownText := by
  unfold lookup
  rw [List.find?_eq_none.mpr]
  intro e he
  simpa using h e he

theorem monotoneAt_of (tbl : List Entry) (hnd : keysNodup tbl = true)
    (hm : ∀ a ∈ tbl, ∀ b ∈ tbl, a.key < b.key →
      ∃ va vb, parseVersion a.text = .ok (some va) ∧ parseVersion b.text = .ok (some vb) ∧
        tupleLe va.tuple vb.tuple = true ∧ dateLe va.date vb.date = true) :
    ∀ a ∈ tbl, ∀ b ∈ tbl, monotoneAt tbl (a.key : Int) (b.key : Int) = true := by
  intro a ha b hb
  unfold monotoneAt
  by_cases hlt : a.key < b.key
  · obtain ⟨va, vb, h1, h2, h3, h4⟩ := hm a ha b hb hlt
    rw [lookup_mem tbl hnd a ha, lookup_mem tbl hnd b hb, h1, h2]
    simp [h3, h4]
  · have : ¬ ((a.key : Int) < (b.key : Int)) := by omega
    simp [this]

/-! ### the `String` tables: the kernel decodes a string literal slowly and builds one from code points fast, so the check
evaluated is `strs = tbl.map (key, String.ofList text)`; decoding what was encoded gives the text back -/

/-- below the surrogate range (`0xd800`) every number is a valid code point -/
theorem toNat_ofNat (n : Nat) (h : n < 0xd800) : (Char.ofNat n).toNat = n := by
  rw [Char.ofNat, dif_pos (Or.inl h)]
  rfl

theorem toTxt_ofList (l : Txt) (h : ∀ n ∈ l, n < 0xd800) : toTxt (String.ofList (l.map Char.ofNat)) = l := by
  unfold toTxt
  rw [String.toList_ofList, List.map_map]
  conv => rhs; rw [← List.map_id l]
  exact List.map_congr_left fun n hn => toNat_ofNat n (h n hn)

theorem strings_agree (strs : List (Nat × String)) (tbl : List Entry)
    (hs : strs = tbl.map fun e => (e.key, String.ofList (e.text.map Char.ofNat)))
    (ha : (tbl.all fun e => e.text.all (· < 0xd800)) = true) :
    strs.map (fun p => (p.1, toTxt p.2)) = tbl.map (fun e => (e.key, e.text)) := by
  subst hs
  rw [List.map_map]
  apply List.map_congr_left
  intro e he
  have h := List.all_eq_true.mp (List.all_eq_true.mp ha e he)
  simp only [Function.comp, toTxt_ofList e.text fun n hn => of_decide_eq_true (h n hn)]

theorem strings_agree_export :
    peExportStampToVersion.map (fun p => (p.1, toTxt p.2)) = peExportStampEntries.map (fun e => (e.key, e.text)) :=
  strings_agree _ _ (by decide +kernel) (by decide +kernel)


/-! ## a concrete stage (used by the `example`s of Props/C18.lean) -/

def le32 (n : Nat) : Bytes := [UInt8.ofNat n, UInt8.ofNat (n / 256), UInt8.ofNat (n / 65536), UInt8.ofNat (n / 16777216)]
def le16 (n : Nat) : Bytes := [UInt8.ofNat n, UInt8.ofNat (n / 256)]
def zeros (n : Nat) : Bytes := List.replicate n 0

/-- DOS header (`MZ` + x86 stub marker, e_lfanew = 64), `PE\0\0`, file header (I386, 1 section, stamp 0x5F94C216),
32-bit optional header (SizeOfHeaders 352, export RVA 0x1010), one section (VA 0x1000, size 0x100, 64 raw bytes at 352)
whose raw data holds the export directory (stamp 0x603E2D9D) at file offset 368, then the appended bytes `AB\0\0`. -/
def sampleImage : Bytes :=
  [77, 90] ++ dosHeaderX86 ++ List.replicate 52 0x90 ++ le32 64 ++
  [80, 69, 0, 0] ++
  le16 machineI386 ++ le16 1 ++ le32 0x5F94C216 ++ zeros 8 ++ le16 224 ++ le16 0x2102 ++
  (zeros 60 ++ le32 352 ++ zeros 32 ++ le32 0x1010 ++ zeros 124) ++
  (zeros 8 ++ le32 0x100 ++ le32 0x1000 ++ le32 64 ++ le32 352 ++ zeros 16) ++
  (zeros 16 ++ (zeros 4 ++ le32 0x603E2D9D ++ zeros 32) ++ zeros 8) ++
  [65, 66, 0, 0]

def samplePrepend : Bytes := [0x90, 0x90, 0xCC]



/-- an x64 image without sections and without an export directory, nothing prepended or appended:
`MZAR` + x64 stub marker, e_lfanew = 64, AMD64 file header, 240-byte optional header (SizeOfHeaders 328, export RVA 0x2000). -/
def sampleImage64 : Bytes :=
  [77, 90, 65, 82] ++ dosHeaderX64 ++ List.replicate 50 0x90 ++ le32 64 ++
  [80, 69, 0, 0] ++
  le16 machineAmd64 ++ le16 0 ++ le32 0x674E0D02 ++ zeros 8 ++ le16 240 ++ le16 0x2022 ++
  (zeros 60 ++ le32 328 ++ zeros 48 ++ le32 0x2000 ++ zeros 124)


/-- `sampleImage64 ++ samplePrepend ++ sampleImage` as an OS file positioned at 7 (searched from start offset 328) -/
def sampleFileAt : PyFile := ⟨sampleImage64 ++ samplePrepend ++ sampleImage, 7, .osFile⟩

/-! ## histories: one BeaconConfig object, one file object -/

/-- attributes of the object after a history -/
def cfgAfter (s : CfgState) (ops : List CfgOp) : CfgState := ops.foldl cfgNext s

/-- the export stamp in force after a history: the argument of the last `pe_export_stamp` assignment, else the initial one -/
def lastStamp : Option Int → List CfgOp → Option Int
  | cur, [] => cur
  | _, .setExportStamp x :: rest => lastStamp x rest
  | cur, _ :: rest => lastStamp cur rest

theorem cfgRun_append (enums : List Nat) (s : CfgState) (a b : List CfgOp) :
    cfgRun enums s (a ++ b) = cfgRun enums s a ++ cfgRun enums (cfgAfter s a) b := by
  induction a generalizing s with
  | nil => simp [cfgRun, cfgAfter]
  | cons op ops ih => simp [cfgRun, cfgAfter, ih, List.append_assoc]

theorem cfgAfter_stamp (s : CfgState) (ops : List CfgOp) :
    (cfgAfter s ops).exportStamp = lastStamp s.exportStamp ops := by
  induction ops generalizing s with
  | nil => rfl
  | cons op ops ih =>
    simp only [cfgAfter, List.foldl_cons] at ih ⊢
    rw [ih]
    cases op <;> rfl

def CfgOp.isOtherAttr : CfgOp → Bool
  | .setCompileStamp _ => true
  | .setArch _ => true
  | _ => false

/-! ## the right-hand sides of the stage theorems of `Props/C18.lean` -/

/-- what each helper must report for `J ++ P ++ I` searched from `start_offset = |J|`: the offset is ABSOLUTE
(`start_offset + offset`), and `prepend` is everything from the beginning of the file (`fh.seek(0); fh.read(mz_offset)`),
i.e. it includes the bytes in front of the start offset -/
def stageAnswerAt (J P I : Bytes) : PeOp → PeOut
  | .mz => .mz (some (J.length + P.length))
  | .arch => .arch (some (Img.arch I))
  | .stamps => .stamps (.ok (some (Img.compileStamp I), Img.exportStamp I))
  | .mmz => .mmz (Img.magicMz I)
  | .mpe => .mpe (.ok (some (Img.magicPe I)))
  | .ppa => .ppa (.ok (prependOf (J ++ P), Img.append I))

/-- where each helper leaves the file position on a complete stage, relative to the start of the image
(none of them restores the position it found) -/
def Img.endPos (I : Bytes) : PeOp → Nat
  | .mz => Img.optOff I                         -- end of the IMAGE_FILE_HEADER read by the accepting iteration
  | .arch => Img.optOff I
  | .stamps => Img.stampsEnd I                  -- end of the section table / of the export-directory read
  | .mmz => (slice I 0 256).length              -- after `fh.read(256)`
  | .mpe => Img.nt I + 4                        -- after the four signature bytes
  | .ppa => (Img.totalSize I).toNat + (slice I (Img.totalSize I).toNat 1024).length   -- after `fh.read(1024)`

/-- what each helper must report for the stage `P ++ I` -/
def stageAnswer (P I : Bytes) : PeOp → PeOut
  | .mz => .mz (some P.length)
  | .arch => .arch (some (Img.arch I))
  | .stamps => .stamps (.ok (some (Img.compileStamp I), Img.exportStamp I))
  | .mmz => .mmz (Img.magicMz I)
  | .mpe => .mpe (.ok (some (Img.magicPe I)))
  | .ppa => .ppa (.ok (prependOf P, Img.append I))

theorem stageAnswerAt_nil (P I : Bytes) (op : PeOp) : stageAnswerAt [] P I op = stageAnswer P I op := by
  cases op <;> simp [stageAnswerAt, stageAnswer]

end C18

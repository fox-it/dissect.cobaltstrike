import CsVerif.Model.C09
import CsVerif.Props.C15
/-! The view is related to an ordinary file over the decoded bytes by `Abs` (`Layout` + same logical position).  Each operation is
characterised once (`read_of_nonce`, `read_spec`; `seek_eq`, `seek_refines`); `step_refines` and `step_refines_all` are the
simulation steps.  Then detection (`from_file`), and last the `seek` of before fix 13416c7. -/
namespace C09

theorem xorCore_eq_zipWith (d k : Bytes) (h : d.length ≤ k.length) :
    C20.xorCore d k = List.zipWith (· ^^^ ·) d k := by
  apply List.ext_getElem
  · simp [C20.xorCore]; omega
  · intro i h1 h2
    simp only [C20.xorCore, List.length_mapIdx] at h1
    have hk : i < k.length := by omega
    simp [C20.xorCore, C20.keyAt, Nat.mod_eq_of_lt hk, hk]

theorem zipWith_zero (d k : Bytes) (h : d.length ≤ k.length) (hz : k.all (· == 0) = true) :
    List.zipWith (· ^^^ ·) d k = d := by
  apply List.ext_getElem
  · simp; omega
  · intro i h1 h2
    simp only [List.length_zipWith] at h1
    have hk : i < k.length := by omega
    have : k[i] = 0 := by
      have := List.all_eq_true.mp hz k[i] (List.getElem_mem hk)
      simpa using this
    simp [this]

theorem xor_eq_zipWith (d k : Bytes) (h : d.length ≤ k.length) :
    C20.xor d k = List.zipWith (· ^^^ ·) d k := by
  unfold C20.xor
  split
  · rename_i hz; exact (zipWith_zero d k h hz).symm
  · exact xorCore_eq_zipWith d k h

theorem rollDecode_length (nonce enc : Bytes) : (rollDecode nonce enc).length = enc.length := by
  simp [rollDecode]

theorem rollDecode_eq_zipWith (nonce enc : Bytes) (h : nonce.length = 4) :
    rollDecode nonce enc = List.zipWith (· ^^^ ·) enc (nonce ++ enc) := by
  apply List.ext_getElem
  · simp [rollDecode]
  · intro i h1 h2
    simp only [rollDecode, List.length_mapIdx] at h1
    simp only [rollDecode, List.getElem_mapIdx, List.getElem_zipWith]
    by_cases hi : i < 4
    · have : i < nonce.length := by omega
      simp [hi, List.getElem_append_left, this]
    · have h4 : nonce.length ≤ i := by omega
      have : i - 4 < enc.length := by omega
      simp only [hi, if_false, this, List.getD_eq_getElem?_getD, List.getElem?_eq_getElem, Option.getD_some]
      rw [List.getElem_append_right h4]
      simp [h]

/-! ### seeks and 4-byte reads of a Python file -/

theorem seekRel_ok (f : PyFile) (b : Nat) (off : Int) (t : Nat) (h : (b : Int) + off = (t : Int)) :
    f.seekRel b off = .ok (t, { f with pos := t }) := by
  simp only [PyFile.seekRel]
  have h1 : ¬ ((b : Int) + off < 0) := by omega
  have h2 : ((b : Int) + off).toNat = t := by omega
  simp only [h1, if_false, h2]

theorem seekSet_ok' (f : PyFile) (off : Int) (t : Nat) (h : off = (t : Int)) :
    f.seekSet off = .ok (t, { f with pos := t }) := by
  subst h; exact PyFile.seekSet_ok f t

theorem seekRel_frame (f : PyFile) (b : Nat) (off : Int) (v : Nat) (f' : PyFile)
    (h : f.seekRel b off = .ok (v, f')) : f' = { f with pos := v } := by
  simp only [PyFile.seekRel] at h
  split at h
  · split at h
    · injection h with h; obtain ⟨rfl, rfl⟩ := Prod.mk.inj h; rfl
    · cases h
  · injection h with h; obtain ⟨rfl, rfl⟩ := Prod.mk.inj h; rfl

theorem pyseek_frame (f : PyFile) (off : Int) (wh : Nat) (v : Nat) (f' : PyFile)
    (h : f.seek off wh = .ok (v, f')) : f' = { f with pos := v } := by
  unfold PyFile.seek at h
  split at h
  · simp only [PyFile.seekSet] at h
    split at h
    · cases h
    · injection h with h; obtain ⟨rfl, rfl⟩ := Prod.mk.inj h; rfl
  · exact seekRel_frame _ _ _ _ _ h
  · exact seekRel_frame _ _ _ _ _ h
  · cases h

theorem seekRel_error (f : PyFile) (b : Nat) (off : Int) (e : PyExc) (h : f.seekRel b off = .error e) :
    e = PyExc.osError := by
  simp only [PyFile.seekRel] at h
  split at h
  · split at h
    · cases h
    · injection h with h; exact h.symm
  · cases h

theorem read4 (f : PyFile) : f.read 4 = ((f.data.drop f.pos).take 4, { f with pos := f.pos + ((f.data.drop f.pos).take 4).length }) := by
  have : ¬ ((4 : Int) < 0) := by omega
  simp only [PyFile.read, this, if_false]
  rfl

theorem read4_fst (f : PyFile) (i : Nat) : (({ f with pos := i } : PyFile).read 4).1 = (f.data.drop i).take 4 := by
  rw [read4]

theorem read4_snd (f : PyFile) (i : Nat) :
    (({ f with pos := i } : PyFile).read 4).2 = { f with pos := i + ((f.data.drop i).take 4).length } := by
  rw [read4]

/-! ### layout and `read_nonce` -/

theorem drop_prefix {α} (pre rest : List α) (n p : Nat) (h : pre.length = n) :
    (pre ++ rest).drop (n + p) = rest.drop p := by
  subst h
  rw [← List.drop_drop, List.drop_left]

/-- Hypotheses tying a `XorFile` to the raw layout `stub ++ nonce ++ size ++ enc`. -/
structure Layout (stub nonce size enc : Bytes) (x : XorFile) : Prop where
  data : x.fh.data = stub ++ nonce ++ size ++ enc
  nlen : nonce.length = 4
  slen : size.length = 4
  off : x.nonceOff = stub.length
  init : x.initialNonce = nonce

/-- the object with its raw cursor moved -/
def XorFile.withPos (x : XorFile) (pos : Nat) : XorFile := { x with fh := { x.fh with pos := pos } }

theorem nonce_at (stub nonce size rest : Bytes) (hn : nonce.length = 4) :
    ((stub ++ nonce ++ size ++ rest).drop stub.length).take 4 = nonce := by
  simp only [List.append_assoc]
  rw [List.drop_left, List.take_left' hn]

theorem size_at (stub nonce size rest : Bytes) (hn : nonce.length = 4) (hs : size.length = 4) :
    ((stub ++ nonce ++ size ++ rest).drop (stub.length + 4)).take 4 = size := by
  have : stub.length + 4 = (stub ++ nonce).length := by rw [List.length_append, hn]
  rw [List.append_assoc (stub ++ nonce), this, List.drop_left, List.take_left' hs]

theorem key_lt (nonce enc : Bytes) (hn : nonce.length = 4) (p : Nat) (hp4 : p < 4) :
    ((nonce ++ enc).drop p).take 4 = nonce.drop p ++ enc.take p := by
  have hl : (nonce.drop p).length = 4 - p := by rw [List.length_drop, hn]
  rw [List.drop_append_of_le_length (by omega), List.take_append, hl,
    List.take_of_length_le (by omega), show 4 - (4 - p) = p by omega]

theorem key_ge (nonce enc : Bytes) (hn : nonce.length = 4) (p : Nat) (hp4 : 4 ≤ p) :
    ((nonce ++ enc).drop p).take 4 = (enc.drop (p - 4)).take 4 := by
  have := drop_prefix nonce enc 4 (p - 4) hn
  rw [show 4 + (p - 4) = p by omega] at this
  rw [this]

theorem pySliceFrom_nat {α} (xs : List α) (k : Nat) : pySliceFrom xs (k : Int) = xs.drop k := by
  rw [pySliceFrom, if_pos (Int.natCast_nonneg k), Int.toNat_natCast]

theorem take_drop_splice {α} (l : List α) (p : Nat) (hp : p ≤ 4) :
    ((l.drop p).take 4).drop (4 - p) = (l.drop 4).take p := by
  rw [List.drop_take, List.drop_drop]
  have : p + (4 - p) = 4 := by omega
  have h2 : 4 - (4 - p) = p := by omega
  rw [this, h2]

/-- the four raw bytes before the cursor are `(size ++ enc)[p : p+4]`; the splice replaces what of them lies in the size dword -/
theorem readNonce_eq {stub nonce size enc : Bytes} {x : XorFile} (hL : Layout stub nonce size enc x)
    (p : Nat) (hpos : x.fh.pos = stub.length + 8 + p) :
    readNonce x = .ok (((nonce ++ enc).drop p).take 4, x) := by
  have hseek : x.fh.seekCur (-4) = .ok (stub.length + 4 + p, { x.fh with pos := stub.length + 4 + p }) :=
    seekRel_ok x.fh x.fh.pos (-4) _ (by rw [hpos]; omega)
  have hraw : (({ x.fh with pos := stub.length + 4 + p } : PyFile).read 4).1 = ((size ++ enc).drop p).take 4 := by
    rw [read4_fst, hL.data, List.append_assoc (stub ++ nonce),
      drop_prefix (stub ++ nonce) (size ++ enc) (stub.length + 4) p (by rw [List.length_append, hL.nlen])]
  have hsplice : spliceNonce x x.fh.pos (((size ++ enc).drop p).take 4) = ((nonce ++ enc).drop p).take 4 := by
    rw [spliceNonce, hpos, hL.off, hL.init]
    by_cases hp4 : p < 4
    · rw [if_pos (by omega)]
      dsimp only
      rw [show ((stub.length + 8 + p : Nat) : Int) - ((stub.length : Int) + 8) = (p : Int) by omega,
        show (4 : Int) - (p : Int) = ((4 - p : Nat) : Int) by omega, pySliceFrom_nat, pySliceFrom_nat,
        take_drop_splice _ _ (by omega), List.drop_left' hL.slen, key_lt nonce enc hL.nlen p hp4]
    · rw [if_neg (by omega), key_ge nonce enc hL.nlen p (by omega)]
      have := drop_prefix size enc 4 (p - 4) hL.slen
      rw [show 4 + (p - 4) = p by omega] at this
      rw [this]
  simp only [readNonce, rawNonce, hseek, PyFile.tell, PyFile.seekSet_ok, hraw, hsplice]
  rfl

theorem rawNonce_total (x : XorFile) : ∃ nonce q, rawNonce x = .ok (nonce, { x.fh with pos := q }) := by
  unfold rawNonce
  cases h : x.fh.seekCur (-4) with
  | ok r =>
    obtain ⟨v, f1⟩ := r
    have := seekRel_frame _ _ _ _ _ h
    subst this
    simp only [read4]
    exact ⟨_, _, rfl⟩
  | error e =>
    have := seekRel_error _ _ _ _ h
    subst this
    exact ⟨_, x.fh.pos, rfl⟩

/-- `read_nonce` never raises and (since fix f64b15d) leaves the object exactly as it was -/
theorem readNonce_restores (x : XorFile) : ∃ nonce, readNonce x = .ok (nonce, x) := by
  obtain ⟨nonce, q, h⟩ := rawNonce_total x
  simp only [readNonce, h, PyFile.tell, PyFile.seekSet_ok]
  exact ⟨_, rfl⟩

/-! ### the chunk loop -/

theorem xor_length (d k : Bytes) : (C20.xor d k).length = d.length := by
  unfold C20.xor; split
  · rfl
  · simp [C20.xorCore]

theorem readLoop_frame (n : Int) (f : PyFile) (nonce : Bytes) (got : Nat) :
    (readLoop n f nonce got).2 = { f with pos := f.pos + (readLoop n f nonce got).1.length } := by
  fun_induction readLoop n f nonce got with
  | case1 f nonce got hnil =>
    rw [read4] at hnil ⊢
    simp only at hnil
    simp only [hnil, List.length_nil, Nat.add_zero]
  | case2 f nonce got hne chunk dec hbreak =>
    show (f.read 4).2 = { f with pos := f.pos + (C20.xor (f.read 4).1 nonce).length }
    rw [xor_length, read4]
  | case3 f nonce got hne chunk dec hbreak r ih =>
    show r.2 = { f with pos := f.pos + (dec ++ r.1).length }
    have hd : dec.length = (f.read 4).1.length := xor_length _ _
    have hp : (f.read 4).2.pos + r.1.length = f.pos + (dec ++ r.1).length := by
      rw [List.length_append, hd, PyFile.read_pos]; omega
    have e : r.2 = { data := (f.read 4).2.data, pos := (f.read 4).2.pos + r.1.length, kind := (f.read 4).2.kind } := ih
    rw [e, PyFile.read_data, PyFile.read_kind, hp]

theorem readLoop_at_eof (n : Int) (f : PyFile) (nonce : Bytes) (got : Nat) (h : f.data.length ≤ f.pos) :
    readLoop n f nonce got = ([], f) := by
  have hnil : (f.read 4).1 = [] := by
    rw [read4]; simp only; rw [List.drop_eq_nil_iff.mpr h]; rfl
  rw [readLoop, dif_pos hnil, read4]
  simp only [List.drop_eq_nil_iff.mpr h, List.take_nil, List.length_nil, Nat.add_zero]

theorem chunk_spec (pre N enc : Bytes) (hN : N.length = 4) (f : PyFile) (p : Nat) (hd : f.data = pre ++ enc)
    (hpos : f.pos = pre.length + p) (hne : ¬ (f.read 4).1 = []) :
    p < enc.length ∧ (f.read 4).1 = (enc.drop p).take 4 ∧
    C20.xor (f.read 4).1 (((N ++ enc).drop p).take 4)
      = ((List.zipWith (· ^^^ ·) enc (N ++ enc)).drop p).take (min 4 (enc.length - p)) := by
  have hr : (f.read 4).1 = (enc.drop p).take 4 := by
    rw [read4, hd, hpos, drop_prefix pre enc _ p rfl]
  have hlt : p < enc.length := by
    apply Classical.byContradiction
    intro hge
    apply hne
    rw [hr, List.drop_eq_nil_iff.mpr (by omega)]; rfl
  refine ⟨hlt, hr, ?_⟩
  rw [hr, xor_eq_zipWith _ _ (by simp only [List.length_take, List.length_drop, List.length_append]; omega),
    ← List.take_zipWith, ← List.drop_zipWith]
  have hl : ((List.zipWith (· ^^^ ·) enc (N ++ enc)).drop p).length = enc.length - p := by
    simp only [List.length_drop, List.length_zipWith, List.length_append]; omega
  rw [← hl, ← List.take_eq_take_min]

/-- The chunk loop started at logical position `p` with the correct rolling key returns a prefix of
the remaining plaintext; it stops early only when the requested count has been reached. -/
theorem readLoop_spec (n : Int) (pre N enc : Bytes) (hN : N.length = 4)
    (f : PyFile) (nonce : Bytes) (got : Nat) :
    ∀ (p : Nat), f.data = pre ++ enc → f.pos = pre.length + p →
      (p < enc.length → nonce = ((N ++ enc).drop p).take 4) →
      ∃ L, L ≤ enc.length - p ∧
        (readLoop n f nonce got).1 = ((List.zipWith (· ^^^ ·) enc (N ++ enc)).drop p).take L ∧
        (L = enc.length - p ∨ (0 < n ∧ n ≤ ((got + L : Nat) : Int))) := by
  fun_induction readLoop n f nonce got with
  | case1 f nonce got hnil =>
    intro p hd hpos _
    rw [read4, hd, hpos, drop_prefix pre enc _ p rfl] at hnil
    have : enc.length ≤ p := by
      rcases List.take_eq_nil_iff.mp hnil with h | h
      · omega
      · exact List.drop_eq_nil_iff.mp h
    exact ⟨0, by omega, rfl, Or.inl (by omega)⟩
  | case2 f nonce got hne chunk dec hbreak =>
    intro p hd hpos hnonce
    obtain ⟨hlt, hchunk, hdec⟩ := chunk_spec pre N enc hN f p hd hpos hne
    rw [← hnonce hlt] at hdec
    have hdl : dec.length = min 4 (enc.length - p) := by
      show (C20.xor (f.read 4).1 nonce).length = _
      rw [xor_length, hchunk, List.length_take, List.length_drop]
    exact ⟨min 4 (enc.length - p), by omega, hdec, Or.inr ⟨hbreak.1, by rw [← hdl]; exact hbreak.2⟩⟩
  | case3 f nonce got hne chunk dec hbreak r ih =>
    intro p hd hpos hnonce
    obtain ⟨hlt, hchunk, hdec⟩ := chunk_spec pre N enc hN f p hd hpos hne
    rw [← hnonce hlt] at hdec
    have hdl : dec.length = min 4 (enc.length - p) := by
      show (C20.xor (f.read 4).1 nonce).length = _
      rw [xor_length, hchunk, List.length_take, List.length_drop]
    -- the next key is this block: `(N ++ enc)[p+4 : p+8] = enc[p : p+4]`
    obtain ⟨L', hL', heq, hstop⟩ := ih (p + min 4 (enc.length - p)) hd
      (by rw [PyFile.read_pos, hchunk, List.length_take, List.length_drop]; omega)
      (by
        intro hlt'
        have h4 : min 4 (enc.length - p) = 4 := by omega
        show (f.read 4).1 = _
        rw [hchunk, h4, Nat.add_comm p 4, drop_prefix N enc 4 p hN])
    refine ⟨min 4 (enc.length - p) + L', by omega, ?_, ?_⟩
    · show dec ++ r.1 = _
      rw [heq, List.take_add, List.drop_drop, ← hdec]
    · rcases hstop with h | h
      · left; omega
      · right
        refine ⟨h.1, ?_⟩
        have := h.2
        rw [hdl] at this
        rw [← Nat.add_assoc]; exact this

/-! ### `read` -/

/-- `if n is None or n < 0: n = -1` -/
def normN : Option Int → Int
  | none => -1
  | some v => if v < 0 then -1 else v

theorem readWith_unfold (rn : XorFile → Py (Bytes × XorFile)) (x : XorFile) (n : Option Int) :
    readWith rn x n =
      if normN n = 0 then .ok ([], x)
      else
        match rn x with
        | .error e => .error e
        | .ok (nonce, x1) =>
          let r := readLoop (normN n) x1.fh nonce 0
          if normN n = -1 then .ok (r.1, { x1 with fh := r.2 })
          else if (r.1.length : Int) > normN n then
            match r.2.seekCur (normN n - (r.1.length : Int)) with
            | .error e => .error e
            | .ok (_, f3) => .ok (r.1.take (normN n).toNat, { x1 with fh := f3 })
          else .ok (r.1.take (normN n).toNat, { x1 with fh := r.2 }) := by
  cases n <;> rfl

theorem read_unfold (x : XorFile) (n : Option Int) :
    read x n =
      if normN n = 0 then .ok ([], x)
      else
        match readNonce x with
        | .error e => .error e
        | .ok (nonce, x1) =>
          let r := readLoop (normN n) x1.fh nonce 0
          if normN n = -1 then .ok (r.1, { x1 with fh := r.2 })
          else if (r.1.length : Int) > normN n then
            match r.2.seekCur (normN n - (r.1.length : Int)) with
            | .error e => .error e
            | .ok (_, f3) => .ok (r.1.take (normN n).toNat, { x1 with fh := f3 })
          else .ok (r.1.take (normN n).toNat, { x1 with fh := r.2 }) :=
  readWith_unfold readNonce x n

theorem normN_cases (n : Option Int) : normN n = -1 ∨ 0 ≤ normN n := by
  cases n with
  | none => left; rfl
  | some v =>
    simp only [normN]
    split <;> omega

/-- `data[:n]` on the normalised count (`-1`: everything) -/
def cutTo (m : Int) (d : Bytes) : Bytes := if m = -1 then d else d.take m.toNat

/-- the chunk loop may take the raw cursor up to three bytes too far; `read` puts it back -/
theorem read_of_nonce (x : XorFile) (n : Option Int) (h0 : normN n ≠ 0) (nonce : Bytes)
    (hn : readNonce x = .ok (nonce, x)) :
    read x n = .ok (cutTo (normN n) (readLoop (normN n) x.fh nonce 0).1,
      x.withPos (x.fh.pos + (cutTo (normN n) (readLoop (normN n) x.fh nonce 0).1).length)) := by
  have hfr := readLoop_frame (normN n) x.fh nonce 0
  have hm := normN_cases n
  rw [read_unfold, if_neg h0, hn]
  dsimp only [cutTo]
  by_cases h1 : normN n = -1
  · rw [if_pos h1, if_pos h1, hfr]; rfl
  · rw [if_neg h1, if_neg h1]
    by_cases h2 : ((readLoop (normN n) x.fh nonce 0).1.length : Int) > normN n
    · have hlen : ((readLoop (normN n) x.fh nonce 0).1.take (normN n).toNat).length = (normN n).toNat := by
        rw [List.length_take]; omega
      rw [if_pos h2, hfr, hlen]
      simp only [PyFile.seekCur]
      rw [seekRel_ok _ _ _ (x.fh.pos + (normN n).toNat) (by omega)]
      rfl
    · rw [if_neg h2, hfr, List.take_of_length_le (by omega)]; rfl

theorem read_advances (x : XorFile) (n : Option Int) :
    ∃ out, read x n = .ok (out, x.withPos (x.fh.pos + out.length)) := by
  by_cases h0 : normN n = 0
  · rw [read_unfold, if_pos h0]; exact ⟨[], rfl⟩
  · obtain ⟨nonce, hn⟩ := readNonce_restores x
    exact ⟨_, read_of_nonce x n h0 nonce hn⟩

/-- `read` never raises and changes nothing but the raw cursor — for every object state, also outside the
layout hypotheses (wrong nonce offset, cursor anywhere). -/
theorem read_total (x : XorFile) (n : Option Int) : ∃ out q, read x n = .ok (out, x.withPos q) := by
  obtain ⟨out, h⟩ := read_advances x n
  exact ⟨out, _, h⟩

/-- what an ordinary file over `plain` at position `p` returns for `read(n)` -/
def plainRead (plain : Bytes) (p : Nat) (n : Option Int) : Bytes :=
  (({ data := plain, pos := p } : PyFile).read (n.getD (-1))).1

theorem plainRead_eq (plain : Bytes) (p : Nat) (n : Option Int) :
    plainRead plain p n = cutTo (normN n) (plain.drop p) := by
  cases n with
  | none => simp [plainRead, normN, cutTo, PyFile.read]
  | some v =>
    simp only [plainRead, normN, cutTo, PyFile.read, Option.getD_some]
    by_cases hv : v < 0
    · simp [hv]
    · have : ¬ v = -1 := by omega
      simp [hv, this]

/-- `read(n)` at every logical position `p ≥ 0`, also beyond the end (where it returns `b""` and, since fix
f64b15d, does not move) -/
theorem read_spec {stub nonce size enc : Bytes} {x : XorFile} (hL : Layout stub nonce size enc x)
    (p : Nat) (hpos : x.fh.pos = stub.length + 8 + p) (n : Option Int) :
    read x n = .ok (plainRead (rollDecode nonce enc) p n,
      x.withPos (stub.length + 8 + p + (plainRead (rollDecode nonce enc) p n).length)) := by
  rw [plainRead_eq, ← hpos]
  by_cases h0 : normN n = 0
  · rw [read_unfold, if_pos h0, h0]; rfl
  · rw [read_of_nonce x n h0 _ (readNonce_eq hL p hpos)]
    have hplen : (stub ++ nonce ++ size).length = stub.length + 8 := by
      simp only [List.length_append, hL.nlen, hL.slen]
    obtain ⟨L, hLr, heq, hstop⟩ := readLoop_spec (normN n) (stub ++ nonce ++ size) nonce enc hL.nlen x.fh
      (((nonce ++ enc).drop p).take 4) 0 p (by rw [hL.data]) (by rw [hplen]; exact hpos) (fun _ => rfl)
    have hR : ((List.zipWith (· ^^^ ·) enc (nonce ++ enc)).drop p).length = enc.length - p := by
      simp only [List.length_drop, List.length_zipWith, List.length_append]; omega
    have hcut : cutTo (normN n) (readLoop (normN n) x.fh (((nonce ++ enc).drop p).take 4) 0).1
        = cutTo (normN n) ((rollDecode nonce enc).drop p) := by
      rw [heq, rollDecode_eq_zipWith nonce enc hL.nlen]
      unfold cutTo
      have hm := normN_cases n
      by_cases h1 : normN n = -1
      · have hLe : L = enc.length - p := by
          rcases hstop with h | h
          · exact h
          · omega
        rw [if_pos h1, if_pos h1, hLe, ← hR, List.take_of_length_le (Nat.le_refl _)]
      · rw [if_neg h1, if_neg h1, List.take_take]
        rcases hstop with h | h
        · rw [h, ← hR, ← List.take_eq_take_min]
        · rw [Nat.min_eq_left (by omega)]
    rw [hcut]

/-! ### refinement of histories -/

/-- abstraction relation between the decoding view and a plain file over the decoded bytes -/
structure Abs (stub nonce size enc : Bytes) (x : XorFile) (pf : PyFile) : Prop where
  layout : Layout stub nonce size enc x
  data : pf.data = rollDecode nonce enc
  pos : x.fh.pos = stub.length + 8 + pf.pos

theorem layout_withPos {stub nonce size enc : Bytes} {x : XorFile} (hL : Layout stub nonce size enc x) (q : Nat) :
    Layout stub nonce size enc (x.withPos q) :=
  ⟨hL.data, hL.nlen, hL.slen, hL.off, hL.init⟩

theorem read_fst_eq (pf : PyFile) (n : Option Int) :
    (pf.read (n.getD (-1))).1 = plainRead pf.data pf.pos n := rfl

theorem plainRead_length (plain : Bytes) (p : Nat) (n : Option Int) :
    p + (plainRead plain p n).length = posAfterRead plain.length p n := by
  have hall : ∀ v : Int, v < 0 → p + (plainRead plain p (some v)).length = max p plain.length := fun v hv => by
    have h : plainRead plain p (some v) = plain.drop p := PyFile.read_neg _ v hv
    rw [h, List.length_drop]; omega
  cases n with
  | none => exact hall (-1) (by omega)
  | some v =>
    by_cases hv : v < 0
    · simp only [posAfterRead, if_pos hv]; exact hall v hv
    · obtain ⟨k, rfl⟩ : ∃ k : Nat, v = k := ⟨v.toNat, by omega⟩
      have h : plainRead plain p (some (k : Int)) = (plain.drop p).take k := PyFile.read_nonneg _ k
      simp only [posAfterRead, if_neg hv, Int.toNat_natCast, h, List.length_take, List.length_drop]
      omega

/-! ### `seek`, of a plain file and of the view, by its target -/

/-- the logical target of `seek(off, whence)` on a plain file -/
def logicalTarget (pf : PyFile) (off : Int) (wh : Nat) : Int :=
  match wh with
  | 0 => off
  | 1 => (pf.pos : Int) + off
  | _ => (pf.data.length : Int) + off

/-- what the plain file does with a seek whose target is negative -/
def plainBelowStart (pf : PyFile) (wh : Nat) : Py (Out × PyFile) :=
  if wh = 0 then .error pf.negSeekExc
  else match pf.kind with
    | .bytesIO => .ok (.seek 0, { pf with pos := 0 })
    | .osFile => .error .osError

theorem pyseek_nonneg (pf : PyFile) (off : Int) (wh : Nat) (hwh : wh ≤ 2) (t : Nat)
    (ht : logicalTarget pf off wh = (t : Int)) : pf.seek off wh = .ok (t, { pf with pos := t }) := by
  obtain rfl | rfl | rfl : wh = 0 ∨ wh = 1 ∨ wh = 2 := by omega
  · exact seekSet_ok' pf off t ht
  · exact seekRel_ok pf pf.pos off t ht
  · exact seekRel_ok pf pf.data.length off t ht

theorem plainStep_negative (pf : PyFile) (off : Int) (wh : Nat) (hwh : wh ≤ 2) (ht : logicalTarget pf off wh < 0) :
    plainStep pf (.seek off wh) = plainBelowStart pf wh := by
  obtain rfl | rfl | rfl : wh = 0 ∨ wh = 1 ∨ wh = 2 := by omega
  · simp only [plainStep, PyFile.seek, PyFile.seekSet, plainBelowStart, if_pos (show off < 0 from ht)]; rfl
  · simp only [plainStep, PyFile.seek, PyFile.seekCur, PyFile.seekRel, plainBelowStart,
      if_pos (show (pf.pos : Int) + off < 0 from ht)]
    cases pf.kind <;> rfl
  · simp only [plainStep, PyFile.seek, PyFile.seekEnd, PyFile.seekRel, plainBelowStart,
      if_pos (show (pf.data.length : Int) + off < 0 from ht)]
    cases pf.kind <;> rfl

theorem plainStep_seek (pf : PyFile) (off : Int) (wh : Nat) (hwh : wh ≤ 2)
    (h : 0 ≤ logicalTarget pf off wh ∨ (wh ≠ 0 ∧ pf.kind = .bytesIO)) (q : Nat)
    (hq : (q : Int) = max (logicalTarget pf off wh) 0) :
    plainStep pf (.seek off wh) = .ok (.seek q, { pf with pos := q }) := by
  by_cases ht : 0 ≤ logicalTarget pf off wh
  · simp only [plainStep, pyseek_nonneg pf off wh hwh q (by omega), Except.map]
  · obtain ⟨hw0, hk⟩ := h.resolve_left ht
    have hq0 : q = 0 := by omega
    rw [plainStep_negative pf off wh hwh (by omega), plainBelowStart, if_neg hw0, hk, hq0]

/-- the logical position a `seek(off, whence)` of the view aims at (before clamping at 0) -/
def viewTarget (x : XorFile) (off : Int) (wh : Nat) : Int :=
  match wh with
  | 0 => off
  | 1 => tell x + off
  | _ => (x.fh.data.length : Int) - ((x.nonceOff : Int) + 8) + off

theorem seekTo_eq (x : XorFile) (target : Int) (v : Nat)
    (hv : (v : Int) = max target 0 + ((x.nonceOff : Int) + 8)) : seekTo x target = .ok (v, x.withPos v) := by
  simp only [seekTo, ← hv, PyFile.seekSet_ok]; rfl

theorem seek_set_neg (x : XorFile) (off : Int) (h : off < 0) : seek x off 0 = .error .valueError := by
  simp only [seek, if_pos h]

theorem seek_bad_whence (x : XorFile) (off : Int) (wh : Nat) (hwh : 2 < wh) : seek x off wh = .error .valueError := by
  obtain ⟨n, rfl⟩ : ∃ n, wh = n + 3 := ⟨wh - 3, by omega⟩
  rfl

theorem seek_eq (x : XorFile) (off : Int) (wh : Nat) (hwh : wh ≤ 2) (h0 : wh = 0 → 0 ≤ off) (v : Nat)
    (hv : (v : Int) = max (viewTarget x off wh) 0 + ((x.nonceOff : Int) + 8)) :
    seek x off wh = .ok (v, x.withPos v) := by
  obtain rfl | rfl | rfl : wh = 0 ∨ wh = 1 ∨ wh = 2 := by omega
  · show (if off < 0 then _ else seekTo x off) = _
    rw [if_neg (Int.not_lt.mpr (h0 rfl))]
    exact seekTo_eq x off v hv
  · exact seekTo_eq x _ v hv
  · simp only [seek, PyFile.seekEnd]
    rw [seekRel_ok x.fh x.fh.data.length 0 x.fh.data.length (by omega)]
    exact seekTo_eq { x with fh := { x.fh with pos := x.fh.data.length } } _ v hv

/-- `seek` never raises anything but ValueError and changes nothing but the raw cursor -/
theorem seek_frame (x : XorFile) (off : Int) (wh : Nat) :
    seek x off wh = .error .valueError ∨ ∃ v, seek x off wh = .ok (v, x.withPos v) := by
  by_cases hwh : wh ≤ 2
  · by_cases h0 : wh = 0 ∧ off < 0
    · obtain ⟨rfl, h0⟩ := h0
      exact Or.inl (seek_set_neg x off h0)
    · exact Or.inr ⟨_, seek_eq x off wh hwh (by omega)
        (max (viewTarget x off wh) 0 + ((x.nonceOff : Int) + 8)).toNat (by omega)⟩
  · exact Or.inl (seek_bad_whence x off wh (by omega))

theorem viewTarget_abs {stub nonce size enc : Bytes} {x : XorFile} {pf : PyFile}
    (hA : Abs stub nonce size enc x pf) (off : Int) (wh : Nat) :
    viewTarget x off wh = logicalTarget pf off wh := by
  obtain ⟨hL, hdata, hpos⟩ := hA
  have hlen : x.fh.data.length = stub.length + 8 + pf.data.length := by
    rw [hL.data, hdata, rollDecode_length]; simp only [List.length_append, hL.nlen, hL.slen]
  match wh with
  | 0 => rfl
  | 1 => simp only [viewTarget, logicalTarget, tell, PyFile.tell]; rw [hpos, hL.off]; omega
  | n + 2 => simp only [viewTarget, logicalTarget]; rw [hlen, hL.off]; omega

theorem abs_withPos {stub nonce size enc : Bytes} {x : XorFile} {pf : PyFile}
    (hA : Abs stub nonce size enc x pf) (q : Nat) :
    Abs stub nonce size enc (x.withPos (stub.length + 8 + q)) { pf with pos := q } :=
  ⟨layout_withPos hA.layout _, hA.data, rfl⟩

theorem seek_refines {stub nonce size enc : Bytes} {x : XorFile} {pf : PyFile}
    (hA : Abs stub nonce size enc x pf) (off : Int) (wh : Nat) (hwh : wh ≤ 2)
    (h : 0 ≤ logicalTarget pf off wh ∨ (wh ≠ 0 ∧ pf.kind = .bytesIO)) (q : Nat)
    (hq : (q : Int) = max (logicalTarget pf off wh) 0) :
    plainStep pf (.seek off wh) = .ok (.seek q, { pf with pos := q }) ∧
    stepOp x (.seek off wh) = .ok ((Out.seek q).shift (stub.length + 8), x.withPos (stub.length + 8 + q)) := by
  refine ⟨plainStep_seek pf off wh hwh h q hq, ?_⟩
  have h0 : wh = 0 → 0 ≤ off := by
    rintro rfl
    exact h.resolve_right (fun h => h.1 rfl)
  have hs := seek_eq x off wh hwh h0 (stub.length + 8 + q)
    (by rw [viewTarget_abs hA, hA.layout.off]; omega)
  simp only [stepOp, hs, Except.map, Out.shift, Nat.add_comm q]

theorem seeksNonneg_seek (pf : PyFile) (off : Int) (wh : Nat) (ops : List Op) :
    seeksNonneg pf.data.length pf.pos (.seek off wh :: ops) = true ↔
      wh ≤ 2 ∧ 0 ≤ logicalTarget pf off wh ∧
        seeksNonneg pf.data.length (logicalTarget pf off wh).toNat ops = true := by
  match wh with
  | 0 | 1 | 2 =>
    simp only [seeksNonneg, logicalTarget, Bool.and_eq_true, decide_eq_true_eq]
    exact ⟨fun h => ⟨by omega, h⟩, fun h => h.2⟩
  | n + 3 =>
    simp only [seeksNonneg]
    constructor
    · intro h; cases h
    · intro h; omega

/-- one operation: same output (seek's return value shifted), abstraction preserved -/
theorem step_refines {stub nonce size enc : Bytes} {x : XorFile} {pf : PyFile}
    (hA : Abs stub nonce size enc x pf) (op : Op) (ops : List Op)
    (hops : seeksNonneg enc.length pf.pos (op :: ops) = true) :
    ∃ o pf', plainStep pf op = .ok (o, pf') ∧
      stepOp x op = .ok (o.shift (stub.length + 8), x.withPos (stub.length + 8 + pf'.pos)) ∧
      Abs stub nonce size enc (x.withPos (stub.length + 8 + pf'.pos)) pf' ∧
      seeksNonneg enc.length pf'.pos ops = true := by
  have hplen : pf.data.length = enc.length := by rw [hA.data, rollDecode_length]
  cases op with
  | tell =>
    refine ⟨.pos pf.pos, pf, rfl, ?_, ?_, hops⟩
    · have : tell x = (pf.pos : Int) := by
        simp only [tell, PyFile.tell]; rw [hA.pos, hA.layout.off]; omega
      simp only [stepOp, this, Out.shift]
      rw [← hA.pos]; rfl
    · rw [← hA.pos]; exact hA
  | read n =>
    have hr := read_spec hA.layout pf.pos hA.pos n
    have hlen := plainRead_length pf.data pf.pos n
    rw [← hA.data] at hr
    refine ⟨.bytes (plainRead pf.data pf.pos n), (pf.read (n.getD (-1))).2, rfl, ?_, abs_withPos hA _, ?_⟩
    · simp only [stepOp, hr, Except.map, Out.shift, PyFile.read_pos, read_fst_eq, Nat.add_assoc]
    · simp only [PyFile.read_pos, read_fst_eq, hlen, hplen]
      exact hops
  | seek off wh =>
    rw [← hplen, seeksNonneg_seek] at hops
    obtain ⟨hwh, h0, hrest⟩ := hops
    obtain ⟨t, ht⟩ : ∃ t : Nat, logicalTarget pf off wh = (t : Int) := ⟨_, (Int.toNat_of_nonneg h0).symm⟩
    obtain ⟨h1, h2⟩ := seek_refines hA off wh hwh (Or.inl h0) t (by omega)
    rw [ht, Int.toNat_natCast, hplen] at hrest
    exact ⟨.seek t, { pf with pos := t }, h1, h2, abs_withPos hA t, hrest⟩

theorem withPos_withPos (x : XorFile) (a b : Nat) : (x.withPos a).withPos b = x.withPos b := rfl

theorem withPos_nonceOff (x : XorFile) (a : Nat) : (x.withPos a).nonceOff = x.nonceOff := rfl

theorem run_refines {stub nonce size enc : Bytes} (ops : List Op) :
    ∀ {x : XorFile} {pf : PyFile}, Abs stub nonce size enc x pf →
      seeksNonneg enc.length pf.pos ops = true →
      ∃ outs pf', plainRun pf ops = .ok (outs, pf') ∧
        run x ops = .ok (outs.map (Out.shift (stub.length + 8)), x.withPos (stub.length + 8 + pf'.pos)) ∧
        Abs stub nonce size enc (x.withPos (stub.length + 8 + pf'.pos)) pf' := by
  induction ops with
  | nil =>
    intro x pf hA _
    refine ⟨[], pf, rfl, ?_, ?_⟩
    · rw [← hA.pos]; rfl
    · rw [← hA.pos]; exact hA
  | cons op ops ih =>
    intro x pf hA hops
    obtain ⟨o, pf1, hp1, hx1, hA1, hops1⟩ := step_refines hA op ops hops
    obtain ⟨outs, pf2, hp2, hx2, hA2⟩ := ih hA1 hops1
    refine ⟨o :: outs, pf2, ?_, ?_, ?_⟩
    · simp only [plainRun, hp1, hp2]
    · simp only [run, hx1, hx2, List.map_cons, withPos_withPos]
    · rw [withPos_withPos] at hA2; exact hA2

/-! ### every history: the current `seek` clamps like `io.BytesIO` -/

theorem plainStep_kind {pf : PyFile} {op : Op} {o : Out} {pf' : PyFile} (h : plainStep pf op = .ok (o, pf')) :
    pf'.kind = pf.kind := by
  cases op with
  | tell => simp only [plainStep] at h; injection h with h; rw [← (Prod.mk.inj h).2]
  | read n => simp only [plainStep] at h; injection h with h; rw [← (Prod.mk.inj h).2]; rfl
  | seek off wh =>
    simp only [plainStep] at h
    cases hs : pf.seek off wh with
    | error e => rw [hs] at h; cases h
    | ok r =>
      obtain ⟨v, g⟩ := r
      rw [hs] at h
      injection h with h
      rw [← (Prod.mk.inj h).2, pyseek_frame _ _ _ _ _ hs]

/-- one operation, any operation: the view and an `io.BytesIO` over the decoded bytes either raise the same exception
(and nothing moves) or produce the same output (seek's return value shifted) and stay in the abstraction relation -/
theorem step_refines_all {stub nonce size enc : Bytes} {x : XorFile} {pf : PyFile}
    (hA : Abs stub nonce size enc x pf) (hk : pf.kind = .bytesIO) (op : Op) :
    (∃ e, plainStep pf op = .error e ∧ stepOp x op = .error e) ∨
    (∃ o pf', plainStep pf op = .ok (o, pf') ∧ pf'.kind = .bytesIO ∧
      stepOp x op = .ok (o.shift (stub.length + 8), x.withPos (stub.length + 8 + pf'.pos)) ∧
      Abs stub nonce size enc (x.withPos (stub.length + 8 + pf'.pos)) pf') := by
  by_cases hnn : seeksNonneg enc.length pf.pos [op] = true
  · obtain ⟨o, pf', h1, h2, h3, _⟩ := step_refines hA op [] hnn
    exact Or.inr ⟨o, pf', h1, by rw [plainStep_kind h1, hk], h2, h3⟩
  · cases op with
    | tell => exact absurd rfl hnn
    | read n => exact absurd rfl hnn
    | seek off wh =>
      by_cases hwh : wh ≤ 2
      · by_cases h0 : wh = 0 ∧ off < 0
        · -- a negative absolute offset: ValueError from `io.BytesIO` and from the view's own check
          obtain ⟨rfl, h0⟩ := h0
          refine Or.inl ⟨.valueError, ?_, ?_⟩
          · rw [plainStep_negative pf off 0 hwh h0, plainBelowStart, if_pos rfl, PyFile.negSeekExc, hk]
          · simp only [stepOp, seek_set_neg x off h0]; rfl
        · -- every other target is taken, clamped at 0 by both
          have hgood : 0 ≤ logicalTarget pf off wh ∨ (wh ≠ 0 ∧ pf.kind = .bytesIO) := by
            by_cases hw : wh = 0
            · subst hw; exact Or.inl (by simp only [logicalTarget]; omega)
            · exact Or.inr ⟨hw, hk⟩
          have hq : (((max (logicalTarget pf off wh) 0).toNat : Nat) : Int) = max (logicalTarget pf off wh) 0 := by
            omega
          obtain ⟨h1, h2⟩ := seek_refines hA off wh hwh hgood _ hq
          exact Or.inr ⟨_, _, h1, hk, h2, abs_withPos hA _⟩
      · refine Or.inl ⟨.valueError, ?_, ?_⟩
        · obtain ⟨n, rfl⟩ : ∃ n, wh = n + 3 := ⟨wh - 3, by omega⟩
          rfl
        · simp only [stepOp, seek_bad_whence x off wh (by omega)]; rfl

/-- the outputs of a history on the plain file, shifted into the view's convention -/
def shiftOut (base : Nat) : Py Out → Py Out
  | .ok o => .ok (o.shift base)
  | .error e => .error e

theorem trace_refines_all {stub nonce size enc : Bytes} (ops : List Op) :
    ∀ {x : XorFile} {pf : PyFile}, Abs stub nonce size enc x pf → pf.kind = .bytesIO →
      runTrace x ops = (plainTrace pf ops).map (shiftOut (stub.length + 8)) := by
  induction ops with
  | nil => intro x pf _ _; rfl
  | cons op ops ih =>
    intro x pf hA hk
    rcases step_refines_all hA hk op with ⟨e, h1, h2⟩ | ⟨o, pf', h1, hk', h2, hA'⟩
    · simp only [runTrace, plainTrace, h1, h2, List.map_cons, shiftOut, ih hA hk]
    · simp only [runTrace, plainTrace, h1, h2, List.map_cons, shiftOut, ih hA' hk']

theorem run_refines_all {stub nonce size enc : Bytes} (ops : List Op) :
    ∀ {x : XorFile} {pf : PyFile}, Abs stub nonce size enc x pf → pf.kind = .bytesIO →
      match plainRun pf ops with
      | .ok (outs, pf') =>
        run x ops = .ok (outs.map (Out.shift (stub.length + 8)), x.withPos (stub.length + 8 + pf'.pos)) ∧
        Abs stub nonce size enc (x.withPos (stub.length + 8 + pf'.pos)) pf'
      | .error e => run x ops = .error e := by
  induction ops with
  | nil =>
    intro x pf hA _
    simp only [plainRun, run, List.map_nil]
    rw [← hA.pos]
    exact ⟨rfl, hA⟩
  | cons op ops ih =>
    intro x pf hA hk
    rcases step_refines_all hA hk op with ⟨e, h1, h2⟩ | ⟨o, pf', h1, hk', h2, hA'⟩
    · simp only [plainRun, run, h1, h2]
    · have := ih hA' hk'
      simp only [plainRun, run, h1, h2]
      cases hp : plainRun pf' ops with
      | error e => rw [hp] at this; simp only [this]
      | ok r =>
        obtain ⟨outs, pf2⟩ := r
        rw [hp] at this
        simp only at this
        simp only [this.1, List.map_cons, withPos_withPos]
        rw [withPos_withPos] at this
        exact ⟨trivial, this.2⟩

/-! ### the constructor -/

theorem mk'_spec (stub nonce size enc : Bytes) (hn : nonce.length = 4) (hs : size.length = 4)
    (f : PyFile) (hd : f.data = stub ++ nonce ++ size ++ enc) :
    mk' f stub.length = .ok { fh := { f with pos := stub.length + 8 }, nonceOff := stub.length,
                              initialNonce := nonce, noncedSize := size } := by
  simp only [mk', PyFile.seekSet_ok, read4_fst, read4_snd]
  rw [hd]
  simp only [nonce_at stub nonce size enc hn, size_at stub nonce size enc hn hs, hn, hs]

theorem mk'_ok (f : PyFile) (c : Nat) :
    ∃ x, mk' f c = .ok x ∧ x.nonceOff = c ∧ x.fh.data = f.data ∧ x.fh.kind = f.kind := by
  simp only [mk', PyFile.seekSet_ok]
  exact ⟨_, rfl, rfl, rfl, rfl⟩

theorem mk'_congr (f g : PyFile) (c : Nat) (hd : f.data = g.data) (hk : f.kind = g.kind) :
    mk' f c = mk' g c := by
  obtain ⟨fd, fp, fk⟩ := f
  obtain ⟨gd, gp, gk⟩ := g
  simp only at hd hk
  subst hd hk
  simp only [mk', PyFile.seekSet_ok]

/-! ### detection: `iter_nonce_offsets` -/

/-- the size relation of `iter_nonce_offsets` at offset `c` of a file of `data.length` bytes -/
def SizeRel (data : Bytes) (rs : Int) (c : Nat) : Prop :=
  c + 8 ≤ data.length ∧ u32 (C20.xor ((data.drop c).take 4) ((data.drop (c + 4)).take 4)) + (c : Int) + 8 = rs

instance (data : Bytes) (rs : Int) (c : Nat) : Decidable (SizeRel data rs c) := by
  unfold SizeRel; infer_instance

theorem nonceLoop_succ (rs : Int) (k i : Nat) (f : PyFile) :
    nonceLoop rs (k + 1) i f =
      if i + 8 ≤ f.data.length then
        match nonceLoop rs k (i + 1) { f with pos := i + 8 } with
        | .error e => .error e
        | .ok (rest, f') =>
          if u32 (C20.xor ((f.data.drop i).take 4) ((f.data.drop (i + 4)).take 4)) + (i : Int) + 8 = rs
          then .ok (i :: rest, f') else .ok (rest, f')
      else .ok ([], { f with pos := i + min 4 (f.data.length - i) + min 4 (f.data.length - (i + min 4 (f.data.length - i))) }) := by
  simp only [nonceLoop, PyFile.seekSet_ok, read4_fst, read4_snd, List.length_take, List.length_drop]
  by_cases hlen : i + 8 ≤ f.data.length
  · have e1 : min 4 (f.data.length - i) = 4 := by omega
    have e2 : min 4 (f.data.length - (i + 4)) = 4 := by omega
    simp only [e1, e2, if_pos hlen, ne_eq, not_true_eq_false, or_self, if_false, Nat.add_assoc]
    rfl
  · have hbr : min 4 (f.data.length - i) ≠ 4 ∨ min 4 (f.data.length - (i + min 4 (f.data.length - i))) ≠ 4 := by omega
    rw [if_pos hbr, if_neg hlen]

theorem nonceLoop_eq (rs : Int) (k : Nat) : ∀ (i : Nat) (f : PyFile),
    ∃ f', nonceLoop rs k i f = .ok ((List.range' i k).filter (fun c => decide (SizeRel f.data rs c)), f') ∧
      f'.data = f.data ∧ f'.kind = f.kind := by
  induction k with
  | zero => intro i f; exact ⟨f, rfl, rfl, rfl⟩
  | succ k ih =>
    intro i f
    rw [nonceLoop_succ, List.range'_succ, List.filter_cons]
    by_cases hlen : i + 8 ≤ f.data.length
    · obtain ⟨f', h, hd, hk⟩ := ih (i + 1) { f with pos := i + 8 }
      rw [if_pos hlen, h]
      refine ⟨f', ?_, hd, hk⟩
      by_cases hrel : u32 (C20.xor ((f.data.drop i).take 4) ((f.data.drop (i + 4)).take 4)) + (i : Int) + 8 = rs
      · rw [if_pos (decide_eq_true (show SizeRel f.data rs i from ⟨hlen, hrel⟩))]
        exact if_pos hrel
      · rw [if_neg (by rw [decide_eq_true_eq]; exact fun h => hrel h.2)]
        exact if_neg hrel
    · -- nothing at or after `i` has eight bytes left
      have hnone : (List.range' (i + 1) k).filter (fun c => decide (SizeRel f.data rs c)) = [] := by
        rw [List.filter_eq_nil_iff]
        intro c hc
        have := (List.mem_range'_1.mp hc).1
        rw [decide_eq_true_eq]
        exact fun h => hlen (by have := h.1; omega)
      rw [if_neg hlen, if_neg (by rw [decide_eq_true_eq]; exact fun h => hlen h.1), hnone]
      exact ⟨_, rfl, rfl, rfl⟩

theorem sizeRel_layout (stub nonce size rest : Bytes) (hn : nonce.length = 4) (hs : size.length = 4) (rs : Int) :
    SizeRel (stub ++ nonce ++ size ++ rest) rs stub.length ↔
      u32 (C20.xor nonce size) + (stub.length : Int) + 8 = rs := by
  rw [SizeRel, nonce_at stub nonce size rest hn, size_at stub nonce size rest hn hs]
  exact and_iff_right (by simp only [List.length_append, hn, hs]; omega)

/-- the same offsets by one pass over the bytes (`d` = the data from offset `i` on), instead of a `drop i` per offset -/
def sizeOffsetsFrom (rs : Int) : Nat → Nat → Bytes → List Nat
  | k + 1, i, a0 :: a1 :: a2 :: a3 :: b0 :: b1 :: b2 :: b3 :: rest =>
    let tl := sizeOffsetsFrom rs k (i + 1) (a1 :: a2 :: a3 :: b0 :: b1 :: b2 :: b3 :: rest)
    if u32 (C20.xor [a0, a1, a2, a3] [b0, b1, b2, b3]) + (i : Int) + 8 = rs then i :: tl else tl
  | _, _, _ => []

theorem filter_sizeRel (d : Bytes) (rs : Int) (k : Nat) : ∀ i,
    (List.range' i k).filter (fun c => SizeRel d rs c) = sizeOffsetsFrom rs k i (d.drop i) := by
  induction k with
  | zero => intro i; simp [sizeOffsetsFrom]
  | succ k ih =>
    intro i
    rcases hd : d.drop i with _ | ⟨a0, _ | ⟨a1, _ | ⟨a2, _ | ⟨a3, _ | ⟨b0, _ | ⟨b1, _ | ⟨b2, _ | ⟨b3, rest⟩⟩⟩⟩⟩⟩⟩⟩
    case cons.cons.cons.cons.cons.cons.cons.cons =>
      have hlen : i + 8 ≤ d.length := by
        have := congrArg List.length hd
        simp only [List.length_drop, List.length_cons] at this
        omega
      have htl : d.drop (i + 1) = a1 :: a2 :: a3 :: b0 :: b1 :: b2 :: b3 :: rest := by
        rw [← List.drop_drop, hd]; rfl
      have h4 : d.drop (i + 4) = b0 :: b1 :: b2 :: b3 :: rest := by
        rw [← List.drop_drop, hd]; rfl
      have hrel : SizeRel d rs i ↔ u32 (C20.xor [a0, a1, a2, a3] [b0, b1, b2, b3]) + (i : Int) + 8 = rs := by
        unfold SizeRel
        rw [hd, h4]
        exact ⟨fun h => h.2, fun h => ⟨hlen, h⟩⟩
      rw [List.range'_succ, List.filter_cons, ih (i + 1), htl]
      simp only [sizeOffsetsFrom, decide_eq_true_eq, hrel]
    all_goals
      have hlen : d.length < i + 8 := by
        have := congrArg List.length hd
        simp only [List.length_drop, List.length_cons, List.length_nil] at this
        omega
      rw [show sizeOffsetsFrom rs (k + 1) i _ = [] from rfl]
      apply List.filter_eq_nil_iff.mpr
      intro c hc hs
      have h1 := (List.mem_range'_1.mp hc).1
      have h2 := (of_decide_eq_true hs).1
      omega

/-! ### `Counter(...).most_common()` -/

theorem counterAdd_keys (c : List (Nat × Nat)) (k : Nat) :
    (counterAdd c k).map (·.1) = if k ∈ c.map (·.1) then c.map (·.1) else c.map (·.1) ++ [k] := by
  induction c with
  | nil => simp [counterAdd]
  | cons h t ih =>
    obtain ⟨k', n⟩ := h
    simp only [counterAdd]
    by_cases hk : k' = k
    · subst hk; simp
    · have hk' : ¬ k = k' := fun h => hk h.symm
      simp only [hk, if_false, List.map_cons, ih, List.mem_cons, hk', false_or]
      split <;> simp

theorem mem_counterAdd_keys (c : List (Nat × Nat)) (k j : Nat) :
    j ∈ (counterAdd c k).map (·.1) ↔ j = k ∨ j ∈ c.map (·.1) := by
  rw [counterAdd_keys]
  by_cases h : k ∈ c.map (·.1)
  · rw [if_pos h]
    exact ⟨Or.inr, fun h' => h'.elim (fun e => e ▸ h) id⟩
  · rw [if_neg h, List.mem_append, List.mem_singleton]
    exact Or.comm

theorem mem_foldl_counterAdd (xs : List Nat) (c : List (Nat × Nat)) (j : Nat) :
    j ∈ (xs.foldl counterAdd c).map (·.1) ↔ j ∈ xs ∨ j ∈ c.map (·.1) := by
  induction xs generalizing c with
  | nil => simp
  | cons x xs ih => rw [List.foldl_cons, ih, mem_counterAdd_keys, List.mem_cons, or_left_comm, or_assoc]

theorem mem_counter_keys (xs : List Nat) (j : Nat) : j ∈ (counter xs).map (·.1) ↔ j ∈ xs := by
  simp [counter, mem_foldl_counterAdd]

theorem insertByCount_perm (e : Nat × Nat) (l : List (Nat × Nat)) : (insertByCount e l).Perm (e :: l) := by
  induction l with
  | nil => exact List.Perm.refl _
  | cons h t ih =>
    simp only [insertByCount]
    split
    · exact List.Perm.refl _
    · exact (List.Perm.cons h ih).trans (List.Perm.swap e h t)

theorem mostCommon_perm (c : List (Nat × Nat)) : (mostCommon c).Perm c := by
  induction c with
  | nil => exact List.Perm.refl _
  | cons e t ih =>
    simp only [mostCommon, List.foldr_cons]
    exact (insertByCount_perm e _).trans (List.Perm.cons e ih)

theorem insertByCount_sorted (e : Nat × Nat) (l : List (Nat × Nat))
    (h : l.Pairwise (fun a b => a.2 ≥ b.2)) : (insertByCount e l).Pairwise (fun a b => a.2 ≥ b.2) := by
  induction l with
  | nil => simp [insertByCount]
  | cons x t ih =>
    simp only [insertByCount]
    rw [List.pairwise_cons] at h
    split
    · rename_i hle
      refine List.pairwise_cons.mpr ⟨?_, List.pairwise_cons.mpr h⟩
      intro b hb
      rcases List.mem_cons.mp hb with rfl | hb
      · exact hle
      · exact Nat.le_trans (h.1 b hb) hle
    · rename_i hgt
      refine List.pairwise_cons.mpr ⟨?_, ih h.2⟩
      intro b hb
      rcases List.mem_cons.mp ((insertByCount_perm e t).mem_iff.mp hb) with rfl | hb
      · omega
      · exact h.1 b hb

/-- `most_common()` is sorted by count, descending -/
theorem mostCommon_sorted (c : List (Nat × Nat)) : (mostCommon c).Pairwise (fun a b => a.2 ≥ b.2) := by
  induction c with
  | nil => exact List.Pairwise.nil
  | cons e t ih => exact insertByCount_sorted e _ ih

theorem insertByCount_filter (e : Nat × Nat) (l : List (Nat × Nat)) (n : Nat) :
    (insertByCount e l).filter (·.2 == n) = (e :: l).filter (·.2 == n) := by
  induction l with
  | nil => rfl
  | cons x t ih =>
    simp only [insertByCount]
    split
    · rfl
    · rename_i hgt
      rw [List.filter_cons, ih]
      by_cases hx : x.2 = n
      · have he : ¬ e.2 = n := by omega
        simp [hx, he]
      · simp [List.filter_cons, hx]

/-- … and stable: entries with equal counts keep their dict (first-insertion) order -/
theorem mostCommon_stable (c : List (Nat × Nat)) (n : Nat) :
    (mostCommon c).filter (·.2 == n) = c.filter (·.2 == n) := by
  induction c with
  | nil => rfl
  | cons e t ih =>
    simp only [mostCommon, List.foldr_cons] at ih ⊢
    rw [insertByCount_filter, List.filter_cons, List.filter_cons, ih]

theorem mem_candidates (hits offs : List Nat) (c : Nat) :
    c ∈ candidates hits offs ↔ c ∈ hits.map (· + 3) ∨ c ∈ offs := by
  simp only [candidates]
  rw [(List.Perm.map _ (mostCommon_perm _)).mem_iff, mem_counter_keys, List.mem_append]

/-! ### the candidate loop -/

theorem seek0_ok (x : XorFile) : seek x 0 0 = .ok (x.nonceOff + 8, x.withPos (x.nonceOff + 8)) := by
  exact seek_eq x 0 0 (by omega) (fun _ => by omega) _ (by simp only [viewTarget]; omega)

theorem tryCandidates_reject (mzOk : Nat → Bool) (cs : List Nat) :
    ∀ (g : PyFile), (∀ c ∈ cs, mzOk c = false) → tryCandidates g mzOk cs = .error .valueError := by
  induction cs with
  | nil => intro g _; rfl
  | cons c cs ih =>
    intro g h
    obtain ⟨x, hx, _, _, _⟩ := mk'_ok g c
    simp only [tryCandidates, hx, h c List.mem_cons_self]
    exact ih x.fh (fun d hd => h d (List.mem_cons_of_mem _ hd))

theorem tryCandidates_first (mzOk : Nat → Bool) (f : PyFile) (pre : List Nat) (c : Nat) (post : List Nat)
    (x0 : XorFile) (hx0 : mk' f c = .ok x0) (hc : mzOk c = true) :
    ∀ (g : PyFile), g.data = f.data → g.kind = f.kind → (∀ d ∈ pre, mzOk d = false) →
      tryCandidates g mzOk (pre ++ c :: post) = .ok (x0.withPos (c + 8)) := by
  induction pre with
  | nil =>
    intro g hd hk _
    have hn : x0.nonceOff = c := by
      obtain ⟨x, hx, hn, _, _⟩ := mk'_ok f c
      rw [hx] at hx0; injection hx0 with hx0; rw [← hx0]; exact hn
    simp only [List.nil_append, tryCandidates, mk'_congr g f c hd hk, hx0, hc, if_true, seek0_ok, hn]
  | cons d pre ih =>
    intro g hd hk h
    obtain ⟨x, hx, _, hxd, hxk⟩ := mk'_ok g d
    simp only [List.cons_append, tryCandidates, hx, h d List.mem_cons_self]
    exact ih x.fh (by rw [hxd, hd]) (by rw [hxk, hk]) (fun e he => h e (List.mem_cons_of_mem _ he))

theorem iterNonceOffsets_eq (f : PyFile) (mr : Nat) :
    ∃ f', iterNonceOffsets f none mr =
        .ok ((List.range' 0 mr).filter (fun c => decide (SizeRel f.data (f.data.length : Int) c)), f') ∧
      f'.data = f.data ∧ f'.kind = f.kind := by
  simp only [iterNonceOffsets, PyFile.seekEnd]
  rw [seekRel_ok f f.data.length 0 f.data.length (by omega)]
  exact nonceLoop_eq _ mr 0 { f with pos := f.data.length }

theorem iterNonceOffsets_ok (f : PyFile) (mr : Nat) :
    ∃ l f', iterNonceOffsets f none mr = .ok (l, f') ∧ f'.data = f.data ∧ f'.kind = f.kind := by
  obtain ⟨f', h, hd, hk⟩ := iterNonceOffsets_eq f mr
  exact ⟨_, f', h, hd, hk⟩

/-! ### the encoder used in examples, splitting a candidate list -/

theorem rollEncodeAux_length (K P : Bytes) : (rollEncodeAux K P).length = P.length := by
  induction P generalizing K with
  | nil => cases K <;> rfl
  | cons p ps ih => cases K <;> simp [rollEncodeAux, ih]

theorem zipWith_rollEncodeAux (P : Bytes) : ∀ K : Bytes, K ≠ [] →
    List.zipWith (· ^^^ ·) (rollEncodeAux K P) (K ++ rollEncodeAux K P) = P := by
  induction P with
  | nil => intro K _; cases K <;> simp [rollEncodeAux]
  | cons p ps ih =>
    intro K hK
    match K, hK with
    | k :: ks, _ =>
      simp only [rollEncodeAux, List.cons_append, List.zipWith_cons_cons]
      have h1 : p ^^^ k ^^^ k = p := by
        rw [UInt8.xor_assoc, UInt8.xor_self, UInt8.xor_zero]
      have h2 := ih (ks ++ [p ^^^ k]) (by simp)
      rw [List.append_assoc] at h2
      simp only [List.singleton_append] at h2
      rw [h1, h2]

theorem first_passing_split (mzOk : Nat → Bool) (cs : List Nat) (h : ∃ c ∈ cs, mzOk c = true) :
    ∃ pre d post, cs = pre ++ d :: post ∧ (∀ e ∈ pre, mzOk e = false) ∧ mzOk d = true := by
  obtain ⟨d, hd⟩ := Option.isSome_iff_exists.1 (List.find?_isSome.2 h)
  obtain ⟨hok, pre, post, hsplit, hpre⟩ := List.find?_eq_some_iff_append.1 hd
  exact ⟨pre, d, post, hsplit, fun e he => (Bool.not_eq_true' _).mp (hpre e he), hok⟩

/-! ### `find_mz_offset` on a view whose plaintext starts with a PE header -/

theorem seek_set_layout {stub nonce size enc : Bytes} {x : XorFile} (hL : Layout stub nonce size enc x) (t : Nat) :
    seek x (t : Int) 0 = .ok (stub.length + 8 + t, x.withPos (stub.length + 8 + t)) :=
  seek_eq x (t : Int) 0 (by omega) (fun _ => by omega) _ (by simp only [viewTarget]; rw [hL.off]; omega)

/-- what `find_mz_offset` looks at when the image starts at logical offset 0 (`e` = `e_lfanew`) -/
structure PeHeaderAt0 (plain : Bytes) (maxrange e : Nat) : Prop where
  dos : 64 ≤ plain.length
  lfanew : int32le ((plain.drop 60).take 4) = (e : Int)
  lfanew_pos : 0 < e
  lfanew_lt : e < maxrange
  filehdr : 4 + e + 20 ≤ plain.length
  machine : u16le ((plain.drop (4 + e)).take 2) = 0x8664 ∨ u16le ((plain.drop (4 + e)).take 2) = 0x14c

theorem read_exact {stub nonce size enc : Bytes} {x : XorFile} (hL : Layout stub nonce size enc x)
    (t k : Nat) (h : t + k ≤ enc.length) :
    read (x.withPos (stub.length + 8 + t)) (some (k : Int))
      = .ok (((rollDecode nonce enc).drop t).take k, x.withPos (stub.length + 8 + t + k)) := by
  have hp : plainRead (rollDecode nonce enc) t (some (k : Int)) = ((rollDecode nonce enc).drop t).take k :=
    PyFile.read_nonneg _ k
  have hl : (((rollDecode nonce enc).drop t).take k).length = k := by
    rw [List.length_take, List.length_drop, rollDecode_length]; omega
  rw [read_spec (layout_withPos hL _) t rfl (some (k : Int)), hp, hl]
  rfl

theorem mzStep_header {stub nonce size enc : Bytes} {x : XorFile} (hL : Layout stub nonce size enc x)
    (maxrange k : Nat) (hpe : PeHeaderAt0 (rollDecode nonce enc) maxrange k) :
    ∃ x', mzStep x 0 maxrange 0 = .ok (some 0, x') := by
  obtain ⟨h64, he, hpos, hlt, hfh, hm⟩ := hpe
  have hplen := rollDecode_length nonce enc
  have r1 : read (x.withPos (stub.length + 8 + 0)) (some 64) = _ := read_exact hL 0 64 (by omega)
  have r2 : read (x.withPos (stub.length + 8 + (4 + k))) (some 20) = _ := read_exact hL (4 + k) 20 (by omega)
  generalize rollDecode nonce enc = plain at *
  have hl64 : ¬ ((plain.drop 0).take 64).length < 64 := by rw [List.drop_zero, List.length_take]; omega
  have hl20 : ¬ ((plain.drop (4 + k)).take 20).length < 20 := by rw [List.length_take, List.length_drop]; omega
  have hsl : (((plain.drop 0).take 64).drop 60).take 4 = (plain.drop 60).take 4 := by
    rw [List.drop_zero, List.drop_take, List.take_take]; rfl
  have hsl2 : ((plain.drop (4 + k)).take 20).take 2 = (plain.drop (4 + k)).take 2 := by
    rw [List.take_take]; rfl
  have hlf : (0 : Int) < (k : Int) ∧ (k : Int) < (maxrange : Int) := ⟨by omega, by omega⟩
  unfold mzStep
  simp only [Nat.add_zero]
  -- the DOS header is read at logical 0, the file header at `4 + e_lfanew`
  rw [seek_set_layout hL 0]
  dsimp only
  rw [r1]
  dsimp only
  rw [if_neg hl64, hsl, he, if_pos hlf, show (((0 + 4 : Nat) : Int) + (k : Int)) = ((4 + k : Nat) : Int) by omega,
    seek_set_layout (layout_withPos hL _) (4 + k)]
  dsimp only
  rw [withPos_withPos, r2]
  dsimp only
  rw [if_neg hl20, hsl2, if_pos hm]
  exact ⟨_, rfl⟩

theorem mzLoop_succ (start maxrange k offset : Nat) (x : XorFile) :
    mzLoop start maxrange (k + 1) offset x =
      match mzStep x start maxrange offset with
      | .error e => .error e
      | .ok (some r, x') => .ok (some r, x')
      | .ok (none, x') => mzLoop start maxrange k (offset + 1) x' := by rfl

/-! ### `find_mz_offset` never raises on a view and only moves the raw cursor -/

theorem seek_set_nonneg (x : XorFile) (t : Int) (ht : 0 ≤ t) :
    seek x t 0 = .ok ((t + x.nonceOff + 8).toNat, x.withPos (t + x.nonceOff + 8).toNat) :=
  seek_eq x t 0 (by omega) (fun _ => ht) _ (by simp only [viewTarget]; omega)

/-- one iteration of `find_mz_offset` on a view never raises and only moves the cursor -/
theorem mzStep_total (x : XorFile) (start maxrange offset : Nat) :
    ∃ r q, mzStep x start maxrange offset = .ok (r, x.withPos q) := by
  obtain ⟨hdr, q1, h1⟩ := read_total (x.withPos ((((start + offset : Nat) : Int) + x.nonceOff + 8).toNat)) (some 64)
  rw [mzStep, seek_set_nonneg x _ (by omega)]
  dsimp only
  rw [h1]
  dsimp only
  by_cases hshort : hdr.length < 64
  · rw [if_pos hshort]; exact ⟨none, q1, rfl⟩
  · rw [if_neg hshort]
    by_cases hl : 0 < int32le ((hdr.drop 60).take 4) ∧ int32le ((hdr.drop 60).take 4) < (maxrange : Int)
    · obtain ⟨ih, q2, h2⟩ := read_total (x.withPos ((((start + offset + 4 : Nat) : Int) + int32le ((hdr.drop 60).take 4) +
        (x.nonceOff : Int) + 8).toNat)) (some 20)
      rw [if_pos hl, seek_set_nonneg _ _ (by omega)]
      dsimp only
      simp only [withPos_withPos, withPos_nonceOff]
      rw [h2]
      dsimp only
      by_cases hih : ih.length < 20
      · rw [if_pos hih]; exact ⟨none, q2, rfl⟩
      · rw [if_neg hih]
        by_cases hmach : u16le (ih.take 2) = 0x8664 ∨ u16le (ih.take 2) = 0x14c
        · rw [if_pos hmach]; exact ⟨_, q2, rfl⟩
        · rw [if_neg hmach]; exact ⟨none, q2, rfl⟩
    · rw [if_neg hl]; exact ⟨none, q1, rfl⟩

theorem mzLoop_total (start maxrange : Nat) (k : Nat) : ∀ (offset : Nat) (x : XorFile),
    ∃ r q, mzLoop start maxrange k offset x = .ok (r, x.withPos q) := by
  induction k with
  | zero => intro offset x; exact ⟨none, x.fh.pos, rfl⟩
  | succ k ih =>
    intro offset x
    rw [mzLoop_succ]
    obtain ⟨r, q, h⟩ := mzStep_total x start maxrange offset
    rw [h]
    cases r with
    | some v => exact ⟨some v, q, rfl⟩
    | none =>
      obtain ⟨r', q', h'⟩ := ih (offset + 1) (x.withPos q)
      exact ⟨r', q', h'⟩

/-- `pe.find_mz_offset` on a decoding view never raises (EOFError is caught by `continue`, every seek it
performs is to a non-negative raw offset) and leaves everything but the cursor unchanged. -/
theorem findMzOffset_total (x : XorFile) (start maxrange : Nat) :
    ∃ r q, findMzOffset x start maxrange = .ok (r, x.withPos q) :=
  mzLoop_total start maxrange maxrange 0 x

/-! ### `find_mz_offset` on a view without payload bytes -/

theorem read_eof (x : XorFile) (n : Option Int) (h : x.fh.data.length ≤ x.fh.pos) : read x n = .ok ([], x) := by
  rw [read_unfold]
  split
  · rfl
  · obtain ⟨nonce, hn⟩ := readNonce_restores x
    rw [hn]
    simp only [readLoop_at_eof _ _ _ _ h, List.length_nil, List.take_nil]
    have := normN_cases n
    split
    · rfl
    · rw [if_neg (by omega)]

theorem mzStep_eof (x : XorFile) (start maxrange offset : Nat) (h : x.fh.data.length ≤ x.nonceOff + 8) :
    mzStep x start maxrange offset = .ok (none, x.withPos (start + offset + x.nonceOff + 8)) := by
  unfold mzStep
  rw [seek_set_nonneg x _ (by omega)]
  dsimp only
  rw [read_eof _ _ (by simp only [XorFile.withPos]; omega)]
  have : (((start + offset : Nat) : Int) + x.nonceOff + 8).toNat = start + offset + x.nonceOff + 8 := by omega
  rw [this]
  rfl

theorem mzLoop_eof (start maxrange : Nat) (k : Nat) : ∀ (offset : Nat) (x : XorFile), x.fh.data.length ≤ x.nonceOff + 8 →
    mzLoop start maxrange (k + 1) offset x = .ok (none, x.withPos (start + (offset + k) + x.nonceOff + 8)) := by
  induction k with
  | zero => intro offset x h; rw [mzLoop_succ, mzStep_eof x _ _ _ h]; rfl
  | succ k ih =>
    intro offset x h
    rw [mzLoop_succ, mzStep_eof x _ _ _ h]
    dsimp only
    rw [ih (offset + 1) (x.withPos (start + offset + x.nonceOff + 8)) h]
    simp only [XorFile.withPos, Nat.add_assoc, Nat.add_comm 1 k]

theorem mzLoop_some_bound (start maxrange k offset : Nat) (x : XorFile) (r : Nat) (x' : XorFile)
    (h : mzLoop start maxrange k offset x = .ok (some r, x')) : x.nonceOff + 8 < x.fh.data.length := by
  apply Classical.byContradiction
  intro hlt
  cases k with
  | zero =>
    have h0 : mzLoop start maxrange 0 offset x = .ok (none, x) := rfl
    rw [h0] at h
    cases h
  | succ k =>
    rw [mzLoop_eof start maxrange k offset x (by omega)] at h
    cases h

theorem findMzOffset_some_bound (x : XorFile) (start maxrange : Nat) (r : Nat) (x' : XorFile)
    (h : findMzOffset x start maxrange = .ok (some r, x')) : x.nonceOff + 8 < x.fh.data.length :=
  mzLoop_some_bound start maxrange maxrange 0 x r x' h

attribute [local irreducible] mzLoop

theorem tryCandidatesFull_cons (g : PyFile) (c : Nat) (cs : List Nat) :
    tryCandidatesFull g (c :: cs) =
      match mk' g c with
      | .error e => .error e
      | .ok xf =>
        match findMzOffset xf 0 1024 with
        | .error e => .error e
        | .ok (some _, xf1) =>
          match seek xf1 0 0 with
          | .error e => .error e
          | .ok (_, xf') => .ok xf'
        | .ok (none, xf1) => tryCandidatesFull xf1.fh cs := by rfl

theorem tryCandidates_cons (g : PyFile) (mzOk : Nat → Bool) (c : Nat) (cs : List Nat) :
    tryCandidates g mzOk (c :: cs) =
      match mk' g c with
      | .error e => .error e
      | .ok xf =>
        if mzOk c then
          match seek xf 0 0 with
          | .error e => .error e
          | .ok (_, xf') => .ok xf'
        else tryCandidates xf.fh mzOk cs := by rfl

theorem tryCandidates_congr (mzOk : Nat → Bool) (cs : List Nat) :
    ∀ g g' : PyFile, g.data = g'.data → g.kind = g'.kind → tryCandidates g mzOk cs = tryCandidates g' mzOk cs := by
  induction cs with
  | nil => intro g g' _ _; rfl
  | cons c cs _ =>
    intro g g' hd hk
    rw [tryCandidates_cons, tryCandidates_cons, mk'_congr g g' c hd hk]

/-- the candidate loop with the modelled MZ check is the parameterised loop instantiated with
"`find_mz_offset` returns an offset" -/
theorem tryCandidatesFull_eq (f : PyFile) (mzOk : Nat → Bool)
    (hmz : ∀ (c : Nat) (x0 : XorFile), mk' f c = .ok x0 →
      ∀ (r : Option Nat) (y : XorFile), findMzOffset x0 0 1024 = .ok (r, y) → mzOk c = r.isSome) (cs : List Nat) :
    ∀ g : PyFile, g.data = f.data → g.kind = f.kind → tryCandidatesFull g cs = tryCandidates g mzOk cs := by
  induction cs with
  | nil => intro g _ _; rfl
  | cons c cs ih =>
    intro g hd hk
    obtain ⟨x0, hx0, hn0, hd0, hk0⟩ := mk'_ok f c
    have hg : mk' g c = .ok x0 := by rw [mk'_congr g f c hd hk]; exact hx0
    obtain ⟨r, q, hr⟩ := findMzOffset_total x0 0 1024
    have hm := hmz c x0 hx0 r _ hr
    rw [tryCandidatesFull_cons, tryCandidates_cons]
    simp only [hg, hr, hm]
    cases r with
    | some v =>
      simp only [Option.isSome_some, if_true, seek0_ok]
      rfl
    | none =>
      simp only [Option.isSome_none]
      have e1 := ih (x0.withPos q).fh (by rw [← hd0]; rfl) (by rw [← hk0]; rfl)
      have e2 : tryCandidates (x0.withPos q).fh mzOk cs = tryCandidates x0.fh mzOk cs := by
        exact tryCandidates_congr mzOk cs _ _ rfl rfl
      simp [e1, e2]

theorem fromFileFull_eq (f : PyFile) (maxrange : Nat) (markerHits : List Nat) (mzOk : Nat → Bool)
    (hmz : ∀ (c : Nat) (x0 : XorFile), mk' f c = .ok x0 →
      ∀ (r : Option Nat) (y : XorFile), findMzOffset x0 0 1024 = .ok (r, y) → mzOk c = r.isSome) :
    fromFileFull f maxrange markerHits = fromFile f maxrange markerHits mzOk := by
  obtain ⟨l, f1, hl, hd, hk⟩ := iterNonceOffsets_ok f maxrange
  simp only [fromFileFull, fromFile, hl]
  exact tryCandidatesFull_eq f mzOk hmz _ f1 hd hk

/-- the verdict of the modelled MZ check for candidate `c` -/
def mzVerdict (f : PyFile) (c : Nat) : Bool :=
  match mk' f c with
  | .ok x0 =>
    match findMzOffset x0 0 1024 with
    | .ok (some _, _) => true
    | _ => false
  | .error _ => false

theorem mzVerdict_spec (f : PyFile) (c : Nat) (x0 : XorFile) (h0 : mk' f c = .ok x0)
    (r : Option Nat) (y : XorFile) (hr : findMzOffset x0 0 1024 = .ok (r, y)) : mzVerdict f c = r.isSome := by
  unfold mzVerdict
  rw [h0]
  dsimp only
  rw [hr]
  cases r <;> rfl

/-! ### detection with the real needle scanner (`C15.iterFindNeedle`) -/

theorem eofMarker_ne : eofMarker ≠ [] := by decide

theorem markerScan_eq (B : Nat) (f : PyFile) (m : Nat) :
    markerScan B f m = .ok (C15.needleLoop B eofMarker m { f with pos := 0 } []) := by
  simp only [markerScan, C15.iterFindNeedle]
  have : f.seekSet (0 : Int) = .ok (0, { f with pos := 0 }) := PyFile.seekSet_ok f 0
  rw [this]

theorem markerScan_ok (B : Nat) (f : PyFile) (m : Nat) :
    ∃ hits f2, markerScan B f m = .ok (hits, f2) ∧ f2.data = f.data ∧ f2.kind = f.kind := by
  rw [markerScan_eq]
  have := C15.needleLoop_frame B eofMarker m { f with pos := 0 } []
  exact ⟨_, _, rfl, this.1, this.2⟩

theorem markerScan_congr (B : Nat) (f g : PyFile) (m : Nat) (hd : f.data = g.data) (hk : f.kind = g.kind) :
    markerScan B f m = markerScan B g m := by
  obtain ⟨fd, fp, fk⟩ := f
  obtain ⟨gd, gp, gk⟩ := g
  simp only at hd hk
  subst hd hk
  rw [markerScan_eq, markerScan_eq]

/-- the error case does not occur (`markerScan_ok`) -/
def realHits (B : Nat) (f : PyFile) (m : Nat) : List Nat :=
  match markerScan B f m with
  | .ok (hits, _) => hits.map Int.toNat
  | .error _ => []

/-- the error case does not occur (`iterNonceOffsets_ok`) -/
def sizeOffsets (f : PyFile) (m : Nat) : List Nat :=
  match iterNonceOffsets f none m with
  | .ok (l, _) => l
  | .error _ => []

def realCandidates (B : Nat) (f : PyFile) (m : Nat) : List Nat := candidates (realHits B f m) (sizeOffsets f m)

theorem realHits_of_scan {B : Nat} {f : PyFile} {m : Nat} {hits : List Int} {f2 : PyFile}
    (h : markerScan B f m = .ok (hits, f2)) : realHits B f m = hits.map Int.toNat := by
  simp only [realHits, h]

theorem sizeOffsets_of_scan {f : PyFile} {m : Nat} {l : List Nat} {f1 : PyFile}
    (h : iterNonceOffsets f none m = .ok (l, f1)) : sizeOffsets f m = l := by
  simp only [sizeOffsets, h]

theorem tryCandidatesFull_try (f g : PyFile) (hd : g.data = f.data) (hk : g.kind = f.kind) (cs : List Nat) :
    tryCandidatesFull g cs = tryCandidates f (mzVerdict f) cs := by
  rw [tryCandidatesFull_eq f (mzVerdict f) (mzVerdict_spec f) cs g hd hk]
  exact tryCandidates_congr _ cs g f hd hk

theorem fromFileReal_try (B : Nat) (f : PyFile) (m : Nat) :
    fromFileReal B f m = tryCandidates f (mzVerdict f) (realCandidates B f m) := by
  obtain ⟨l, f1, hl, hd1, hk1⟩ := iterNonceOffsets_ok f m
  obtain ⟨hits, f2, hm, hd2, hk2⟩ := markerScan_ok B f1 m
  have hm' : markerScan B f m = .ok (hits, f2) := by rw [← markerScan_congr B f1 f m hd1 hk1]; exact hm
  simp only [fromFileReal, hl, hm, realCandidates, realHits_of_scan hm', sizeOffsets_of_scan hl]
  exact tryCandidatesFull_try f f2 (by rw [hd2, hd1]) (by rw [hk2, hk1]) _

theorem fromFileReal_full (B : Nat) (f : PyFile) (m : Nat) :
    fromFileReal B f m = fromFileFull f m (realHits B f m) := by
  rw [fromFileReal_try]
  obtain ⟨l, f1, hl, hd1, hk1⟩ := iterNonceOffsets_ok f m
  simp only [fromFileFull, hl, realCandidates, sizeOffsets_of_scan hl]
  exact (tryCandidatesFull_try f f1 hd1 hk1 _).symm

/-! ### the real marker scan -/

theorem startPos_zero (f : PyFile) : C15.startPos f (some 0) = 0 := rfl

/-- what `needle_exact`'s list is for `start_offset = 0` -/
theorem occ_filter_zero (f : PyFile) (needle : Bytes) :
    (C15.occ f.data needle).filter (fun i => C15.startPos f (some 0) ≤ i) = C15.occ f.data needle := by
  rw [List.filter_eq_self]
  intro a _
  simp [startPos_zero]

theorem toNat_map_ofNat (l : List Nat) : (l.map Int.ofNat).map Int.toNat = l := by
  rw [List.map_map]
  exact List.map_id'' (fun _ => rfl) l

theorem ofNat_map_toNat (l : List Int) (h : ∀ x ∈ l, 0 ≤ x) : (l.map Int.toNat).map Int.ofNat = l := by
  rw [List.map_map]
  exact (List.map_congr_left fun x hx => Int.toNat_of_nonneg (h x hx)).trans (List.map_id' l)

/-- the scanner's Python ints are the naturals of `realHits`: nothing is lost by `Int.toNat` -/
theorem markerScan_nonneg (B : Nat) (hB : 1 ≤ B) (f : PyFile) (m : Nat) (hits : List Int) (f2 : PyFile)
    (h : markerScan B f m = .ok (hits, f2)) : hits = (realHits B f m).map Int.ofNat := by
  rw [realHits_of_scan h, ofNat_map_toNat]
  exact C15.needle_nonneg B hB f eofMarker eofMarker_ne (some 0) m hits f2 h

theorem realHits_sublist (B : Nat) (hB : 1 ≤ B) (f : PyFile) (m : Nat) :
    List.Sublist (realHits B f m) (C15.occ f.data eofMarker) := by
  obtain ⟨hits, f2, h, _, _⟩ := markerScan_ok B f m
  have hs := C15.needle_limit_sublist B hB f eofMarker eofMarker_ne (some 0) m hits f2 h
  rw [occ_filter_zero] at hs
  have := hs.map Int.toNat
  rw [toNat_map_ofNat] at this
  rw [realHits_of_scan h]
  exact this

theorem realHits_nolimit (B : Nat) (hB : 1 ≤ B) (f : PyFile) : realHits B f 0 = C15.occ f.data eofMarker := by
  have h := C15.needle_exact B hB f eofMarker eofMarker_ne (some 0) (by intro s hs; cases hs; omega)
  rw [occ_filter_zero] at h
  rw [realHits_of_scan h, toNat_map_ofNat]

theorem realHits_complete (B : Nat) (hB : 1 ≤ B) (f : PyFile) (m : Nat) (i : Nat)
    (hi : i ∈ C15.occ f.data eofMarker) (hlim : m = 0 ∨ i + 3 ≤ m) : i ∈ realHits B f m := by
  rcases hlim with rfl | hlim
  · rw [realHits_nolimit B hB]; exact hi
  · obtain ⟨hits, f2, h, _, _⟩ := markerScan_ok B f m
    have := C15.needle_limit_complete B hB f eofMarker eofMarker_ne (some 0) m hits f2 h i hi (by simp [startPos_zero]) hlim
    rw [realHits_of_scan h]
    exact List.mem_map.mpr ⟨_, this, rfl⟩

/-- an occurrence of the marker ending at offset `c` -/
theorem marker_occ_of_layout (pre rest : Bytes) : pre.length ∈ C15.occ (pre ++ eofMarker ++ rest) eofMarker := by
  rw [C15.mem_occ]
  constructor
  · simp only [List.length_append]; omega
  · rw [List.append_assoc, List.drop_left, List.take_left]

theorem realHits_bound (B : Nat) (hB : 1 ≤ B) (f : PyFile) (m : Nat) (hm : m ≠ 0) :
    ∀ h ∈ realHits B f m, h ≤ 2 * m := by
  intro h hh
  have hs := C15.needle_limit_exact B hB f eofMarker eofMarker_ne (some 0) (by intro s hs; cases hs; omega) m
    (by omega)
  rw [realHits_of_scan hs, toNat_map_ofNat] at hh
  exact C15.limitKeeps_le (List.mem_filter.1 hh).2

/-- With a buffer that holds the whole limited range (`maxrange + 3 ≤ B`, e.g. the default 8192 with `maxrange = 1024`)
the limited scan is exact: the occurrences that start at or before `maxrange`. -/
theorem realHits_large_buffer (B : Nat) (f : PyFile) (m : Nat) (hm : m ≠ 0) (hB : m + 3 ≤ B) :
    realHits B f m = (C15.occ f.data eofMarker).filter (fun p => p ≤ m) := by
  have h := C15.needle_limit_exact B (by omega) f eofMarker eofMarker_ne (some 0) (by intro s hs; cases hs; omega) m
    (by omega)
  rw [occ_filter_zero, startPos_zero] at h
  rw [realHits_of_scan h, toNat_map_ofNat]
  exact List.filter_congr fun o _ => C15.limitKeeps_buffer B 3 m o (by omega) hB

/-! ### the `seek` of before fix 13416c7 -/

/-- the raw offset a `seek(off, whence)` of the view aimed at before fix 13416c7 (`seekOld`) -/
def rawTarget (x : XorFile) (off : Int) (wh : Nat) : Int :=
  match wh with
  | 0 => off + (x.nonceOff : Int) + 8
  | 1 => (x.fh.pos : Int) + off
  | _ => (x.fh.data.length : Int) + off

/-- what a Python file does with a relative seek whose target is negative -/
def belowStart (x : XorFile) (wh : Nat) : Py (Nat × XorFile) :=
  if wh = 0 then .error x.fh.negSeekExc
  else match x.fh.kind with
    | .bytesIO => .ok (0, x.withPos 0)
    | .osFile => .error .osError

theorem seekOld_exact (x : XorFile) (off : Int) (wh : Nat) (hwh : wh ≤ 2) :
    seekOld x off wh =
      if 0 ≤ rawTarget x off wh then .ok ((rawTarget x off wh).toNat, x.withPos (rawTarget x off wh).toNat)
      else belowStart x wh := by
  have hcases : wh = 0 ∨ wh = 1 ∨ wh = 2 := by omega
  obtain ⟨⟨d, p, k⟩, no, inn, ns⟩ := x
  rcases hcases with rfl | rfl | rfl
  · simp only [seekOld, rawTarget, belowStart, if_true, PyFile.seek, PyFile.seekSet]
    by_cases h : off + (no : Int) + 8 < 0
    · rw [if_pos h, if_neg (Int.not_le.mpr h)]
    · rw [if_neg h, if_pos (Int.not_lt.mp h)]; rfl
  · simp only [seekOld, rawTarget, belowStart, PyFile.seek, PyFile.seekCur, PyFile.seekRel]
    rw [if_neg Nat.one_ne_zero, if_neg Nat.one_ne_zero]
    by_cases h : (p : Int) + off < 0
    · rw [if_pos h, if_neg (Int.not_le.mpr h)]
      cases k <;> rfl
    · rw [if_neg h, if_pos (Int.not_lt.mp h)]; rfl
  · simp only [seekOld, rawTarget, belowStart, PyFile.seek, PyFile.seekEnd, PyFile.seekRel]
    rw [if_neg (Nat.succ_ne_zero 1), if_neg (Nat.succ_ne_zero 1)]
    by_cases h : (d.length : Int) + off < 0
    · rw [if_pos h, if_neg (Int.not_le.mpr h)]
      cases k <;> rfl
    · rw [if_neg h, if_pos (Int.not_lt.mp h)]; rfl

theorem seekOld_bad_whence (x : XorFile) (off : Int) (wh : Nat) (hwh : 2 < wh) : seekOld x off wh = .error .valueError := by
  obtain ⟨n, rfl⟩ : ∃ n, wh = n + 3 := ⟨wh - 3, by omega⟩
  rfl

theorem rawTarget_abs {stub nonce size enc : Bytes} {x : XorFile} {pf : PyFile}
    (hA : Abs stub nonce size enc x pf) (off : Int) (wh : Nat) :
    rawTarget x off wh = logicalTarget pf off wh + ((stub.length : Int) + 8) := by
  rw [← viewTarget_abs hA, ← hA.layout.off]
  match wh with
  | 0 => simp only [rawTarget, viewTarget]; omega
  | 1 => simp only [rawTarget, viewTarget, tell, PyFile.tell]; omega
  | n + 2 => simp only [rawTarget, viewTarget]; omega

end C09

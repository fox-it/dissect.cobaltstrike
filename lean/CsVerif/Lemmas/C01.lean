import CsVerif.Model.C01
import CsVerif.Props.C15
import CsVerif.Props.C09
import CsVerif.Props.C02
import CsVerif.Props.C20
import CsVerif.Props.C17
/-! Lemmas for C01.  The idea: a file-like object that behaves as a plain `PyFile` (`Sim`: the file itself, and — by C09's
`read_refines` / `seek_set_layout` — the XorEncoded view over the decoded bytes) makes the fused scan loop yield first at the head of
`C15.needleLoop`, hence (C15 `needleLoop_start`) at the least occurrence; from there key loop, pass (`pass_first`) and `from_file` follow
the candidate list of the specification.  The second half serves the end-to-end theorems: `detectRun` (driver side) is `C09.fromFileReal`
and what it returns satisfies `DetOk`, the all-keys counter never raises, `fromFileReal` = specification with nothing left as a
parameter (`fromFileReal_spec`), and byte-level forms of "Guardrails finds nothing" (`GuardClean`) and "not XorEncoded". -/
namespace C01
open Gen.Extract

/-! ### simulation of a plain file -/

structure Sim {σ : Type} (F : FileLike σ) (abs : σ → PyFile → Prop) : Prop where
  read : ∀ s pf (n : Nat), abs s pf →
    ∃ s', F.read s n = .ok ((pf.read (n : Int)).1, s') ∧ abs s' (pf.read (n : Int)).2
  seek : ∀ s pf (t : Nat), abs s pf → ∃ s', F.seek s (t : Int) = .ok s' ∧ abs s' { pf with pos := t }
  tell : ∀ s pf, abs s pf → F.tell s = (pf.pos : Int)
  remaining : ∀ s pf, abs s pf → F.remaining s = pf.data.length - pf.pos

theorem sim_raw : Sim rawFile (fun s pf => s = pf) where
  read := by
    intro s pf n h; subst h
    exact ⟨(s.read (n : Int)).2, rfl, rfl⟩
  seek := by
    intro s pf t h; subst h
    refine ⟨{ s with pos := t }, ?_, rfl⟩
    simp [rawFile, PyFile.seekSet_ok, Except.map]
  tell := by intro s pf h; subst h; rfl
  remaining := by intro s pf h; subst h; rfl

theorem read_fst_congr (pf : PyFile) (plain : Bytes) (n : Nat) (h : pf.data = plain) :
    (({ data := plain, pos := pf.pos } : PyFile).read ((some (n : Int)).getD (-1))).1 = (pf.read (n : Int)).1 := by
  subst h; rfl

theorem sim_xor (stub nonce size enc : Bytes) : Sim xorView (fun x pf => C09.Abs stub nonce size enc x pf) where
  read := by
    intro x pf n hA
    obtain ⟨out, x', h1, _, h3, _, h5, h6⟩ := C09.read_refines hA.layout pf.pos hA.pos (some (n : Int))
    rw [read_fst_congr pf _ n hA.data] at h3
    subst h3
    refine ⟨x', h1, h6, hA.data, ?_⟩
    rw [h5]
    simp only [C09.XorFile.withPos, PyFile.read_pos]
    omega
  seek := by
    intro x pf t hA
    refine ⟨x.withPos (stub.length + 8 + t), ?_, C09.layout_withPos hA.layout _, hA.data, rfl⟩
    show (C09.seek x (t : Int) 0).map (·.2) = _
    rw [C09.seek_set_layout hA.layout t]; rfl
  tell := by
    intro x pf hA
    show C09.tell x = _
    simp only [C09.tell, PyFile.tell, hA.pos, hA.layout.off]
    omega
  remaining := by
    intro x pf hA
    show x.fh.data.length - x.fh.pos = _
    rw [hA.layout.data, hA.pos, hA.data, C09.rollDecode_length]
    simp only [List.length_append, hA.layout.nlen, hA.layout.slen]
    omega


/-! ### the scan up to the first yield -/

theorem scanLoop_unfold {σ} (F : FileLike σ) (B : Nat) (needle key : Bytes) (s : σ) (saved : Bytes) :
    scanLoop F B needle key s saved =
      match F.read s B with
      | .error e => ⟨[], .error e⟩
      | .ok (block, s1) =>
        if block = [] then ⟨[], .ok s1⟩
        else
          let r := consume F key (F.tell s - (saved.length : Int)) (C15.findLoop (saved ++ block) needle 0 0 0 0) s1
          match r.fin with
          | .error e => ⟨r.yields, .error e⟩
          | .ok s2 =>
            if F.remaining s2 < F.remaining s then
              ⟨r.yields ++ (scanLoop F B needle key s2 (C15.nextSaved needle (saved ++ block))).yields,
               (scanLoop F B needle key s2 (C15.nextSaved needle (saved ++ block))).fin⟩
            else ⟨r.yields, .error .timeoutDiverge⟩ := by
  rw [scanLoop]
  cases F.read s B with
  | error e => rfl
  | ok r =>
    obtain ⟨block, s1⟩ := r
    simp only
    split
    · rfl
    · generalize consume F key (F.tell s - (saved.length : Int)) (C15.findLoop (saved ++ block) needle 0 0 0 0) s1 = r
      obtain ⟨ys, fin⟩ := r
      cases fin with
      | error e => rfl
      | ok s2 => simp only [dite_eq_ite]

theorem needleLoop_unfold (B : Nat) (needle : Bytes) (f : PyFile) (saved : Bytes) :
    C15.needleLoop B needle 0 f saved =
      if (f.read (B : Int)).1 = [] then ([], (f.read (B : Int)).2)
      else
        (C15.findLoop (saved ++ (f.read (B : Int)).1) needle 0 f.pos saved.length 0
            ++ (C15.needleLoop B needle 0 (f.read (B : Int)).2 (C15.nextSaved needle (saved ++ (f.read (B : Int)).1))).1,
         (C15.needleLoop B needle 0 (f.read (B : Int)).2 (C15.nextSaved needle (saved ++ (f.read (B : Int)).1))).2) := by
  rw [C15.needleLoop]
  simp [PyFile.tell]

theorem consume_head {σ} {F : FileLike σ} {abs} (hS : Sim F abs) (key : Bytes) (base : Int) (q : Int) (qs : List Int)
    (s : σ) (pf : PyFile) (h : abs s pf) (t : Nat) (ht : base + q = (t : Int)) :
    ∃ ys fin, consume F key base (q :: qs) s = ⟨C20.xor ((pf.data.drop t).take patchSize) key :: ys, fin⟩ := by
  obtain ⟨s1, h1, a1⟩ := hS.seek s pf t h
  obtain ⟨s2, h2, a2⟩ := hS.read s1 _ patchSize a1
  simp only [consume, ht, h1, h2]
  rw [PyFile.read_nonneg]
  exact ⟨_, _, rfl⟩


theorem scanLoop_spec {σ} {F : FileLike σ} {abs} (hS : Sim F abs) (B : Nat) (needle key : Bytes) :
    ∀ (n : Nat) (s : σ) (pf : PyFile) (saved : Bytes), pf.data.length - pf.pos = n → abs s pf →
      ((C15.needleLoop B needle 0 pf saved).1 = [] →
        (scanLoop F B needle key s saved).yields = [] ∧
        ∃ s' pf', (scanLoop F B needle key s saved).fin = .ok s' ∧ abs s' pf' ∧ pf'.data = pf.data) ∧
      (∀ off rest, (C15.needleLoop B needle 0 pf saved).1 = off :: rest → 0 ≤ off →
        (scanLoop F B needle key s saved).yields.head?
          = some (C20.xor ((pf.data.drop off.toNat).take patchSize) key)) := by
  intro n
  induction n using Nat.strongRecOn with
  | _ n ih =>
    intro s pf saved hn ha
    obtain ⟨s1, hr, a1⟩ := hS.read s pf B ha
    rw [scanLoop_unfold, hr, needleLoop_unfold]
    by_cases hb : (pf.read (B : Int)).1 = []
    · simp only [hb, if_true]
      refine ⟨fun _ => ⟨trivial, s1, _, rfl, a1, rfl⟩, ?_⟩
      intro off rest h; cases h
    · simp only [hb, if_false]
      have hO1 := C15.findLoop_eq (saved ++ (pf.read (B : Int)).1) needle 0 pf.pos saved.length 0
      have hO2 := C15.findLoop_eq (saved ++ (pf.read (B : Int)).1) needle 0 0 0 0
      generalize (C15.occ (saved ++ (pf.read (B : Int)).1) needle).filter
        (fun p => decide (0 ≤ p ∧ ((0:Nat) = 0 ∨ p ≤ 0))) = O at hO1 hO2
      rw [hO1, hO2]
      cases O with
      | nil =>
        simp only [List.map_nil, consume, List.nil_append]
        have hprog := C15.read_progress pf B hb
        have hrem : F.remaining s1 < F.remaining s := by
          rw [hS.remaining s pf ha, hS.remaining s1 _ a1]; exact hprog
        simp only [hrem, if_true]
        exact ih _ (by omega) s1 _ _ rfl a1
      | cons p O' =>
        simp only [List.map_cons]
        refine ⟨fun h => (by cases h), ?_⟩
        intro off rest h hoff
        simp only [List.cons_append, List.cons.injEq] at h
        obtain ⟨hp, _⟩ := h
        obtain ⟨ys, fin, hc⟩ := consume_head hS key (F.tell s - (saved.length : Int)) (((0:Nat):Int) + (p:Int) - ((0:Nat):Int))
          (O'.map fun (p : Nat) => ((0:Nat) : Int) + (p : Int) - ((0:Nat) : Int)) s1 _ a1 off.toNat
          (by rw [hS.tell s pf ha]; omega)
        rw [hc]
        simp only [PyFile.read_data]
        cases fin with
        | error e => rfl
        | ok s2 =>
          simp only
          split <;> rfl



/-! ### keys and the two phases: a pass yields the first candidate first -/

theorem needle_ne_nil (key : Bytes) : C20.xor configHeader key ≠ [] := by
  intro h
  have h1 := congrArg List.length h
  rw [C20.xor_length] at h1
  revert h1; decide

theorem findConfigBytes_spec {σ} {F : FileLike σ} {abs} (hS : Sim F abs) (B : Nat) (hB : 1 ≤ B) (key : Bytes)
    (s : σ) (pf : PyFile) (ha : abs s pf) :
    (occK pf.data key = [] →
      (findConfigBytes F B s key).yields = [] ∧
      ∃ s' pf', (findConfigBytes F B s key).fin = .ok s' ∧ abs s' pf' ∧ pf'.data = pf.data) ∧
    (∀ i rest, occK pf.data key = i :: rest →
      (findConfigBytes F B s key).yields.head? = some (C20.xor ((pf.data.drop i).take patchSize) key)) := by
  obtain ⟨s0, h0, a0⟩ := hS.seek s pf 0 ha
  have h0' : F.seek s 0 = .ok s0 := by simpa using h0
  have hL := C15.needleLoop_start B hB (C20.xor configHeader key) (needle_ne_nil key) { pf with pos := 0 }
  have hfil : (C15.occ pf.data (C20.xor configHeader key)).filter (fun i => decide (0 ≤ i))
      = C15.occ pf.data (C20.xor configHeader key) := by simp
  simp only [hfil] at hL
  obtain ⟨h1, h2⟩ := scanLoop_spec hS B (C20.xor configHeader key) key _ s0 { pf with pos := 0 } [] rfl a0
  rw [hL] at h1 h2
  simp only [findConfigBytes, h0', occK]
  constructor
  · intro he
    exact h1 (by rw [he]; rfl)
  · intro i rest he
    have := h2 (Int.ofNat i) (rest.map Int.ofNat) (by rw [he]; rfl) (Int.natCast_nonneg i)
    simpa using this


theorem candsIn_cons (enc : Bool) (plain k : Bytes) (ks : List Bytes) :
    candsIn enc plain (k :: ks) = (occK plain k).map (fun i => (⟨enc, plain, k, i⟩ : Cand)) ++ candsIn enc plain ks := by
  simp [candsIn]

theorem overKeys_spec {σ} {F : FileLike σ} {abs} (hS : Sim F abs) (B : Nat) (hB : 1 ≤ B) (enc : Bool) (data : Bytes) :
    ∀ (keys : List Bytes) (s : σ) (pf : PyFile), abs s pf → pf.data = data →
      (overKeys F B enc keys s).yields.head? = (candsIn enc data keys).head?.map Cand.result ∧
      ((overKeys F B enc keys s).yields = [] → ∃ s', (overKeys F B enc keys s).fin = .ok s') := by
  intro keys
  induction keys with
  | nil => intro s pf _ _; exact ⟨rfl, fun _ => ⟨s, rfl⟩⟩
  | cons k ks ih =>
    intro s pf ha hd
    obtain ⟨h1, h2⟩ := findConfigBytes_spec hS B hB k s pf ha
    rw [hd] at h1 h2
    rw [candsIn_cons]
    cases hO : occK data k with
    | nil =>
      obtain ⟨hy, s', pf', hf, a', hd'⟩ := h1 hO
      simp only [overKeys, hy, hf, List.map_nil, List.nil_append]
      exact ih s' pf' a' hd'
    | cons i rest =>
      have hh := h2 i rest hO
      simp only [overKeys]
      generalize findConfigBytes F B s k = t at hh ⊢
      obtain ⟨ys, fin⟩ := t
      cases ys with
      | nil => simp at hh
      | cons y ys' =>
        simp only [List.head?_cons, Option.some.injEq] at hh
        subst hh
        simp only [List.map_cons, List.cons_append, List.head?_cons, Option.map_some]
        cases fin with
        | error e => exact ⟨rfl, fun h => by cases h⟩
        | ok s' => exact ⟨rfl, fun h => by cases h⟩


theorem split_at_nonce (data : Bytes) (c : Nat) (h : c + 8 ≤ data.length) :
    data = data.take c ++ (data.drop c).take 4 ++ (data.drop (c + 4)).take 4 ++ data.drop (c + 8) ∧
    (data.take c).length = c ∧ ((data.drop c).take 4).length = 4 ∧ ((data.drop (c + 4)).take 4).length = 4 := by
  refine ⟨?_, List.length_take_of_le (by omega), ?_, ?_⟩
  · have e1 : data.drop (c + 4) = (data.drop c).drop 4 := by rw [List.drop_drop]
    have e2 : data.drop (c + 8) = ((data.drop c).drop 4).drop 4 := by rw [List.drop_drop, List.drop_drop]
    rw [e1, e2, List.append_assoc, List.append_assoc, List.take_append_drop, List.take_append_drop, List.take_append_drop]
  · exact List.length_take_of_le (by rw [List.length_drop]; omega)
  · exact List.length_take_of_le (by rw [List.length_drop]; omega)

theorem openView_spec (f : PyFile) (c : Nat) (h : c + 8 ≤ f.data.length) :
    ∃ x, openView f c = .ok x ∧
      C09.Abs (f.data.take c) ((f.data.drop c).take 4) ((f.data.drop (c + 4)).take 4) (f.data.drop (c + 8)) x
        { data := decodedView f.data c, pos := 0 } := by
  obtain ⟨hd, hc, hn, hs⟩ := split_at_nonce f.data c h
  obtain ⟨x, hx, hL, hpos, _, _⟩ := C09.open_layout _ _ _ _ hn hs f hd
  rw [hc] at hx
  have hsk := C09.seek_set_layout hL 0
  have hsk' : C09.seek x 0 0 = .ok ((f.data.take c).length + 8 + 0, x.withPos ((f.data.take c).length + 8 + 0)) := by
    simpa using hsk
  refine ⟨x.withPos ((f.data.take c).length + 8 + 0), ?_, C09.layout_withPos hL _, rfl, rfl⟩
  simp only [openView, hx, hsk']


theorem candidates_views (data : Bytes) (det : Option Nat) (keys : List Bytes) :
    candidates (views data det) keys =
      (match det with
       | some c => candsIn true (decodedView data c) keys
       | none => []) ++ candsIn false data keys := by
  cases det <;> simp [candidates, views]

theorem pass_raw (B : Nat) (hB : 1 ≤ B) (f : PyFile) (keys : List Bytes) :
    let t := overKeys rawFile B false keys f
    let r : Blocks := (t.yields, match t.fin with | .error e => some e | .ok _ => none)
    r.1.head? = (candsIn false f.data keys).head?.map Cand.result ∧ (r.1 = [] → r.2 = none) := by
  obtain ⟨r1, r2⟩ := overKeys_spec sim_raw B hB false f.data keys f f rfl rfl
  refine ⟨r1, ?_⟩
  intro h
  obtain ⟨s', hs'⟩ := r2 h
  simp only [hs']

theorem pass_spec (B : Nat) (hB : 1 ≤ B) (f : PyFile) (keys : List Bytes) (det : Option Nat)
    (hdet : ∀ c, det = some c → c + 8 ≤ f.data.length) :
    (pass B f keys true det).1.head? = (candidates (views f.data det) keys).head?.map Cand.result ∧
    ((pass B f keys true det).1 = [] → (pass B f keys true det).2 = none) := by
  rw [candidates_views]
  obtain ⟨r1, r2⟩ := pass_raw B hB f keys
  cases det with
  | none =>
    simp only [pass, if_true, List.nil_append]
    exact ⟨r1, r2⟩
  | some c =>
    obtain ⟨x, hx, hA⟩ := openView_spec f c (hdet c rfl)
    obtain ⟨x1, x2⟩ := overKeys_spec (sim_xor _ _ _ _) B hB true (decodedView f.data c) keys x _ hA rfl
    simp only [pass, if_true, hx]
    generalize overKeys xorView B true keys x = t1 at x1 x2
    obtain ⟨ys, fin⟩ := t1
    cases ys with
    | nil =>
      obtain ⟨s', hs'⟩ := x2 rfl
      simp only at hs'
      subst hs'
      have hnone : (candsIn true (decodedView f.data c) keys).head? = none := by
        cases hh : (candsIn true (decodedView f.data c) keys).head? with
        | none => rfl
        | some v => rw [hh] at x1; simp at x1
      have hnil := List.head?_eq_none_iff.mp hnone
      simp only [hnil, List.nil_append, ne_eq, not_true_eq_false, if_false]
      exact ⟨r1, r2⟩
    | cons y ys' =>
      simp only [List.head?_cons] at x1
      have hhead : ((candsIn true (decodedView f.data c) keys) ++ candsIn false f.data keys).head?
          = (candsIn true (decodedView f.data c) keys).head? := by
        cases hh : candsIn true (decodedView f.data c) keys with
        | nil => rw [hh] at x1; simp at x1
        | cons a as => rfl
      rw [hhead, ← x1]
      cases fin with
      | ok s' => simp
      | error e =>
        by_cases he : e = .valueError
        · simp [he]
        · simp [he]


theorem pass_first (B : Nat) (hB : 1 ≤ B) (f : PyFile) (keys : List Bytes) (det : Option Nat)
    (hdet : ∀ c, det = some c → c + 8 ≤ f.data.length) :
    (∀ c, (candidates (views f.data det) keys).head? = some c → ∃ ys e, pass B f keys true det = (c.result :: ys, e)) ∧
    ((candidates (views f.data det) keys).head? = none → pass B f keys true det = ([], none)) := by
  obtain ⟨p1, p2⟩ := pass_spec B hB f keys det hdet
  generalize pass B f keys true det = r at p1 p2
  obtain ⟨ys, e⟩ := r
  constructor
  · intro c hc
    rw [hc] at p1
    cases ys with
    | nil => cases p1
    | cons y ys' =>
      simp only [List.head?_cons, Option.map_some, Option.some.injEq] at p1
      exact ⟨ys', e, by rw [p1]⟩
  · intro hc
    rw [hc] at p1
    cases ys with
    | cons y ys' => cases p1
    | nil => rw [show e = none from p2 rfl]

/-! ### order lemmas about `candsIn` -/

theorem mem_candsIn {enc : Bool} {plain : Bytes} {keys : List Bytes} {c : Cand} :
    c ∈ candsIn enc plain keys ↔
      c.xorencoded = enc ∧ c.plain = plain ∧ c.key ∈ keys ∧ c.offset ∈ occK plain c.key := by
  simp only [candsIn, List.mem_flatMap, List.mem_map]
  constructor
  · rintro ⟨k, hk, i, hi, rfl⟩
    exact ⟨rfl, rfl, hk, hi⟩
  · rintro ⟨h1, h2, h3, h4⟩
    refine ⟨c.key, h3, c.offset, h4, ?_⟩
    cases c; simp_all

theorem occK_head_le {plain k : Bytes} {i : Nat} {rest : List Nat} (h : occK plain k = i :: rest) {j : Nat}
    (hj : j ∈ occK plain k) : i ≤ j := by
  have hs := C15.occ_ascending plain (C20.xor configHeader k)
  unfold occK at h hj
  rw [h] at hs hj
  rcases List.mem_cons.mp hj with rfl | h1
  · exact Nat.le_refl _
  · exact Nat.le_of_lt ((List.pairwise_cons.mp hs).1 _ h1)

theorem candsIn_head_least (enc : Bool) (plain : Bytes) : ∀ (keys : List Bytes) (c : Cand),
    (candsIn enc plain keys).head? = some c →
    c ∈ candsIn enc plain keys ∧
    ∀ c' ∈ candsIn enc plain keys,
      keys.idxOf c.key ≤ keys.idxOf c'.key ∧ (c'.key = c.key → c.offset ≤ c'.offset) := by
  intro keys
  induction keys with
  | nil => intro c h; cases h
  | cons k ks ih =>
    intro c h
    refine ⟨List.mem_of_mem_head? (by rw [h]; rfl), ?_⟩
    rw [candsIn_cons] at h
    cases hO : occK plain k with
    | cons i rest =>
      -- the first key has an occurrence: its first one is the head
      rw [hO] at h
      injection h with h
      subst h
      intro c' hc'
      refine ⟨by simp only [List.idxOf_cons_self, Nat.zero_le], fun heq => ?_⟩
      have ho := (mem_candsIn.mp hc').2.2.2
      rw [heq] at ho
      exact occK_head_le hO ho
    | nil =>
      -- no occurrence under the first key: it has no candidate, and every index moves by one
      rw [hO, List.map_nil, List.nil_append] at h
      obtain ⟨hm, hl⟩ := ih c h
      have hne : ∀ d ∈ candsIn enc plain ks, (k == d.key) = false := by
        intro d hd
        apply beq_false_of_ne
        intro hk
        have ho := (mem_candsIn.mp hd).2.2.2
        rw [← hk, hO] at ho
        cases ho
      intro c' hc'
      rw [candsIn_cons, hO, List.map_nil, List.nil_append] at hc'
      obtain ⟨h1, h2⟩ := hl c' hc'
      rw [List.idxOf_cons, List.idxOf_cons, hne c hm, hne c' hc']
      exact ⟨Nat.succ_le_succ h1, h2⟩

theorem head?_flatMap_congr {α β} (g g' : α → List β) : ∀ (l : List α),
    (∀ x ∈ l, (g x).head? = (g' x).head?) → (l.flatMap g).head? = (l.flatMap g').head? := by
  intro l
  induction l with
  | nil => intro _; rfl
  | cons a l ih =>
    intro h
    rw [List.flatMap_cons, List.flatMap_cons, List.head?_append, List.head?_append,
      h a (List.mem_cons_self ..), ih (fun x hx => h x (List.mem_cons_of_mem _ hx))]

/-- when at most the key `k0` has occurrences, the first candidate of a view does not depend on the key order -/
theorem candsIn_head_single (enc : Bool) (plain k0 : Bytes) : ∀ (keys : List Bytes),
    (∀ k ∈ keys, k ≠ k0 → occK plain k = []) →
    (candsIn enc plain keys).head? =
      if k0 ∈ keys then ((occK plain k0).map (fun i => (⟨enc, plain, k0, i⟩ : Cand))).head? else none := by
  intro keys
  induction keys with
  | nil => intro _; rfl
  | cons k ks ih =>
    intro h
    rw [candsIn_cons, List.head?_append]
    have ih' := ih (fun k' hk' => h k' (List.mem_cons_of_mem _ hk'))
    by_cases hk : k = k0
    · subst hk
      simp only [List.mem_cons, true_or, if_true]
      rw [ih']
      by_cases hm : k ∈ ks
      · simp only [hm, if_true]; cases ((occK plain k).map (fun i => (⟨enc, plain, k, i⟩ : Cand))).head? <;> rfl
      · simp only [hm, if_false]; cases ((occK plain k).map (fun i => (⟨enc, plain, k, i⟩ : Cand))).head? <;> rfl
    · rw [h k (List.mem_cons_self ..) hk, ih']
      have : (k0 ∈ k :: ks) ↔ k0 ∈ ks := by
        simp only [List.mem_cons]
        constructor
        · rintro (h1 | h1)
          · exact absurd h1.symm hk
          · exact h1
        · exact Or.inr
      simp only [this, List.map_nil, List.head?_nil, Option.none_or]

/-! ### the residual key order is a permutation of `make_byte_list` -/

theorem insertByRank_perm (r : Bytes → Nat) (k : Bytes) (l : List Bytes) : (insertByRank r k l).Perm (k :: l) := by
  induction l with
  | nil => exact List.Perm.refl _
  | cons h t ih =>
    unfold insertByRank
    split
    · exact List.Perm.refl _
    · exact (List.Perm.cons h ih).trans (List.Perm.swap k h t)

theorem stableSort_perm (r : Bytes → Nat) (l : List Bytes) : (stableSort r l).Perm l := by
  induction l with
  | nil => exact List.Perm.refl _
  | cons h t ih =>
    show (insertByRank r h (stableSort r t)).Perm (h :: t)
    exact (insertByRank_perm r h _).trans (List.Perm.cons h ih)

theorem mem_makeByteList (exclude : List Bytes) (k : Bytes) :
    k ∈ makeByteList exclude ↔ (∃ b : UInt8, k = [b]) ∧ k ∉ exclude := by
  simp only [makeByteList, List.mem_filter, List.mem_map, List.mem_range, Bool.not_eq_eq_eq_not, Bool.not_true,
    List.contains_eq_mem, decide_eq_false_iff_not]
  constructor
  · rintro ⟨⟨n, _, rfl⟩, h2⟩
    exact ⟨⟨_, rfl⟩, h2⟩
  · rintro ⟨⟨b, rfl⟩, h2⟩
    refine ⟨⟨b.toNat, b.toNat_lt, ?_⟩, h2⟩
    simp

/-! ### the detector run by the driver is C09's detector, and a detected view has its header inside the file -/

attribute [local irreducible] C09.mzLoop

theorem tryCands_cons (g : PyFile) (c : Nat) (cs : List Nat) :
    tryCands g (c :: cs) =
      match C09.mk' g c with
      | .error e => .error e
      | .ok xf =>
        match C09.findMzOffset xf 0 1024 with
        | .error e => .error e
        | .ok (some _, xf1) =>
          match C09.seek xf1 0 0 with
          | .error e => .error e
          | .ok (_, xf') => .ok (some xf', xf'.fh)
        | .ok (none, xf1) => tryCands xf1.fh cs := by rfl

theorem tryCands_full : ∀ (cs : List Nat) (g : PyFile),
    (∃ x h, tryCands g cs = .ok (some x, h) ∧ C09.tryCandidatesFull g cs = .ok x ∧ x.nonceOff + 8 < g.data.length ∧
      h.data = g.data ∧ h.kind = g.kind) ∨
    (∃ h, tryCands g cs = .ok (none, h) ∧ C09.tryCandidatesFull g cs = .error .valueError ∧
      h.data = g.data ∧ h.kind = g.kind) := by
  intro cs
  induction cs with
  | nil => intro g; exact Or.inr ⟨g, rfl, rfl, rfl, rfl⟩
  | cons c cs ih =>
    intro g
    obtain ⟨x0, hx0, hoff, hdata, hkind⟩ := C09.mk'_ok g c
    obtain ⟨r, q, hr⟩ := C09.findMzOffset_total x0 0 1024
    rw [tryCands_cons, C09.tryCandidatesFull_cons]
    simp only [hx0, hr]
    cases r with
    | some v =>
      simp only [C09.seek0_ok]
      refine Or.inl ⟨_, _, rfl, rfl, ?_, hdata, hkind⟩
      -- a view with no decoded byte cannot have passed the MZ check
      simp only [C09.XorFile.withPos]
      rw [← hdata]
      exact C09.findMzOffset_some_bound x0 0 1024 v _ hr
    | none =>
      -- the failed probe moved the cursor only
      have hd : (x0.withPos q).fh.data = g.data := hdata
      have hk : (x0.withPos q).fh.kind = g.kind := hkind
      rcases ih (x0.withPos q).fh with ⟨x, h, e1, e2, hb, hd', hk'⟩ | ⟨h, e1, e2, hd', hk'⟩
      · exact Or.inl ⟨x, h, e1, e2, hd ▸ hb, hd'.trans hd, hk'.trans hk⟩
      · exact Or.inr ⟨h, e1, e2, hd'.trans hd, hk'.trans hk⟩

/-- `C09.fromFileReal` is the subject of C09's `detect_*_real` theorems; `maxrange = 1024` as `from_file` calls it -/
theorem detectRun_real (B : Nat) (f : PyFile) :
    (∃ x h, detectRun B f = .ok (some x, h) ∧ C09.fromFileReal B f 1024 = .ok x ∧ x.nonceOff + 8 < f.data.length ∧
      h.data = f.data ∧ h.kind = f.kind) ∨
    (∃ h, detectRun B f = .ok (none, h) ∧ C09.fromFileReal B f 1024 = .error .valueError ∧
      h.data = f.data ∧ h.kind = f.kind) := by
  obtain ⟨l, f1, hl, hd1, hk1⟩ := C09.iterNonceOffsets_ok f 1024
  obtain ⟨hits, f2, hm, hd2, hk2⟩ := C09.markerScan_ok B f1 1024
  have hm' : C15.iterFindNeedle B f1 [0xff, 0xff, 0xff] (some 0) 1024 = .ok (hits, f2) := hm
  simp only [detectRun, C09.fromFileReal, hl, hm, hm']
  rw [← hd1, ← hd2, ← hk1, ← hk2]
  exact tryCands_full _ f2

theorem answers_of_total {α β : Type} {r : Py (Option α × β)} {P : α → β → Prop} {Q : β → Prop}
    (h : (∃ x g, r = .ok (some x, g) ∧ P x g) ∨ (∃ g, r = .ok (none, g) ∧ Q g)) :
    (∀ x g, r = .ok (some x, g) → P x g) ∧ (∀ g, r = .ok (none, g) → Q g) := by
  rcases h with ⟨x, g, e, hp⟩ | ⟨g, e, hq⟩
  · subst e
    exact ⟨fun x' g' hh => (by cases hh; exact hp), fun g' hh => (by cases hh)⟩
  · subst e
    exact ⟨fun x' g' hh => (by cases hh), fun g' hh => (by cases hh; exact hq)⟩

theorem detectRun_bound (B : Nat) (f : PyFile) (x : C09.XorFile) (g : PyFile)
    (h : detectRun B f = .ok (some x, g)) : x.nonceOff + 8 < f.data.length :=
  ((answers_of_total (detectRun_real B f)).1 x g h).2.1

/-! ### the all-keys counter never raises -/

theorem countLoop_ok {σ : Type} {F : FileLike σ} {abs : σ → PyFile → Prop} (hS : Sim F abs) (B : Nat) :
    ∀ (n : Nat) (s : σ) (pf : PyFile) (acc : List (Nat × Nat)), abs s pf → pf.data.length - pf.pos ≤ n →
      ∃ r, countLoop F B s acc = .ok r := by
  intro n
  induction n using Nat.strongRecOn with
  | _ n ih =>
    intro s pf acc ha hn
    obtain ⟨s', hr, ha'⟩ := hS.read s pf B ha
    rw [countLoop, hr]
    simp only
    by_cases hnil : (pf.read (B : Int)).1 = []
    · rw [if_pos hnil]; exact ⟨_, rfl⟩
    · rw [if_neg hnil]
      have hp := C15.read_progress pf B hnil
      have hrem : F.remaining s' < F.remaining s := by
        rw [hS.remaining s' _ ha', hS.remaining s pf ha]; exact hp
      rw [dif_pos hrem]
      exact ih _ (Nat.lt_of_lt_of_le hp hn) s' _ _ ha' (Nat.le_refl _)

theorem leftKeys_ok (B : Nat) (f : PyFile) (det : Option Nat) (hdet : ∀ c, det = some c → c + 8 ≤ f.data.length)
    (failPos : Nat) (ks : List Bytes) : ∃ left, leftKeys B f det failPos ks = .ok left := by
  unfold leftKeys leftCounts
  cases det with
  | none =>
    obtain ⟨r, hr⟩ := countLoop_ok sim_raw B _ ({ f with pos := failPos } : PyFile) _ [] rfl (Nat.le_refl _)
    simp only [hr]
    exact ⟨_, rfl⟩
  | some c =>
    obtain ⟨x, hx, hA⟩ := openView_spec f c (hdet c rfl)
    obtain ⟨r, hr⟩ := countLoop_ok (sim_xor _ _ _ _) B _ x _ [] hA (Nat.le_refl _)
    simp only [hx, hr]
    exact ⟨_, rfl⟩

theorem leftKeys_mem (B : Nat) (f : PyFile) (det : Option Nat) (failPos : Nat) (ks left : List Bytes)
    (h : leftKeys B f det failPos ks = .ok left) (k : Bytes) (hk : k ∈ left) : k ∈ makeByteList [] := by
  unfold leftKeys at h
  cases hc : leftCounts B f det failPos with
  | error e => rw [hc] at h; cases h
  | ok cnt =>
    rw [hc] at h
    injection h with h
    rw [← h] at hk
    have := ((stableSort_perm _ _).mem_iff).mp hk
    rw [mem_makeByteList] at this ⊢
    exact ⟨this.1, by simp⟩

/-! ### the search, and `from_file` with nothing left as a parameter -/

theorem search_spec (B : Nat) (hB : 1 ≤ B) (f : PyFile) (ks : List Bytes) (allKeys : Bool) (det : Option Nat)
    (hdet : ∀ c, det = some c → c + 8 ≤ f.data.length) (failPos : Nat) :
    ∃ left, leftKeys B f det failPos ks = .ok left ∧
      search B f ks allKeys det failPos = .ok ((searchSpec f.data ks allKeys det left).map Cand.result) := by
  obtain ⟨left, hleft⟩ := leftKeys_ok B f det hdet failPos ks
  obtain ⟨p1, p0⟩ := pass_first B hB f (effKeys ks) det hdet
  obtain ⟨q1, q0⟩ := pass_first B hB f (effKeys left) det hdet
  refine ⟨left, hleft, ?_⟩
  simp only [search, searchSpec, hleft]
  cases h1 : (candidates (views f.data det) (effKeys ks)).head? with
  | some c =>
    obtain ⟨ys, e, hp⟩ := p1 c h1
    rw [hp]
    rfl
  | none =>
    rw [p0 h1]
    cases allKeys with
    | false => rfl
    | true =>
      cases h2 : (candidates (views f.data det) (effKeys left)).head? with
      | some c =>
        obtain ⟨ys, e, hq⟩ := q1 c h2
        simp only [hq, if_true]
        rfl
      | none =>
        simp only [q0 h2, if_true]
        rfl

theorem extractSpec_search (data : Bytes) (ks : List Bytes) (allKeys : Bool) (det : Option Nat) (left : List Bytes)
    (guard : Option Result) :
    extractSpec data ks allKeys det left guard =
      match searchSpec data ks allKeys det left with
      | some c => .ok c.result
      | none => match guard with | some g => .ok g | none => .error .valueError := by
  unfold extractSpec searchSpec
  cases (candidates (views data det) (effKeys ks)).head? with
  | some c => rfl
  | none => rfl

theorem searchSpec_eq_none_iff (data : Bytes) (ks : List Bytes) (allKeys : Bool) (det : Option Nat) (left : List Bytes) :
    searchSpec data ks allKeys det left = none ↔
      candidates (views data det) (effKeys ks) = [] ∧ (allKeys = true → candidates (views data det) (effKeys left) = []) := by
  unfold searchSpec
  rw [← List.head?_eq_none_iff, ← List.head?_eq_none_iff]
  cases (candidates (views data det) (effKeys ks)).head? with
  | some c => simp
  | none => cases allKeys <;> simp

/-- **`from_file` = specification, nothing left as a parameter.**  `det` is the detector's answer characterised through
`C09.fromFileReal`, `left` the residual key order `leftKeys` computes. -/
theorem fromFileReal_spec (B : Nat) (hB : 1 ≤ B) (f : PyFile) (ks : List Bytes) (allKeys : Bool) :
    ∃ (det : Option Nat) (failPos : Nat) (left : List Bytes),
      (match det with
       | some c => ∃ x, C09.fromFileReal B f 1024 = .ok x ∧ x.nonceOff = c
       | none => C09.fromFileReal B f 1024 = .error .valueError) ∧
      (∀ c, det = some c → c + 8 ≤ f.data.length) ∧
      leftKeys B f det failPos ks = .ok left ∧
      fromFileReal B f ks allKeys =
        match searchSpec f.data ks allKeys det left with
        | some c => .ok c.result.extracted
        | none => guardFallback B (fhFor f det) := by
  rcases detectRun_real B f with ⟨x, h, hd, hr, hb, _⟩ | ⟨h, hd, hr, _⟩
  · have hdet : ∀ c, (some x.nonceOff) = some c → c + 8 ≤ f.data.length := by
      intro c hc
      injection hc with hc
      subst hc
      exact Nat.le_of_lt hb
    obtain ⟨left, hl, hs⟩ := search_spec B hB f ks allKeys (some x.nonceOff) hdet h.pos
    refine ⟨some x.nonceOff, h.pos, left, ⟨x, hr, rfl⟩, hdet, hl, ?_⟩
    simp only [fromFileReal, hd, Option.map_some, hs]
    cases searchSpec f.data ks allKeys (some x.nonceOff) left <;> rfl
  · have hdet : ∀ c, (none : Option Nat) = some c → c + 8 ≤ f.data.length := by intro c hc; cases hc
    obtain ⟨left, hl, hs⟩ := search_spec B hB f ks allKeys none hdet h.pos
    refine ⟨none, h.pos, left, hr, hdet, hl, ?_⟩
    simp only [fromFileReal, hd, Option.map_none, hs]
    cases searchSpec f.data ks allKeys none left <;> rfl

/-- the case C09 `detect_rejects_real` describes: no view, the search runs on the file alone -/
theorem fromFileReal_spec_rejected (B : Nat) (hB : 1 ≤ B) (f : PyFile) (ks : List Bytes) (allKeys : Bool)
    (hrej : ∀ c ∈ C09.realCandidates B f 1024, C09.mzVerdict f c = false) :
    ∃ (failPos : Nat) (left : List Bytes), leftKeys B f none failPos ks = .ok left ∧
      fromFileReal B f ks allKeys =
        match searchSpec f.data ks allKeys none left with
        | some c => .ok c.result.extracted
        | none => guardFallback B (fhFor f none) := by
  obtain ⟨det, failPos, left, hdet, _, hl, heq⟩ := fromFileReal_spec B hB f ks allKeys
  cases det with
  | none => exact ⟨failPos, left, hl, heq⟩
  | some c =>
    obtain ⟨x, hx, _⟩ := hdet
    rw [((C09.detect_rejects_real B f 1024).2).mpr hrej] at hx
    cases hx

/-! ### the least candidate is the head of the candidate list -/

theorem idxOf_inj_of_mem {l : List Bytes} {a b : Bytes} (ha : a ∈ l) (hb : b ∈ l) (h : l.idxOf a = l.idxOf b) : a = b := by
  have h1 := List.getElem_idxOf (List.idxOf_lt_length_iff.mpr ha)
  have h2 := List.getElem_idxOf (List.idxOf_lt_length_iff.mpr hb)
  rw [← h1, ← h2]
  simp only [h]

theorem candsIn_head_of_least (enc : Bool) (plain : Bytes) (keys : List Bytes) (k : Bytes) (i : Nat)
    (hk : k ∈ keys) (hi : i ∈ occK plain k)
    (hleast : ∀ k' ∈ keys, ∀ i' ∈ occK plain k', keys.idxOf k ≤ keys.idxOf k' ∧ (k' = k → i ≤ i')) :
    (candsIn enc plain keys).head? = some ⟨enc, plain, k, i⟩ := by
  have hmem : (⟨enc, plain, k, i⟩ : Cand) ∈ candsIn enc plain keys := mem_candsIn.mpr ⟨rfl, rfl, hk, hi⟩
  cases hh : (candsIn enc plain keys).head? with
  | none => rw [List.head?_eq_none_iff.mp hh] at hmem; cases hmem
  | some c =>
    obtain ⟨hc, hmin⟩ := candsIn_head_least enc plain keys c hh
    obtain ⟨he, hp, hck, hco⟩ := mem_candsIn.mp hc
    obtain ⟨m1, m2⟩ := hmin _ hmem
    obtain ⟨l1, l2⟩ := hleast c.key hck c.offset hco
    have hkey : c.key = k := idxOf_inj_of_mem hck hk (Nat.le_antisymm m1 l1)
    have hoff : c.offset = i := Nat.le_antisymm (m2 hkey.symm) (l2 hkey)
    obtain ⟨ce, cp, ck, co⟩ := c
    simp only at he hp hkey hoff
    subst he hp hkey hoff
    rfl

theorem candsIn_nil_of_noHeader (enc : Bool) (plain : Bytes) (keys : List Bytes)
    (h : ∀ k ∈ keys, occK plain k = []) : candsIn enc plain keys = [] := by
  apply List.eq_nil_iff_forall_not_mem.mpr
  intro c hc
  obtain ⟨_, _, hk, ho⟩ := mem_candsIn.mp hc
  rw [h c.key hk] at ho
  cases ho


theorem decodedView_layout (stub nonce size enc : Bytes) (hn : nonce.length = 4) (hs : size.length = 4) :
    decodedView (stub ++ nonce ++ size ++ enc) stub.length = C09.rollDecode nonce enc := by
  unfold decodedView
  have e1 : ((stub ++ nonce ++ size ++ enc).drop stub.length).take 4 = nonce := by
    simp only [List.append_assoc]; rw [List.drop_left, List.take_left' hn]
  have e2 : (stub ++ nonce ++ size ++ enc).drop (stub.length + 8) = enc := by
    have : stub.length + 8 = (stub ++ nonce ++ size).length := by simp [hn, hs]
    rw [this, List.drop_left]
  rw [e1, e2]

/-! ### Guardrails fallback -/
open Gen.Guardrails in
/-- no Guardrails record that the marker scan reports in `v` can be completed: at every offset where the marker relation
holds (and a 6144-byte area fits in front) no candidate key reproduces the stored checksum.  Holds trivially when the
marker relation holds nowhere, and for every `v` of at most 6138 bytes. -/
def GuardClean (B : Nat) (v : Bytes) : Prop :=
  ∀ off, off < v.length → C17.markerAt v (C17.maskedStarts defaultGuardXorKey) 6 off → BEACON_CONFIG_PATCH_SIZE ≤ off + 6 →
    C17.NoMatch B (C17.metaAt v defaultGuardXorKey (off + 6) (off + 6 - BEACON_CONFIG_PATCH_SIZE))

open Gen.Guardrails in
theorem guardClean_of_short (B : Nat) (v : Bytes) (h : v.length + 6 ≤ BEACON_CONFIG_PATCH_SIZE) : GuardClean B v := by
  intro off hoff _ h6
  omega

open Gen.Guardrails in
theorem guardClean_of_no_marker (B : Nat) (v : Bytes)
    (h : ∀ off, off < v.length → ¬ C17.markerAt v (C17.maskedStarts defaultGuardXorKey) 6 off) : GuardClean B v := by
  intro off hoff hm _
  exact absurd hm (h off hoff)

theorem guardFallback_clean (B : Nat) (f : PyFile) (h : GuardClean B f.data) : guardFallback B f = .error .valueError := by
  unfold guardFallback
  rw [C17.no_match_valueError f B]
  intro ms hms m hm
  obtain ⟨off, h1, h2, h3, rfl⟩ := (C17.scan_reports_iff f _ ms hms m).mp hm
  exact h off h1 h2 h3

theorem fromFileFallback_data (f g : PyFile) (h : f.data = g.data) (B : Nat) :
    C17.fromFileFallback f B = C17.fromFileFallback g B := by
  unfold C17.fromFileFallback C17.iterGuardrailConfigsWithBeacon
  rw [C17.iterGuardrailConfigs_eq, C17.iterGuardrailConfigs_eq, h]

/-! ### not detected as XorEncoded, in bytes -/

/-- the offsets `XorEncodedFile.from_file` can try, read off the bytes: behind an `ff ff ff` that occurs in the first
2 KiB, or a size-consistent offset below 1024 (C09 `real_candidates_characterised`) -/
def DetectorCandidate (data : Bytes) (c : Nat) : Prop :=
  (∃ h ∈ C15.occ data C09.eofMarker, c = h + 3 ∧ h ≤ 2 * 1024) ∨ (c < 1024 ∧ C09.SizeRel data (data.length : Int) c)

/-- every offset the detector can try decodes to something that fails the MZ check -/
def NotXorEncoded (f : PyFile) : Prop := ∀ c, DetectorCandidate f.data c → C09.mzVerdict f c = false

theorem notXorEncoded_rejects (B : Nat) (hB : 1 ≤ B) (f : PyFile) (h : NotXorEncoded f) :
    ∀ c ∈ C09.realCandidates B f 1024, C09.mzVerdict f c = false := by
  intro c hc
  apply h
  rcases (C09.real_candidates_characterised B hB f 1024 c).1 hc with ⟨p, hp, rfl, hb⟩ | hs
  · exact Or.inl ⟨p, hp, rfl, hb (by omega)⟩
  · exact Or.inr hs

/-- a sufficient condition on the bytes alone: no `ff ff ff` starts in the first 2049 bytes and no offset below 1024
satisfies the size relation — then there is nothing for the detector to try -/
theorem notXorEncoded_of_no_candidate (f : PyFile)
    (hm : ∀ h ∈ C15.occ f.data C09.eofMarker, 2 * 1024 < h)
    (hs : ∀ c, c < 1024 → ¬ C09.SizeRel f.data (f.data.length : Int) c) : NotXorEncoded f := by
  rintro c (⟨p, hp, _, hb⟩ | ⟨hlt, hrel⟩)
  · have := hm p hp; omega
  · exact absurd hrel (hs c hlt)

/-! ### for the 8 KiB Guardrails example: masks with a constant key, slices of `replicate` -/

theorem occ_nil_of_byte (hay needle : Bytes) (b : UInt8) (hb : b ∈ needle) (hn : b ∉ hay) : C15.occ hay needle = [] := by
  apply List.eq_nil_iff_forall_not_mem.mpr
  intro i hi
  obtain ⟨_, h⟩ := (C15.occ_iff hay needle i).mp hi
  rw [← h] at hb
  exact hn (List.mem_of_mem_drop (List.mem_of_mem_take hb))

open Gen.Guardrails C17 in
theorem noEarlierRecord_start (B : Nat) (data : Bytes) (n : Nat) (h : n + 6 ≤ BEACON_CONFIG_PATCH_SIZE) :
    NoEarlierRecord B data n := by
  intro off hoff m hm
  rw [probeAt_none_early _ _ _ off (by omega)] at hm
  cases hm

theorem decodedView_length_le (data : Bytes) (c : Nat) : (decodedView data c).length ≤ data.length := by
  simp only [decodedView, C09.rollDecode_length, List.length_drop]
  omega


theorem keyAt_const (k : Bytes) (c : UInt8) (hne : k ≠ []) (h : ∀ x ∈ k, x = c) (j : Nat) : C20.keyAt k j = c := by
  have hpos : 0 < k.length := List.length_pos_iff.mpr hne
  have hlt : j % k.length < k.length := Nat.mod_lt _ hpos
  unfold C20.keyAt
  rw [← List.getElem_eq_getD (h := hlt)]
  exact h _ (List.getElem_mem hlt)

theorem xor_const_key (d k : Bytes) (c : UInt8) (hne : k ≠ []) (h : ∀ x ∈ k, x = c) : C20.xor d k = d.map (· ^^^ c) := by
  apply List.ext_getElem
  · rw [C17.xor_length, List.length_map]
  · intro i h1 h2
    rw [C17.xor_getElem, List.getElem_map, keyAt_const k c hne h]

theorem zipWith_replicate_right {α β γ} (f : α → β → γ) (b : β) (rest : List β) :
    ∀ (xs : List α) (n : Nat), xs.length ≤ n → List.zipWith f xs (List.replicate n b ++ rest) = xs.map (f · b) := by
  intro xs
  induction xs with
  | nil => intro n _; simp
  | cons x xs ih =>
    intro n hn
    cases n with
    | zero => simp at hn
    | succ n =>
      rw [List.replicate_succ, List.cons_append, List.zipWith_cons_cons, ih n (by simpa using hn), List.map_cons]

theorem slice_in_replicate {α} (l1 rest : List α) (n : Nat) (a : α) (c m : Nat) (h1 : l1.length ≤ c)
    (h2 : c + m ≤ l1.length + n) : ((l1 ++ List.replicate n a ++ rest).drop c).take m = List.replicate m a := by
  apply List.ext_getElem
  · simp only [List.length_take, List.length_drop, List.length_append, List.length_replicate]; omega
  · intro i hi1 hi2
    simp only [List.length_replicate] at hi2
    rw [List.getElem_take, List.getElem_drop, List.getElem_replicate,
      List.getElem_append_left (by simp only [List.length_append, List.length_replicate]; omega),
      List.getElem_append_right (by omega), List.getElem_replicate]

end C01

import CsVerif.Model.C11
import CsVerif.Lemmas.C10
import CsVerif.Props.C12
/-! C11 lemmas.  The token walk on statement lists keeps "stack = path of the enclosing blocks" (`run_flatten`); for a table
with `ShapesOK`/`LookupWF`/`PrintWF` the statement list read off the TREE is the token sequence of the sentence
(`deriv_link`); the tree → derivation checker is sound; the cache of `as_dict`. -/
namespace C11
open Grammar (Item Form)
open C10 (Table Tok Forest Tree Parts Deriv Text wfParts)

theorem pop_snoc {α} (xs : List α) (x : α) : pop (xs ++ [x]) = .ok (x, xs) := by
  simp [pop]

theorem run_append (lp : List Text) (st : St) (a b : List Item') :
    run lp st (a ++ b) = match run lp st a with
      | .error e => .error e
      | .ok st' => run lp st' b := by
  induction a generalizing st with
  | nil => simp [run]
  | cons i a ih =>
    simp only [List.cons_append, run]
    cases step lp st i with
    | error e => rfl
    | ok st' => exact ih st'

theorem isFlush_set : C10.isFlush setKw = false := by decide
theorem isFlush_semi : C10.isFlush C10.semi = true := by decide
theorem isFlush_lbrace : C10.isFlush C10.lbrace = true := by decide
theorem isFlush_rbrace : C10.isFlush C10.rbrace = true := by decide

@[simp] theorem text_plain (s : Text) : (Item'.plain s).text = s := rfl
theorem run_nonflush (lp : List Text) (l S : List Item') (P : Dict) (its : List Item')
    (h : ∀ i ∈ its, plainOK i = true) :
    run lp ⟨l, S, P⟩ its = .ok ⟨l ++ its.filter notSet, S, P⟩ := by
  induction its generalizing l with
  | nil => simp [run]
  | cons i its ih =>
    have hi : C10.isFlush i.text = false := by simpa [plainOK] using h i (by simp)
    have ht : ∀ j ∈ its, plainOK j = true := fun j hj => h j (by simp [hj])
    by_cases hs : i.text = setKw
    · simpa [run, step, hs, notSet] using ih l ht
    · simp [run, step, hs, hi, ih _ ht, List.filter_cons, notSet]

theorem step_semi (lp : List Text) (l S : List Item') (P : Dict) :
    step lp ⟨l, S, P⟩ (.plain C10.semi) =
      match semiCase lp (S.map Item'.text) l with
      | .error e => .error e
      | .ok (k, v) => .ok ⟨[], S, P.add k v⟩ := by
  have h1 : (C10.semi = setKw) = False := by decide
  have h2 : (C10.semi = C10.lbrace) = False := by decide
  have h3 : (C10.semi = C10.rbrace) = False := by decide
  simp only [step, Item'.text, h1, h2, h3, if_false, isFlush_semi, if_true, pop_snoc]
  rfl

def headerLine (kw : Text) (v : Option Item') : List Item' := .plain kw :: v.toList

theorem step_lbrace (lp : List Text) (S : List Item') (P : Dict) (kw : Text) (v : Option Item')
    (hv : ∀ x, v = some x → x.isToken = true) :
    step lp ⟨headerLine kw v, S, P⟩ (.plain C10.lbrace) = .ok ⟨[], S ++ header kw v, P⟩ := by
  have h1 : (C10.lbrace = setKw) = False := by decide
  simp only [step, text_plain, h1, if_false, isFlush_lbrace, if_true, pop_snoc, headerLine, header]
  cases v with
  | none => simp [Item'.isToken]
  | some x =>
    have := hv x rfl
    by_cases hd : (x.text == dqDefault) = true <;> simp [hd, this]

theorem step_rbrace (lp : List Text) (l S : List Item') (P : Dict) (kw : Text) (v : Option Item')
    (hv : ∀ x, v = some x → x.isToken = true) :
    step lp ⟨l, S ++ header kw v, P⟩ (.plain C10.rbrace) = .ok ⟨[], S, P⟩ := by
  have h1 : (C10.rbrace = setKw) = False := by decide
  have h2 : (C10.rbrace = C10.lbrace) = False := by decide
  have hp : (Item'.plain kw).isToken = false := rfl
  simp only [step, text_plain, h1, h2, if_false, isFlush_rbrace, if_true, header]
  cases v with
  | none => simp [pop, hp]
  | some x =>
    have := hv x rfl
    by_cases hd : (x.text == dqDefault) = true <;> simp [pop, hd, this, hp]

theorem mapPy_append {α β} (f : α → Py β) (a b : List α) :
    mapPy f (a ++ b) = match mapPy f a with
      | .error e => .error e
      | .ok x => match mapPy f b with
        | .error e => .error e
        | .ok y => .ok (x ++ y) := by
  induction a with
  | nil => simp [mapPy]; cases mapPy f b <;> rfl
  | cons x a ih =>
    simp only [List.cons_append, mapPy, ih]
    cases f x with
    | error e => rfl
    | ok y =>
      cases mapPy f a with
      | error e => rfl
      | ok ys => cases mapPy f b <;> rfl

theorem semiCase_eq_specStmt (lp : List Text) (path : List Text) (line : List Item') :
    semiCase lp path line = specStmt lp path line := by
  unfold semiCase specStmt
  split
  · rfl
  -- the walk looks at the line from its end (`line[-2:]`, `line.pop()`), the specification at its reverse
  rcases List.eq_nil_or_concat line with rfl | ⟨l, b, rfl⟩
  · simp [pop]
  rcases List.eq_nil_or_concat l with rfl | ⟨pre, a, rfl⟩
  · simp [pop]
  cases pre with
  | nil => simp [pop]
  | cons c pre =>
    simp [mapPy]
    cases pairAtom a with
    | error e => rfl
    | ok x => cases pairAtom b <;> rfl

/-- `group` from a start value: `group es = addAll [] es` -/
def addAll (P : Dict) (es : List (Text × Value)) : Dict := es.foldl (fun d e => d.add e.1 e.2) P

theorem addAll_append (P : Dict) (a b : List (Text × Value)) : addAll P (a ++ b) = addAll (addAll P a) b := by
  simp [addAll, List.foldl_append]

theorem run_header (lp : List Text) (S : List Item') (P : Dict) {kw : Text} {v : Option Item'} (rest : List Item')
    (hk : C10.isFlush kw = false) (hs : kw ≠ setKw) (hv : ∀ x, v = some x → C10.isFlush x.text = false ∧ x.text ≠ setKw) :
    run lp ⟨[], S, P⟩ (headerLine kw v ++ rest) = run lp ⟨headerLine kw v, S, P⟩ rest := by
  cases v with
  | none => simp [headerLine, run, step, hk, hs]
  | some x => simp [headerLine, run, step, hk, hs, hv x rfl]

/-- The invariant of the walk: after the statements `ss` of a block whose enclosing blocks contributed `S`, the
stack is `S` again, the line is empty and `properties` has grown by exactly the entries of the specification. -/
theorem run_flatten (lp : List Text) (ss : Stms) (hok : ss.OK = true) (S : List Item') (P : Dict) :
    run lp ⟨[], S, P⟩ ss.flatten =
      match specStms lp (S.map Item'.text) ss with
      | .error e => .error e
      | .ok es => .ok ⟨[], S, addAll P es⟩ := by
  induction ss generalizing S P with
  | nil => simp [Stms.flatten, run, specStms, addAll]
  | stmt its r ih =>
    simp only [Stms.OK, Bool.and_eq_true, List.all_eq_true] at hok
    simp only [Stms.flatten, specStms]
    rw [run_append, run_nonflush lp [] S P its hok.1]
    simp only [List.nil_append, run, step_semi, semiCase_eq_specStmt]
    cases specStmt lp (S.map Item'.text) (its.filter notSet) with
    | error e => rfl
    | ok kv =>
      obtain ⟨k, v⟩ := kv
      simp only [ih hok.2 S (P.add k v)]
      cases specStms lp (S.map Item'.text) r with
      | error e => rfl
      | ok es => simp [addAll]
  | block kw v b r ihb ihr =>
    simp only [Stms.OK, Bool.and_eq_true] at hok
    obtain ⟨⟨⟨⟨hk1, hk2⟩, hv⟩, hb⟩, hr⟩ := hok
    have hkf : C10.isFlush kw = false := by simpa using hk1
    have hks : kw ≠ setKw := by simpa using hk2
    have hv : ∀ x, v = some x → x.isToken = true ∧ C10.isFlush x.text = false ∧ x.text ≠ setKw := by
      intro x hx; subst hx; simpa [and_assoc] using hv
    have hvt : ∀ x, v = some x → x.isToken = true := fun x hx => (hv x hx).1
    have hfl : (Stms.block kw v b r).flatten =
        headerLine kw v ++ (Item'.plain C10.lbrace :: (b.flatten ++ Item'.plain C10.rbrace :: r.flatten)) := by
      simp [Stms.flatten, headerLine]
    rw [hfl, run_header lp S P _ hkf hks fun x hx => (hv x hx).2]
    simp only [run, step_lbrace lp S P kw v hvt]
    rw [run_append, ihb hb (S ++ header kw v) P]
    simp only [specStms, List.map_append]
    cases specStms lp (S.map Item'.text ++ (header kw v).map Item'.text) b with
    | error e => rfl
    | ok es =>
      simp only [run, step_rbrace lp [] S (addAll P es) kw v hvt, ihr hr S (addAll P es)]
      cases specStms lp (S.map Item'.text) r with
      | error e => rfl
      | ok fs => simp [addAll_append]

theorem asDict_flatten (lp : List Text) (ss : Stms) (hok : ss.OK = true) :
    asDict lp ss.flatten = match specStms lp [] ss with
      | .error e => .error e
      | .ok es => .ok (group es) := by
  unfold asDict
  rw [run_flatten lp ss hok [] []]
  simp only [List.map_nil]
  cases specStms lp [] ss with
  | error e => rfl
  | ok es => rfl

variable (G : Table)

theorem wf_nil {p : Parts} (h : wfParts G [] p = true) : p = .done := by
  cases C10.derives_of_wf h; rfl

theorem wf_kw {k : Nat} {is : List Item} {p : Parts} (h : wfParts G (.kw k :: is) p = true) :
    ∃ r, p = .kw k r ∧ wfParts G is r = true := by
  cases C10.derives_of_wf h with
  | kw hr => exact ⟨_, rfl, hr.wf⟩

theorem wf_tok {t : Nat} {is : List Item} {p : Parts} (h : wfParts G (.tok t :: is) p = true) :
    ∃ s r, p = .tok t s r ∧ wfParts G is r = true := by
  cases C10.derives_of_wf h with
  | tok hr => exact ⟨_, _, rfl, hr.wf⟩

theorem wf_nt {n : Nat} {is : List Item} {p : Parts} (h : wfParts G (.nt n :: is) p = true) :
    ∃ f b r, p = .sub f b r ∧ G.has f = true ∧ f.origin = n ∧ wfParts G f.items b = true ∧ wfParts G is r = true := by
  cases C10.derives_of_wf h with
  | nt hf ho hb hr => exact ⟨_, _, _, rfl, hf, ho, hb.wf, hr.wf⟩

theorem wf_star {n : Nat} {is : List Item} {p : Parts} (h : wfParts G (.star n :: is) p = true) :
    (∃ f b r, p = .sub f b r ∧ G.has f = true ∧ f.origin = n ∧ wfParts G f.items b = true ∧
        wfParts G (.star n :: is) r = true) ∨ (∃ r, p = .stop r ∧ wfParts G is r = true) := by
  cases C10.derives_of_wf h with
  | star hf ho hb hr => exact .inl ⟨_, _, _, rfl, hf, ho, hb.wf, hr.wf⟩
  | starStop hr => exact .inr ⟨_, rfl, hr.wf⟩

theorem wf_opt {n : Nat} {is : List Item} {p : Parts} (h : wfParts G (.opt n :: is) p = true) :
    (∃ f b r, p = .sub f b r ∧ G.has f = true ∧ f.origin = n ∧ wfParts G f.items b = true ∧
        wfParts G is r = true) ∨ (∃ r, p = .stop r ∧ wfParts G is r = true) := by
  cases C10.derives_of_wf h with
  | opt hf ho hb hr => exact .inl ⟨_, _, _, rfl, hf, ho, hb.wf, hr.wf⟩
  | optStop hr => exact .inr ⟨_, rfl, hr.wf⟩

def isNamed : Tok → Bool
  | .named _ _ => true
  | .kw _ => false

theorem leaves_kids (p : Parts) : leaves G p.kids = (p.yield.filter isNamed).map (itemOfTok G) := by
  induction p with
  | done => simp [Parts.kids, Parts.yield, leaves]
  | kw k r ih => simp [Parts.kids, Parts.yield, isNamed, ih]
  | tok t s r ih => simp [Parts.kids, Parts.yield, leaves, List.filter_cons, isNamed, ih]
  | sub f b r ihb ihr => simp [Parts.kids, Parts.yield, leaves, ihb, ihr]
  | stop r ih => simp [Parts.kids, Parts.yield, ih]

theorem leafy_sub : ∀ (fuel : Nat) {n : Nat} {f : Form} {b : Parts}, leafy G fuel n = true → G.has f = true →
    f.origin = n → wfParts G f.items b = true → ∃ t s, b.yield = [Tok.named t s] := by
  intro fuel
  induction fuel with
  | zero => intro n f b h; simp [leafy] at h
  | succ fuel ih =>
    intro n f b hl hf ho hw
    simp only [leafy, List.all_eq_true, Bool.or_eq_true, bne_iff_ne, ne_eq] at hl
    have := hl f (C10.mem_of_has G hf)
    rcases this with h | h
    · exact absurd ho h
    · split at h
      · rename_i t hi
        rw [hi] at hw
        obtain ⟨s, r, rfl, hr⟩ := wf_tok G hw
        have := wf_nil G hr; subst this
        exact ⟨t, s, by simp [Parts.yield]⟩
      · rename_i m hi
        rw [hi] at hw
        obtain ⟨f', b', r, rfl, hf', ho', hb', hr⟩ := wf_nt G hw
        have := wf_nil G hr; subst this
        obtain ⟨t, s, hy⟩ := ih h hf' ho' hb'
        exact ⟨t, s, by simp [Parts.yield, hy]⟩
      · simp at h

theorem wf_kws {ks : List Nat} {is : List Item} {p : Parts} (h : wfParts G (ks.map Item.kw ++ is) p = true) :
    ∃ p', p.yield = ks.map Tok.kw ++ p'.yield ∧ p.kids = p'.kids ∧ wfParts G is p' = true := by
  induction ks generalizing p with
  | nil => exact ⟨p, by simp, rfl, by simpa using h⟩
  | cons k ks ih =>
    simp only [List.map_cons, List.cons_append] at h
    obtain ⟨r, rfl, hr⟩ := wf_kw G h
    obtain ⟨p', hy, hk, hw⟩ := ih hr
    exact ⟨p', by simp [Parts.yield, hy], by simp [Parts.kids, hk], hw⟩

theorem wf_visItem {i : Item} {is : List Item} {p : Parts} (hi : visOK G i = true) (h : wfParts G (i :: is) p = true) :
    ∃ t s r, p.yield = Tok.named t s :: r.yield ∧ leaves G p.kids = itemOfTok G (.named t s) :: leaves G r.kids ∧
      forestLen p.kids = forestLen r.kids + 1 ∧ wfParts G is r = true := by
  cases i with
  | tok t =>
    obtain ⟨s, r, rfl, hr⟩ := wf_tok G h
    exact ⟨t, s, r, rfl, rfl, rfl, hr⟩
  | nt n =>
    obtain ⟨f, b, r, rfl, hf, ho, hb, hr⟩ := wf_nt G h
    obtain ⟨t, s, hy⟩ := leafy_sub G 4 (by simpa [visOK] using hi) hf ho hb
    exact ⟨t, s, r, by simp [Parts.yield, hy], by simp only [Parts.kids, leaves]; rw [leaves_kids G b, hy]; rfl, rfl, hr⟩
  | _ => simp [visOK] at hi

theorem wf_vis {vis is : List Item} {p : Parts} (hv : vis.all (visOK G) = true)
    (h : wfParts G (vis ++ is) p = true) :
    ∃ p' ns, p.yield = ns ++ p'.yield ∧ leaves G p.kids = ns.map (itemOfTok G) ++ leaves G p'.kids ∧
      forestLen p.kids = vis.length + forestLen p'.kids ∧ wfParts G is p' = true := by
  induction vis generalizing p with
  | nil => exact ⟨p, [], by simp, by simp, by simp, by simpa using h⟩
  | cons i vis ih =>
    simp only [List.all_cons, Bool.and_eq_true] at hv
    obtain ⟨t, s, r, hy, hlv, hl, hr⟩ := wf_visItem G hv.1 h
    obtain ⟨p', ns, hy', hlv', hl', hw⟩ := ih hv.2 hr
    exact ⟨p', Tok.named t s :: ns, by rw [hy, hy']; rfl, by rw [hlv, hlv']; rfl,
      by rw [hl, hl', List.length_cons]; omega, hw⟩

theorem dropLast_getLast {α} (l : List α) (a : α) (h : l.getLast? = some a) : l.dropLast ++ [a] = l := by
  obtain ⟨ys, rfl⟩ := List.getLast?_eq_some_iff.mp h
  simp

theorem leadKws_split (is : List Item) : is = (leadKws is).map Item.kw ++ is.drop (leadKws is).length := by
  induction is with
  | nil => simp [leadKws]
  | cons i is ih =>
    cases i with
    | kw k => simp only [leadKws, List.map_cons, List.length_cons, List.drop_succ_cons, List.cons_append]; rw [← ih]
    | _ => simp [leadKws]

theorem shapeOf_inv {f : Form} {sh : Shape} (h : shapeOf G f = sh) :
    match sh with
    | .stmt kws nv => ∃ vis s, f.items = kws.map Item.kw ++ vis ++ [Item.kw s] ∧ vis.length = nv ∧ kwIs G s C10.semi = true ∧
        kws.all (kwPlain G) = true ∧ vis.all (visOK G) = true
    | .block k (some m) => ∃ lb n rb, f.items = [.kw k, .opt m, .kw lb, .star n, .kw rb] ∧ blockKwOK G k lb rb = true ∧
        leafy G 4 m = true
    | .block k none => ∃ lb n rb, f.items = [.kw k, .kw lb, .star n, .kw rb] ∧ blockKwOK G k lb rb = true
    | .seq => f.items.all isNtStar = true
    | _ => True := by
  unfold shapeOf at h
  split at h
  · rename_i k m lb n rb hi
    split at h <;> subst h
    · rename_i hc
      simp only [Bool.and_eq_true] at hc
      exact ⟨lb, n, rb, hi, hc.1, hc.2⟩
    · trivial
  · rename_i k lb n rb hi
    split at h <;> subst h
    · rename_i hc
      exact ⟨lb, n, rb, hi, hc⟩
    · trivial
  · subst h; trivial
  · split at h
    · rename_i s hl
      simp only at h
      split at h <;> subst h
      · rename_i hc
        simp only [Bool.and_eq_true] at hc
        refine ⟨f.items.dropLast.drop (leadKws f.items.dropLast).length, s, ?_, rfl, hc.1.1, hc.1.2, hc.2⟩
        rw [← leadKws_split]
        exact (dropLast_getLast _ _ hl).symm
      · trivial
    · split at h
      · rename_i m hi
        split at h <;> subst h
        · trivial
        · simp [hi, isNtStar]
      · split at h <;> subst h
        · assumption
        · trivial

theorem shape_seq {f : Form} (h : shapeOf G f = .seq) : f.items.all isNtStar = true := shapeOf_inv G h

def itemsOf (ts : List Tok) : List Item' := ts.map (itemOfTok G)

theorem kwItem_of_kwIs {k : Nat} {t : Text} (h : kwIs G k t = true) : kwItem G k = .plain t := by
  unfold kwIs at h
  have h' : G.keywords[k]? = some t := by simpa using h
  unfold kwItem
  rw [List.getD_eq_getElem?_getD, h']
  rfl

theorem compatible_of_arity {a b : Shape} {nk : Nat} (ha : arityOK a nk = true) (hb : arityOK b nk = true) :
    compatible a b = true := by
  cases a <;> cases b <;> simp_all [arityOK, compatible, Shape.isStmtish]

theorem lookup_self (hL : LookupWF G = true) {f : Form} (hf : f ∈ G.forms) {nk : Nat}
    (ha : arityOK (shapeOf G f) nk = true) : lookupShape G (C10.label f) nk = some (shapeOf G f) := by
  unfold lookupShape
  cases hfind : G.forms.find? (fun g => C10.label g == C10.label f && arityOK (shapeOf G g) nk) with
  | none =>
    have := List.find?_eq_none.mp hfind f hf
    simp [ha] at this
  | some g =>
    have hg := List.find?_some hfind
    have hgm := List.mem_of_find?_eq_some hfind
    simp only [Bool.and_eq_true, beq_iff_eq] at hg
    simp only [LookupWF, List.all_eq_true, Bool.or_eq_true, bne_iff_ne, ne_eq, Bool.not_eq_true', beq_iff_eq] at hL
    have := hL f hf g hgm
    rcases this with (h | h) | h
    · exact absurd hg.1.symm h
    · rw [compatible_of_arity ha hg.2] at h; cases h
    · simp [h]

/-- `LookupWF` on pairs of forms whose labels agree modulo `k` (forms with the same label do): `k` passes over `n` forms
and `n²/k` pairs are much cheaper to evaluate than `n²` pairs, nearly all of which only find that the labels differ. -/
def lookupWFMod (k : Nat) (G : Table) : Bool :=
  (List.range k).all fun r =>
    let c := G.forms.filter fun f => C10.label f % k == r
    c.all fun f => c.all fun g =>
      C10.label f != C10.label g || !compatible (shapeOf G f) (shapeOf G g) || shapeOf G f == shapeOf G g

theorem lookupWF_of_mod {k : Nat} (hk : 0 < k) (h : lookupWFMod k G = true) : LookupWF G = true := by
  simp only [LookupWF, List.all_eq_true]
  intro f hf g hg
  by_cases hl : C10.label f = C10.label g
  · simp only [lookupWFMod, List.all_eq_true, List.mem_range, List.mem_filter, beq_iff_eq, and_imp] at h
    exact h (C10.label f % k) (Nat.mod_lt _ hk) f hf rfl g hg (by rw [hl])
  · simp [hl]

theorem flatten_append (a b : Stms) : (a.append b).flatten = a.flatten ++ b.flatten := by
  induction a with
  | nil => simp [Stms.append, Stms.flatten]
  | stmt i r ih => simp [Stms.append, Stms.flatten, ih]
  | block k v bd r _ ih => simp [Stms.append, Stms.flatten, ih]

theorem ok_append {a b : Stms} (ha : a.OK = true) (hb : b.OK = true) : (a.append b).OK = true := by
  induction a with
  | nil => simpa [Stms.append]
  | stmt i r ih =>
    simp only [Stms.OK, Bool.and_eq_true] at ha
    simp [Stms.append, Stms.OK, ha.1, ih ha.2]
  | block k v bd r _ ih =>
    simp only [Stms.OK, Bool.and_eq_true] at ha
    simp only [Stms.append, Stms.OK, Bool.and_eq_true]
    exact ⟨⟨ha.1.1, ha.1.2⟩, ih ha.2⟩
/-- the item lists under which statements are derived: statement nonterminals (plain or starred), then at most `}` -/
def BodyCtx : List Item → Bool
  | [] => true
  | .kw _ :: is => is.isEmpty
  | .nt n :: is => stmtNt G n && BodyCtx is
  | .star n :: is => stmtNt G n && BodyCtx is
  | _ => false

/-- the measure of the induction in `body_link` -/
def psize : Parts → Nat
  | .done => 1
  | .kw _ r => psize r + 1
  | .tok _ _ r => psize r + 1
  | .sub _ b r => psize b + psize r + 1
  | .stop r => psize r + 1

/-- `tokensOK` on the sentence: no named token can be mistaken for punctuation or for `set` -/
def TokOK (ts : List Tok) : Prop := ∀ t s, Tok.named t s ∈ ts → C10.isFlush s = false ∧ s ≠ setKw

theorem tokOK_append {a b : List Tok} : TokOK (a ++ b) ↔ TokOK a ∧ TokOK b :=
  ⟨fun h => ⟨fun t s hm => h t s (List.mem_append_left _ hm), fun t s hm => h t s (List.mem_append_right _ hm)⟩,
    fun h t s hm => (List.mem_append.mp hm).elim (h.1 t s) (h.2 t s)⟩

theorem tokOK_cons_kw {k : Nat} {a : List Tok} : TokOK (Tok.kw k :: a) ↔ TokOK a := by
  simp only [TokOK, List.mem_cons, reduceCtorEq, false_or]

/-- tree side (`stmsOfKids`) and token side (`yield`) of sibling sub-derivations followed by the keywords `tail` agree -/
def Linked (kids : Forest) (ys : List Tok) (tail : List Item') : Prop :=
  ∃ ss, stmsOfKids G kids = some ss ∧ itemsOf G ys = ss.flatten ++ tail ∧ (TokOK ys → ss.OK = true)

theorem bodyCtx_of_all {is : List Item} (h : is.all (bodyItem G) = true) : BodyCtx G is = true ∧ C10.kwSeq is = [] := by
  induction is with
  | nil => simp [BodyCtx, C10.kwSeq]
  | cons i is ih =>
    simp only [List.all_cons, Bool.and_eq_true] at h
    obtain ⟨h1, h2⟩ := ih h.2
    cases i with
    | nt n => simp only [bodyItem] at h; simp [BodyCtx, C10.kwSeq, h.1, h1, h2]
    | star n => simp only [bodyItem] at h; simp [BodyCtx, C10.kwSeq, h.1, h1, h2]
    | _ => simp [bodyItem] at h

theorem stmtish_of_nt {n : Nat} {f : Form} (hn : stmtNt G n = true) (hf : f ∈ G.forms) (ho : f.origin = n) :
    (shapeOf G f).isStmtish = true := by
  simp only [stmtNt, List.all_eq_true, Bool.or_eq_true, bne_iff_ne, ne_eq] at hn
  rcases hn f hf with h | h
  · exact absurd ho h
  · exact h

theorem shapesOK_form (hS : ShapesOK G = true) {f : Form} (hf : f ∈ G.forms) :
    (match shapeOf G f with
      | .bad => false
      | .seq => f.items.all (bodyItem G)
      | .block _ _ =>
        (match f.items with
          | [_, _, _, .star n, _] => stmtNt G n
          | [_, _, .star n, _] => stmtNt G n
          | _ => false)
      | _ => true) = true := by
  simp only [ShapesOK, Bool.and_eq_true, List.all_eq_true] at hS
  exact hS.2 f hf

theorem kwItem_plainOK {k : Nat} (h : kwPlain G k = true) : plainOK (kwItem G k) = true := by
  unfold kwPlain at h
  split at h
  · rename_i t ht
    simp only [plainOK, kwItem, List.getD_eq_getElem?_getD, ht, Option.getD_some, Item'.text]
    exact h
  · cases h

theorem leaves_plainOK {p : Parts} (h : TokOK p.yield) : ∀ i ∈ leaves G p.kids, plainOK i = true := by
  intro i hi
  rw [leaves_kids] at hi
  simp only [List.mem_map, List.mem_filter] at hi
  obtain ⟨t, ⟨hm, hn⟩, rfl⟩ := hi
  cases t with
  | kw k => simp [isNamed] at hn
  | named t s => simp [plainOK, itemOfTok, Item'.text, (h t s hm).1]

theorem stmt_link {f : Form} {kws : List Nat} {nv : Nat} {b : Parts} (hs : shapeOf G f = .stmt kws nv)
    (hw : wfParts G f.items b = true) :
    itemsOf G b.yield = kws.map (kwItem G) ++ leaves G b.kids ++ [.plain C10.semi] ∧ forestLen b.kids = nv ∧
      (TokOK b.yield → (kws.map (kwItem G) ++ leaves G b.kids).all plainOK = true) := by
  obtain ⟨vis, s, hi, hn, hsemi, hkp, hv⟩ := shapeOf_inv G hs
  rw [hi, List.append_assoc] at hw
  obtain ⟨p1, hy1, hk1, hw1⟩ := wf_kws G hw
  obtain ⟨p2, ns, hy2, hlv, hl2, hw2⟩ := wf_vis G hv hw1
  obtain ⟨r, rfl, hr⟩ := wf_kw G hw2
  have := wf_nil G hr; subst this
  refine ⟨?_, ?_, fun htok => ?_⟩
  · rw [hy1, hy2, hk1, hlv, ← kwItem_of_kwIs G hsemi]
    simp [itemsOf, Parts.yield, Parts.kids, leaves, itemOfTok, kwItem, Function.comp_def]
  · rw [hk1, hl2, ← hn]
    simp [Parts.kids, forestLen]
  · rw [List.all_append, List.all_map, Bool.and_eq_true, List.all_eq_true, List.all_eq_true]
    exact ⟨fun k hk => kwItem_plainOK G (List.all_eq_true.mp hkp k hk), leaves_plainOK G htok⟩

theorem itemsOf_append (a b : List Tok) : itemsOf G (a ++ b) = itemsOf G a ++ itemsOf G b := by
  simp [itemsOf]

theorem itemsOf_kw (k : Nat) (a : List Tok) : itemsOf G (Tok.kw k :: a) = kwItem G k :: itemsOf G a := by
  simp [itemsOf, itemOfTok, kwItem]

theorem blockKw_facts {k lb rb : Nat} (h : blockKwOK G k lb rb = true) :
    C10.isFlush (G.keywords.getD k []) = false ∧ G.keywords.getD k [] ≠ setKw ∧
      kwItem G lb = .plain C10.lbrace ∧ kwItem G rb = .plain C10.rbrace := by
  simp only [blockKwOK, Bool.and_eq_true, Bool.not_eq_true'] at h
  obtain ⟨⟨⟨h1, h2⟩, h3⟩, h4⟩ := h
  refine ⟨?_, ?_, kwItem_of_kwIs G h3, kwItem_of_kwIs G h4⟩
  · have := kwItem_plainOK G h1
    simpa [plainOK, kwItem, Item'.text] using this
  · unfold kwPlain at h1
    split at h1
    · rename_i t ht
      simp only [kwIs, ht] at h2
      rw [List.getD_eq_getElem?_getD, ht]
      simpa using h2
    · cases h1

/-- `kw variant? { body }` and the siblings after it; `v` is the variant token, if there is one -/
theorem block_linked {kids kb kr : Forest} {yb yr : List Tok} {tail : List Item'} {k lb rb : Nat}
    (hkw : blockKwOK G k lb rb = true) (v : Option (Nat × Text))
    (hst : ∀ sb rr, stmsOfKids G kb = some sb → stmsOfKids G kr = some rr → stmsOfKids G kids =
      some (.block (G.keywords.getD k []) (v.map fun p => itemOfTok G (.named p.1 p.2)) sb rr))
    (hb : Linked G kb yb [kwItem G rb]) (hr : Linked G kr yr tail) :
    Linked G kids (Tok.kw k :: ((v.toList.map fun p => Tok.named p.1 p.2) ++ Tok.kw lb :: (yb ++ yr))) tail := by
  obtain ⟨sb, hbk, hby, hbok⟩ := hb
  obtain ⟨rr, hrk, hry, hrok⟩ := hr
  obtain ⟨hk1, hk2, hlb, hrb⟩ := blockKw_facts G hkw
  rw [List.getD_eq_getElem?_getD] at hk1 hk2
  refine ⟨_, hst sb rr hbk hrk, ?_, fun htok => ?_⟩
  · rw [itemsOf_kw, itemsOf_append, itemsOf_kw, itemsOf_append, hby, hry, hlb, hrb]
    cases v <;> simp [Stms.flatten, kwItem, itemsOf]
  · obtain ⟨hv, h⟩ := tokOK_append.mp (tokOK_cons_kw.mp htok)
    obtain ⟨h1, h2⟩ := tokOK_append.mp (tokOK_cons_kw.mp h)
    cases v with
    | none => simp [Stms.OK, hk1, hk2, hbok h1, hrok h2]
    | some p =>
      have hts := hv p.1 p.2 (by simp)
      simp [Stms.OK, hk1, hk2, hbok h1, hrok h2, itemOfTok, Item'.isToken, Item'.text, hts.1, hts.2]

/-- By the shape of `f`.  `PrintWF` is needed in one place: when the variant of a block is absent, the first child must not
be taken for one. -/
theorem sub_link (hS : ShapesOK G = true) (hL : LookupWF G = true) (hP : C10.PrintWF G = true) (n : Nat)
    (IH : ∀ (p : Parts) (is : List Item), psize p ≤ n → wfParts G is p = true → BodyCtx G is = true →
        Linked G p.kids p.yield ((C10.kwSeq is).map (kwItem G)))
    {f : Form} {b r : Parts} {tail : List Item'} {m : Nat}
    (hsz : psize b + psize r + 1 ≤ n + 1)
    (hf : G.has f = true) (ho : f.origin = m) (hm : stmtNt G m = true) (hb : wfParts G f.items b = true)
    (hr : Linked G r.kids r.yield tail) :
    Linked G (Parts.sub f b r).kids (Parts.sub f b r).yield tail := by
  have hfm := C10.mem_of_has G hf
  have hst := stmtish_of_nt G hm hfm ho
  obtain ⟨rr, hrk, hry, hrok⟩ := hr
  have hSf := shapesOK_form G hS hfm
  simp only [Parts.kids, Parts.yield]
  cases hsh : shapeOf G f with
  | stmt kws nv =>
    obtain ⟨hit, hlen, hok⟩ := stmt_link G hsh hb
    have hlk := lookup_self G hL hfm (nk := forestLen b.kids) (by rw [hsh]; simp [arityOK, hlen])
    rw [hsh] at hlk
    refine ⟨.stmt (kws.map (kwItem G) ++ leaves G b.kids) rr, ?_, ?_, fun htok => ?_⟩
    · rw [stmsOfKids, hlk]; simp only [hrk]
    · rw [itemsOf_append, hit, hry]; simp [Stms.flatten]
    · obtain ⟨h1, h2⟩ := tokOK_append.mp htok
      simp only [Stms.OK, hok h1, hrok h2, Bool.and_self]
  | seq =>
    rw [hsh] at hSf
    obtain ⟨hctx, hkw⟩ := bodyCtx_of_all G hSf
    obtain ⟨sb, hbk, hby, hbok⟩ := IH b f.items (by omega) hb hctx
    rw [hkw] at hby
    have hlk := lookup_self G hL hfm (nk := forestLen b.kids) (by rw [hsh]; simp [arityOK])
    rw [hsh] at hlk
    refine ⟨sb.append rr, ?_, ?_, ?_⟩
    · rw [stmsOfKids, hlk]; simp only [hbk, hrk]
    · rw [itemsOf_append, hby, hry, flatten_append]; simp
    · intro htok
      obtain ⟨h1, h2⟩ := tokOK_append.mp htok
      exact ok_append (hbok h1) (hrok h2)
  | block k mv =>
    have hlk := lookup_self G hL hfm (nk := forestLen b.kids) (by rw [hsh]; simp [arityOK])
    rw [hsh] at hlk
    have hr : Linked G r.kids r.yield tail := ⟨rr, hrk, hry, hrok⟩
    cases mv with
    | none =>
      obtain ⟨lb, n', rb, hi, hkw⟩ := shapeOf_inv G hsh
      rw [hsh, hi] at hSf
      rw [hi] at hb
      obtain ⟨b1, rfl, hb1⟩ := wf_kw G hb
      obtain ⟨b3, rfl, hb3⟩ := wf_kw G hb1
      simp only [psize] at hsz
      simp only [Parts.kids] at hlk ⊢
      exact block_linked G hkw none (fun sb rr' h1 h2 => by rw [stmsOfKids, hlk]; simp only [h1, h2, Option.map_none])
        (IH b3 [.star n', .kw rb] (by omega) hb3 (by simpa [BodyCtx] using hSf)) hr
    | some mm =>
      obtain ⟨lb, n', rb, hi, hkw, hleaf⟩ := shapeOf_inv G hsh
      rw [hsh, hi] at hSf
      have hdet := C10.printWF_det G hP hfm
      rw [hi] at hb hdet
      obtain ⟨b1, rfl, hb1⟩ := wf_kw G hb
      rcases wf_opt G hb1 with ⟨fv, bv, b2, rfl, hfv, hov, hbv, hb2⟩ | ⟨b2, rfl, hb2⟩
      · -- the variant is there
        obtain ⟨b3, rfl, hb3⟩ := wf_kw G hb2
        simp only [psize] at hsz
        obtain ⟨t, s, hys⟩ := leafy_sub G 4 hleaf hfv hov hbv
        have hlv : leaves G bv.kids = [itemOfTok G (Tok.named t s)] := by
          rw [leaves_kids, hys]; simp [List.filter, isNamed]
        have hlab : G.isLabelOf mm (C10.label fv) = true := by
          have := C10.isLabelOf_label G hfv; rwa [hov] at this
        simp only [Parts.kids, Parts.yield, hys] at hlk ⊢
        exact block_linked G hkw (some (t, s)) (fun sb rr' h1 h2 => by rw [stmsOfKids, hlk]; simp only [hlab, hlv, h1, h2, if_true, Option.map_some])
          (IH b3 [.star n', .kw rb] (by omega) hb3 (by simpa [BodyCtx] using hSf)) hr
      · -- no variant: the first child, if there is one, does not carry a label of the variant nonterminal
        obtain ⟨b3, rfl, hb3⟩ := wf_kw G hb2
        simp only [psize] at hsz
        simp only [Parts.kids] at hlk ⊢
        refine block_linked G hkw none (fun sb rr' h1 h2 => ?_)
          (IH b3 [.star n', .kw rb] (by omega) hb3 (by simpa [BodyCtx] using hSf)) hr
        rcases wf_star G hb3 with ⟨f', b', r', rfl, hf', ho', _, _⟩ | ⟨r', rfl, hr'⟩
        · simp only [Parts.kids] at hlk h1 ⊢
          have hno : G.isLabelOf mm (C10.label f') = false := by
            simp only [C10.detItems, Bool.and_eq_true] at hdet
            apply C10.avoids_node G hdet.1
            simp only [C10.firstSyms, List.append_nil]
            have := C10.mem_labelsOf G (C10.isLabelOf_label G hf')
            rwa [ho'] at this
          rw [stmsOfKids, hlk]; simp only [hno, h1, h2, Bool.false_eq_true, if_false, Option.map_none]
        · obtain ⟨r2, rfl, hr2⟩ := wf_kw G hr'
          have := wf_nil G hr2; subst this
          simp only [Parts.kids] at hlk h1 ⊢
          rw [stmsOfKids, hlk]; simp only [h1, h2, Option.map_none]
  | leaf => rw [hsh] at hst; simp [Shape.isStmtish] at hst
  | bad => rw [hsh] at hst; simp [Shape.isStmtish] at hst

theorem psize_pos (p : Parts) : 1 ≤ psize p := by cases p <;> simp [psize]

/-- By a bound on the size: `sub_link` needs the hypothesis for the body of a block, which lies under its keywords and is
no direct sub-term, so it gets the hypothesis as an argument. -/
theorem body_link (hS : ShapesOK G = true) (hL : LookupWF G = true) (hP : C10.PrintWF G = true) :
    ∀ (n : Nat) (p : Parts) (is : List Item), psize p ≤ n → wfParts G is p = true → BodyCtx G is = true →
      Linked G p.kids p.yield ((C10.kwSeq is).map (kwItem G)) := by
  intro n
  induction n with
  | zero => intro p is h; have := psize_pos p; omega
  | succ n ih =>
    intro p is hsz hw hc
    cases is with
    | nil =>
      have := wf_nil G hw; subst this
      exact ⟨.nil, by simp [Parts.kids, stmsOfKids], by simp [Parts.yield, itemsOf, Stms.flatten, C10.kwSeq], fun _ => rfl⟩
    | cons i is =>
      cases i with
      | kw k =>
        simp only [BodyCtx, List.isEmpty_iff] at hc
        subst hc
        obtain ⟨r, rfl, hr⟩ := wf_kw G hw
        have := wf_nil G hr; subst this
        exact ⟨.nil, by simp [Parts.kids, stmsOfKids],
          by simp [Parts.yield, itemsOf, Stms.flatten, C10.kwSeq, itemOfTok, kwItem], fun _ => rfl⟩
      | tok t => simp [BodyCtx] at hc
      | opt m => simp [BodyCtx] at hc
      | nt m =>
        simp only [BodyCtx, Bool.and_eq_true] at hc
        obtain ⟨f, b, r, rfl, hf, ho, hb, hr⟩ := wf_nt G hw
        simp only [psize] at hsz
        have hrl := ih r is (by have := psize_pos b; omega) hr hc.2
        simp only [C10.kwSeq]
        exact sub_link G hS hL hP n ih (by omega) hf ho hc.1 hb hrl
      | star m =>
        have hc' := hc
        simp only [BodyCtx, Bool.and_eq_true] at hc
        rcases wf_star G hw with ⟨f, b, r, rfl, hf, ho, hb, hr⟩ | ⟨r, rfl, hr⟩
        · simp only [psize] at hsz
          have hrl := ih r (.star m :: is) (by have := psize_pos b; omega) hr hc'
          simp only [C10.kwSeq] at hrl ⊢
          exact sub_link G hS hL hP n ih (by omega) hf ho hc.1 hb hrl
        · simp only [psize] at hsz
          have hrl := ih r is (by omega) hr hc.2
          simpa [Parts.kids, Parts.yield, C10.kwSeq] using hrl

theorem tokOK_of_tree {d : Deriv} (h : tokensOK G (C10.toTree d) = true) : TokOK d.yield := by
  intro t s hm
  simp only [tokensOK, C10.toTree, List.all_eq_true] at h
  have := h (itemOfTok G (Tok.named t s)) (by
    rw [leaves_kids]
    simp only [List.mem_map, List.mem_filter]
    exact ⟨Tok.named t s, ⟨hm, rfl⟩, rfl⟩)
  simpa [itemOfTok, Item'.text] using this

theorem deriv_link (hS : ShapesOK G = true) (hL : LookupWF G = true) (hP : C10.PrintWF G = true)
    {d : Deriv} (hd : d.WF G = true) (hstart : d.form.origin = G.start) :
    ∃ ss, stmsOfTree G (C10.toTree d) = some ss ∧ itemsOf G d.yield = ss.flatten ∧ (TokOK d.yield → ss.OK = true) := by
  unfold Deriv.WF at hd
  simp only [Bool.and_eq_true] at hd
  have hst : stmtNt G G.start = true := by
    simp only [ShapesOK, Bool.and_eq_true] at hS; exact hS.1
  have hw : wfParts G [.nt G.start] (Parts.sub d.form d.body .done) = true := by
    simp [wfParts, hd.1, hd.2, hstart]
  have := body_link G hS hL hP _ (Parts.sub d.form d.body .done) [.nt G.start] (Nat.le_refl _) hw
    (by simp [BodyCtx, hst])
  obtain ⟨ss, h1, h2, h3⟩ := this
  refine ⟨ss, ?_, ?_, ?_⟩
  · simpa [stmsOfTree, C10.toTree, Parts.kids] using h1
  · simpa [Parts.yield, C10.kwSeq, Deriv.yield] using h2
  · intro h; apply h3; simpa [Parts.yield, Deriv.yield] using h

def DnSound (dn : Nat → Nat → Forest → Option (Form × Parts)) : Prop :=
  ∀ n l ks f b, dn n l ks = some (f, b) →
    G.has f = true ∧ f.origin = n ∧ C10.label f = l ∧ wfParts G f.items b = true ∧ b.kids = ks

theorem deriveItems_sound {dn} (hdn : DnSound G dn) (is : List Item) (ks : Forest) :
    ∀ p, deriveItems G dn is ks = some p → wfParts G is p = true ∧ p.kids = ks := by
  -- every recursive case wraps the result `q` of its recursive call in one constructor
  fun_induction deriveItems G dn is ks with
  | case1 => intro p h; simp at h; subst h; simp [wfParts, Parts.kids]
  | case2 => intro p h; simp at h
  | case3 k is ks ih =>
    intro p h; obtain ⟨q, hq, rfl⟩ := Option.map_eq_some_iff.mp h
    simp [wfParts, Parts.kids, ih q hq]
  | case4 t is t' s r heq ih =>
    intro p h; obtain ⟨q, hq, rfl⟩ := Option.map_eq_some_iff.mp h
    have : t = t' := by simpa using heq
    simp [wfParts, Parts.kids, ih q hq, this]
  | case5 => intro p h; simp at h
  | case6 => intro p h; simp at h
  | case7 n is l ks r f b hd ih =>
    intro p h; obtain ⟨q, hq, rfl⟩ := Option.map_eq_some_iff.mp h
    simp [wfParts, Parts.kids, ih q hq, hdn _ _ _ _ _ hd]
  | case8 => intro p h; simp at h
  | case9 => intro p h; simp at h
  | case10 n is l ks r f b hd ih =>
    intro p h; obtain ⟨q, hq, rfl⟩ := Option.map_eq_some_iff.mp h
    simp [wfParts, Parts.kids, ih q hq, hdn _ _ _ _ _ hd]
  | case11 n is l ks r hd ih =>
    intro p h; obtain ⟨q, hq, rfl⟩ := Option.map_eq_some_iff.mp h
    simp [wfParts, Parts.kids, ih q hq]
  | case12 n is ks hne ih =>
    intro p h; obtain ⟨q, hq, rfl⟩ := Option.map_eq_some_iff.mp h
    simp [wfParts, Parts.kids, ih q hq]
  | case13 n is l ks r f b hd ih =>
    intro p h; obtain ⟨q, hq, rfl⟩ := Option.map_eq_some_iff.mp h
    simp [wfParts, Parts.kids, ih q hq, hdn _ _ _ _ _ hd]
  | case14 n is l ks r hd ih =>
    intro p h; obtain ⟨q, hq, rfl⟩ := Option.map_eq_some_iff.mp h
    simp [wfParts, Parts.kids, ih q hq]
  | case15 n is ks hne ih =>
    intro p h; obtain ⟨q, hq, rfl⟩ := Option.map_eq_some_iff.mp h
    simp [wfParts, Parts.kids, ih q hq]

theorem deriveNode_sound : ∀ fuel, DnSound G (deriveNode G fuel) := by
  intro fuel
  induction fuel with
  | zero => intro n l ks f b h; simp [deriveNode] at h
  | succ fuel ih =>
    intro n l ks f b h
    simp only [deriveNode] at h
    obtain ⟨g, _, hg⟩ := List.exists_of_findSome?_eq_some h
    split at hg
    · rename_i hc
      simp only [Bool.and_eq_true, beq_iff_eq] at hc
      simp only [Option.map_eq_some_iff, Prod.mk.injEq] at hg
      obtain ⟨q, hq, rfl, rfl⟩ := hg
      obtain ⟨h1, h2⟩ := deriveItems_sound G ih _ _ _ hq
      exact ⟨hc.2, hc.1.1, hc.1.2, h1, h2⟩
    · cases hg

theorem derive_sound {t : Tree} {d : Deriv} (h : derive G t = some d) :
    d.WF G = true ∧ d.form.origin = G.start ∧ C10.toTree d = t := by
  unfold derive at h
  simp only [Option.map_eq_some_iff] at h
  obtain ⟨⟨f, b⟩, hfb, rfl⟩ := h
  obtain ⟨h1, h2, h3, h4, h5⟩ := deriveNode_sound G _ _ _ _ _ _ hfb
  refine ⟨by simp [Deriv.WF, h1, h4], h2, ?_⟩
  simp [C10.toTree, h3, h5]

theorem joinDot_contains {c : Nat} {x : Text} (hx : c ∈ x) : ∀ (path : List Text), x ∈ path → c ∈ joinDot path := by
  intro path
  induction path with
  | nil => intro h; simp at h
  | cons y r ih =>
    intro h
    cases r with
    | nil =>
      simp only [List.mem_cons, List.not_mem_nil, or_false] at h
      subst h; simpa [joinDot] using hx
    | cons z r' =>
      simp only [joinDot, List.mem_append, List.mem_cons]
      rcases List.mem_cons.mp h with h | h
      · subst h; exact .inl hx
      · exact .inr (.inr (ih h))

/-- what the accesses of a history should return: the dictionary of the CURRENT tree -/
def expected (compute : Tree → Option (Py Dict)) : Tree → List Op → List (Option (Py Dict))
  | _, [] => []
  | t, .modify f :: ops => expected compute (f t) ops
  | t, .access :: ops => compute t :: expected compute t ops

/-- the cache, when filled, holds the dictionary of a tree of the history with that hash -/
def CacheInv {H : Type} (hash : Tree → H) (compute : Tree → Option (Py Dict)) (L : List Tree) (s : PState H) : Prop :=
  ∀ h, s.dictHash = some h → ∃ t', t' ∈ L ∧ h = hash t' ∧ compute t' = some (.ok s.dictCache)

theorem mem_treesOf_self (t : Tree) (ops : List Op) : t ∈ treesOf t ops := by
  induction ops generalizing t with
  | nil => simp [treesOf]
  | cons o ops ih =>
    cases o with
    | modify f => simp [treesOf]
    | access => simpa [treesOf] using ih t

theorem runHist_correct {H : Type} [DecidableEq H] (hash : Tree → H) (compute : Tree → Option (Py Dict))
    (L : List Tree) (hinj : ∀ a ∈ L, ∀ b ∈ L, hash a = hash b → a = b) :
    ∀ (ops : List Op) (s : PState H), (∀ t ∈ treesOf s.tree ops, t ∈ L) → CacheInv hash compute L s →
      runHist hash compute s ops = expected compute s.tree ops := by
  intro ops
  induction ops with
  | nil => intro s _ _; simp [runHist, expected]
  | cons o ops ih =>
    intro s hsub hinv
    cases o with
    | modify f =>
      simp only [runHist, expected]
      apply ih ⟨f s.tree, s.dictHash, s.dictCache⟩
      · intro t ht; apply hsub; simp [treesOf, ht]
      · exact hinv
    | access =>
      have hself : s.tree ∈ L := hsub _ (mem_treesOf_self _ _)
      have hsub' : ∀ t ∈ treesOf s.tree ops, t ∈ L := by
        intro t ht; apply hsub; simpa [treesOf] using ht
      simp only [runHist, expected]
      unfold asDictCached
      by_cases hc : s.dictHash = some (hash s.tree)
      · simp only [hc, if_true]
        obtain ⟨t', ht', hh, hcomp⟩ := hinv _ hc
        have : s.tree = t' := hinj _ hself _ ht' hh
        subst this
        rw [ih s hsub' hinv, hcomp]
      · simp only [hc, if_false]
        cases hcomp : compute s.tree with
        | none => simp only; rw [ih s hsub' hinv]
        | some r =>
          cases r with
          | error e => simp only; rw [ih s hsub' hinv]
          | ok d =>
            simp only
            rw [ih ⟨s.tree, some (hash s.tree), d⟩ hsub']
            intro h hh
            simp only [Option.some.injEq] at hh
            exact ⟨s.tree, hself, hh.symm, hcomp⟩

theorem isSubstr_head {c : Nat} {s t : Text} (h : c ∉ t) : C10.isSubstr (c :: s) t = false := by
  induction t with
  | nil => simp [C10.isSubstr]
  | cons x t ih =>
    simp only [List.mem_cons, not_or] at h
    simp only [C10.isSubstr, Bool.or_eq_false_iff]
    refine ⟨?_, ih h.2⟩
    simp [List.isPrefixOf, h.1]

theorem valueToString_head (v : PyVal) : ∃ r, valueToString v = 34 :: r := by
  cases v with
  | str s => exact ⟨_, rfl⟩
  | bytes b =>
    refine ⟨(C12.strReplace [C12.bsl, C12.sq] [C12.sq] (C12.strReplace [C12.dq] [C12.bsl, C12.dq]
      (pySliceFrom (pySliceTo (C12.reprBytes ([C12.dq] ++ b)) (some (-1))) 3)) ++ [C12.dq]).map (·.toNat), ?_⟩
    simp [valueToString, C12.valueToString, C12.valueToStringStr]
    rfl

end C11

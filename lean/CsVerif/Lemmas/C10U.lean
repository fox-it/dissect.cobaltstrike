import CsVerif.Lemmas.C10
/-! Helper lemmas for C10, continued.  Part 7: a sentence has one derivation (FIRST sets are sound, one token of lookahead
tells alternatives and repetitions apart).  Part 8: the model parser is sound and complete (the same argument on token
texts; no fuel shortage in a non-recursive grammar).  Part 9: a weaker lookahead check and three ambiguous tables that pass it. -/
namespace C10
open Grammar (Item Form)

/-! ## Part 7: a sentence has one derivation -/

variable (G : Table)

/-- the sentence `y` starts with a token of class in `a`, or is empty and `e` says so -/
def HeadIn (a : List TokClass) (e : Bool) : List Tok → Prop
  | [] => e = true
  | t :: _ => cls t ∈ a

theorem headIn_sub {a b : List TokClass} {e e' : Bool} {y : List Tok} (h : HeadIn a e y)
    (hs : ∀ x ∈ a, x ∈ b) (he : e = true → e' = true) : HeadIn b e' y := by
  cases y with
  | nil => exact he h
  | cons t y => exact hs _ h

theorem headIn_mono {a b : List TokClass} {e : Bool} {y : List Tok} (h : HeadIn b e y) : HeadIn (a ++ b) e y :=
  headIn_sub h (fun _ => List.mem_append_right a) id

theorem headIn_append {a b : List TokClass} {e₁ e : Bool} {y₁ y₂ : List Tok} (h₁ : HeadIn a e₁ y₁)
    (h₂ : y₁ = [] → HeadIn (a ++ b) e y₂) : HeadIn (a ++ b) e (y₁ ++ y₂) := by
  cases y₁ with
  | nil => exact h₂ rfl
  | cons t y => exact List.mem_append_left b h₁

theorem headIn_false {a : List TokClass} {y : List Tok} (h : HeadIn a false y) :
    ∃ t ys, y = t :: ys ∧ cls t ∈ a := by
  cases y with
  | nil => cases h
  | cons t y => exact ⟨t, y, rfl, h⟩

def FirstSound (ofNt : Nat → Option (List TokClass × Bool)) : Prop :=
  ∀ n a e, ofNt n = some (a, e) → ∀ f b, G.has f = true → f.origin = n → wfParts G f.items b = true →
    HeadIn a e b.yield

theorem firstOfItems_rep {ofNt} {n : Nat} {i : Item} {is : List Item} {a e} (hi : i = .star n ∨ i = .opt n)
    (hf : firstOfItems ofNt (i :: is) = some (a, e)) :
    ∃ a₁ e₁ a₂, ofNt n = some (a₁, e₁) ∧ firstOfItems ofNt is = some (a₂, e) ∧ a = a₁ ++ a₂ := by
  rcases hi with rfl | rfl
  all_goals
    simp only [firstOfItems] at hf
    split at hf
    · cases hf
    · rename_i a₁ e₁ hn
      simp only [Option.map_eq_some_iff, Prod.mk.injEq] at hf
      obtain ⟨⟨a₂, e₂⟩, hr, rfl, rfl⟩ := hf
      exact ⟨a₁, e₁, a₂, hn, hr, rfl⟩

theorem firstOfItems_nt {ofNt} {n : Nat} {is : List Item} {a e} (hf : firstOfItems ofNt (.nt n :: is) = some (a, e)) :
    ∃ a₁ e₁, ofNt n = some (a₁, e₁) ∧ ((e₁ = false ∧ a = a₁ ∧ e = false) ∨
      ∃ a₂, firstOfItems ofNt is = some (a₂, e) ∧ a = a₁ ++ a₂) := by
  simp only [firstOfItems] at hf
  split at hf
  · cases hf
  · rename_i a₁ e₁ hn
    refine ⟨a₁, e₁, hn, ?_⟩
    split at hf
    · simp only [Option.map_eq_some_iff, Prod.mk.injEq] at hf
      obtain ⟨⟨a₂, e₂⟩, hr, rfl, rfl⟩ := hf
      exact .inr ⟨a₂, hr, rfl⟩
    · rename_i he
      simp only [Option.some.injEq, Prod.mk.injEq] at hf
      exact .inl ⟨by simpa using he, hf.1.symm, hf.2.symm⟩

theorem firstOfItems_sound {ofNt} (hs : FirstSound G ofNt) {p : Parts} {is : List Item} {a e}
    (hf : firstOfItems ofNt is = some (a, e)) (hw : wfParts G is p = true) : HeadIn a e p.yield := by
  replace hw := derives_of_wf hw
  induction hw generalizing a e with
  | done => cases hf; rfl
  | kw _ _ | tok _ _ => cases hf; exact List.mem_singleton.mpr rfl
  | @nt n f b is r hh ho hb _ _ ihr =>
    obtain ⟨a₁, e₁, hn, h⟩ := firstOfItems_nt hf
    have h1 := hs n a₁ e₁ hn f b hh ho hb.wf
    rcases h with ⟨rfl, rfl, rfl⟩ | ⟨a₂, hr, rfl⟩
    · obtain ⟨t, ys, hy, ht⟩ := headIn_false h1
      simp [Parts.yield, hy, HeadIn, ht]
    · exact headIn_append h1 fun _ => headIn_mono (ihr hr)
  | @star n f b is r hh ho hb _ _ ihr =>
    obtain ⟨a₁, e₁, a₂, hn, _, rfl⟩ := firstOfItems_rep (.inl rfl) hf
    exact headIn_append (hs n a₁ e₁ hn f b hh ho hb.wf) fun _ => ihr hf
  | @opt n f b is r hh ho hb _ _ ihr =>
    obtain ⟨a₁, e₁, a₂, hn, hr, rfl⟩ := firstOfItems_rep (.inr rfl) hf
    exact headIn_append (hs n a₁ e₁ hn f b hh ho hb.wf) fun _ => headIn_mono (ihr hr)
  | starStop _ ih =>
    obtain ⟨a₁, e₁, a₂, _, hr, rfl⟩ := firstOfItems_rep (.inl rfl) hf
    exact headIn_mono (ih hr)
  | optStop _ ih =>
    obtain ⟨a₁, e₁, a₂, _, hr, rfl⟩ := firstOfItems_rep (.inr rfl) hf
    exact headIn_mono (ih hr)

theorem ntFirst_fold {ofNt : Nat → Option (List TokClass × Bool)} (fs : List Form) (acc : Option (List TokClass × Bool))
    {a e} (h : fs.foldl (fun acc f =>
      match acc, firstOfItems ofNt f.items with
      | some (a, e), some (b, e') => some (a ++ b, e || e')
      | _, _ => none) acc = some (a, e)) :
    ∃ a₀ e₀, acc = some (a₀, e₀) ∧ (∀ x ∈ a₀, x ∈ a) ∧ (e₀ = true → e = true) ∧
      ∀ f ∈ fs, ∃ b e', firstOfItems ofNt f.items = some (b, e') ∧ (∀ x ∈ b, x ∈ a) ∧ (e' = true → e = true) := by
  induction fs generalizing acc with
  | nil =>
    simp only [List.foldl_nil] at h
    exact ⟨a, e, h, fun _ hx => hx, id, by simp⟩
  | cons f fs ih =>
    simp only [List.foldl_cons] at h
    obtain ⟨a₁, e₁, hacc, ha, he, hall⟩ := ih _ h
    split at hacc
    · rename_i a₀ e₀ b e' hfi
      simp only [Option.some.injEq, Prod.mk.injEq] at hacc
      obtain ⟨rfl, rfl⟩ := hacc
      refine ⟨a₀, e₀, rfl, fun x hx => ha x (List.mem_append_left _ hx), fun h0 => he (by simp [h0]), ?_⟩
      intro g hg
      simp only [List.mem_cons] at hg
      rcases hg with rfl | hg
      · exact ⟨b, e', hfi, fun x hx => ha x (List.mem_append_right _ hx), fun h0 => he (by simp [h0])⟩
      · exact hall g hg
    · cases hacc

theorem ntFirst_sound (k : Nat) : FirstSound G (ntFirst G k) := by
  induction k with
  | zero => intro n a e h; simp [ntFirst] at h
  | succ k ih =>
    intro n a e h f b hh ho hb
    simp only [ntFirst] at h
    obtain ⟨_, _, _, _, _, hall⟩ := ntFirst_fold _ _ h
    obtain ⟨bs, e', hfi, hsub, he⟩ := hall f (by simp [mem_of_has G hh, ho])
    exact headIn_sub (firstOfItems_sound G ih hfi hb) hsub he

/-! ### one token of lookahead, stated once for sentences seen through `obs` and made of `Ok` tokens: on tokens it gives
unique derivations, on token texts completeness of the parser -/

theorem has_inj {f g : Form} (hf : G.has f = true) (hg : G.has g = true) (h : f.id = g.id) : f = g := by
  unfold Table.has at hf hg
  have h1 := beq_iff_eq.mp hf
  have h2 := beq_iff_eq.mp hg
  rw [h] at h1
  rw [h1] at h2
  exact Option.some.inj h2

theorem disjointToks_false {a b : List TokClass} (h : disjointToks a b = true) {x : TokClass} (ha : x ∈ a)
    (hb : x ∈ b) : False := by
  unfold disjointToks at h
  have := List.all_eq_true.mp h x ha
  simp [hb] at this

section lookahead
variable {α : Type} (obs : Tok → α) (Ok : Tok → Prop) (dj : List TokClass → List TokClass → Bool)

/-- two tokens whose classes `dj` separates are seen differently -/
def Separates : Prop :=
  ∀ {a b t t'}, dj a b = true → cls t ∈ a → cls t' ∈ b → Ok t → Ok t' → obs t ≠ obs t'

/-- `Adm` (tokens) and `AdmT` (token texts) in one -/
def AdmG (m : Nat) (z : List α) : Prop :=
  z = [] ∨ ∃ c ∈ useContexts G m, ∃ q z', wfParts G c q = true ∧ (∀ t ∈ q.yield, Ok t) ∧ z = q.yield.map obs ++ z'

variable {obs Ok dj} (hsep : Separates obs Ok dj)
include hsep

theorem head_clash {a b : List TokClass} {y y' : List Tok} {z z' : List α} (hd : dj a b = true)
    (h : HeadIn a false y) (h' : HeadIn b false y') (ok : ∀ t ∈ y, Ok t) (ok' : ∀ t ∈ y', Ok t)
    (hy : y.map obs ++ z = y'.map obs ++ z') : False := by
  obtain ⟨t, ys, rfl, ht⟩ := headIn_false h
  obtain ⟨t', ys', rfl, ht'⟩ := headIn_false h'
  simp only [List.map_cons, List.cons_append, List.cons.injEq] at hy
  exact hsep hd ht ht' (ok t List.mem_cons_self) (ok' t' List.mem_cons_self) hy.1

theorem altsApart_clash (hkw : ∀ {k k'}, Ok (.kw k) → Ok (.kw k') → obs (.kw k) = obs (.kw k') → k = k') {ofNt}
    (hs : FirstSound G ofNt) {x y : List Item} {p q : Parts} {z₁ z₂ : List α}
    (h : altsApart dj (firstOfItems ofNt) x y = true) (hp : wfParts G x p = true) (hq : wfParts G y q = true)
    (okp : ∀ t ∈ p.yield, Ok t) (okq : ∀ t ∈ q.yield, Ok t)
    (hy : p.yield.map obs ++ z₁ = q.yield.map obs ++ z₂) : False := by
  fun_induction altsApart dj (firstOfItems ofNt) x y generalizing p q with
  | case1 a x b y ih =>
    cases derives_of_wf hp with
    | kw hp' =>
      cases derives_of_wf hq with
      | kw hq' =>
        simp only [Parts.yield, List.map_cons, List.cons_append, List.cons.injEq, List.forall_mem_cons] at hy okp okq
        rcases Bool.or_eq_true _ _ ▸ h with h | h
        · exact bne_iff_ne.mp h (hkw okp.1 okq.1 hy.1)
        · exact ih h hp'.wf hq'.wf okp.2 okq.2 hy.2
  | case2 x y hneg A ea B eb hy' hx =>
    simp only [Bool.and_eq_true, Bool.not_eq_true'] at h
    obtain ⟨⟨rfl, rfl⟩, hd⟩ := h
    exact head_clash hsep hd (firstOfItems_sound G hs hx hp) (firstOfItems_sound G hs hy' hq) okp okq hy
  | case3 x y hneg hno => cases h

theorem rep_clash {ofNt} (hs : FirstSound G ofNt) {m n : Nat} {rest : List Item}
    (hrep : repsOK.repOK dj (firstOfItems ofNt) ofNt (useContexts G m) n rest = true)
    {f : Form} {b : Parts} (hh : G.has f = true) (ho : f.origin = n) (hb : wfParts G f.items b = true)
    (okb : ∀ t ∈ b.yield, Ok t) {r : Parts} (hr : wfParts G rest r = true) (okr : ∀ t ∈ r.yield, Ok t)
    {x z : List α} (hz : AdmG G obs Ok m z) (hy : b.yield.map obs ++ x = r.yield.map obs ++ z) : False := by
  unfold repsOK.repOK at hrep
  split at hrep
  · rename_i a en bs eb hn hrest
    simp only [Bool.and_eq_true, Bool.not_eq_true', Bool.or_eq_true, List.all_eq_true] at hrep
    obtain ⟨⟨rfl, hd⟩, hctx⟩ := hrep
    have h1 := hs n a false hn f b hh ho hb
    have h2 := firstOfItems_sound G hs hrest hr
    cases hry : r.yield with
    | cons t' ys' =>
      rw [hry] at h2
      exact head_clash hsep hd h1 (hry ▸ (h2 : HeadIn bs false (t' :: ys'))) okb okr hy
    | nil =>
      rw [hry] at h2 hy
      obtain ⟨t, ys, e1, ht⟩ := headIn_false h1
      rcases hz with rfl | ⟨c, hc, q, z', hq, okq, rfl⟩
      · simp [e1] at hy
      · rcases hctx with hctx | hctx
        · simp [show eb = true from h2] at hctx
        · have := hctx c hc
          split at this
          · rename_i cf ce hcf
            simp only [Bool.and_eq_true, Bool.not_eq_true'] at this
            obtain ⟨rfl, hd'⟩ := this
            exact head_clash hsep hd' h1 (firstOfItems_sound G hs hcf hq) okb okq (by simpa using hy)
          · cases this
  · cases hrep

end lookahead

theorem separates_toks : Separates id (fun _ => True) disjointToks := by
  intro a b t t' hd ht ht' _ _ e
  cases (e : t = t')
  exact disjointToks_false hd ht ht'

/-- two derivations by forms of the same rule whose sentences start alike use the same form -/
theorem form_unique {ofNt} (hs : FirstSound G ofNt)
    (hA : ∀ f ∈ G.forms, ∀ g ∈ G.forms, f.origin = g.origin → f.id ≠ g.id →
      altsApart disjointToks (firstOfItems ofNt) f.items g.items = true)
    {f g : Form} {b b' : Parts} {z₁ z₂ : List Tok} (hf : G.has f = true) (hg : G.has g = true)
    (ho : f.origin = g.origin) (hb : wfParts G f.items b = true) (hb' : wfParts G g.items b' = true)
    (hy : b.yield ++ z₁ = b'.yield ++ z₂) : f = g := by
  by_cases hid : f.id = g.id
  · exact has_inj G hf hg hid
  · exact (altsApart_clash G separates_toks (fun _ _ h => Tok.kw.inj h) hs (hA f (mem_of_has G hf) g (mem_of_has G hg) ho hid) hb hb'
      (fun _ _ => trivial) (fun _ _ => trivial) (by simpa using hy)).elim

/-! ### derivations are determined by their sentences -/

theorem useContexts_go_suffix (m : Nat) (pre : List Item) {is : List Item} {c : List Item} (h : c ∈ useContexts.go m is) :
    c ∈ useContexts.go m (pre ++ is) := by
  induction pre with
  | nil => exact h
  | cons i pre ih =>
    cases i <;> simp only [List.cons_append, useContexts.go, List.mem_append] <;> exact Or.inr ih

theorem mem_useContexts {m : Nat} {h : Form} {pre is c : List Item} (hh : h ∈ G.forms) (hi : h.items = pre ++ is)
    (hc : c ∈ useContexts.go m is) : c ∈ useContexts G m := by
  unfold useContexts
  simp only [List.mem_flatMap]
  exact ⟨h, hh, by rw [hi]; exact useContexts_go_suffix m pre hc⟩

theorem repsOK_suffix {dj first ofNt ctx} (pre : List Item) {is : List Item}
    (h : repsOK dj first ofNt ctx (pre ++ is) = true) : repsOK dj first ofNt ctx is = true := by
  induction pre with
  | nil => exact h
  | cons i pre ih =>
    cases i <;> simp only [List.cons_append, repsOK, Bool.and_eq_true] at h
    · exact ih h
    · exact ih h
    · exact ih h
    · exact ih h.2
    · exact ih h.2

/-- `z` may follow a sentence of nonterminal `m`: nothing, or something that starts with a sentence of one of the
contexts `m` is used in -/
def Adm (m : Nat) (z : List Tok) : Prop :=
  z = [] ∨ ∃ c ∈ useContexts G m, ∃ q z', wfParts G c q = true ∧ z = q.yield ++ z'

/-- a repetition / option cannot both go on (with a sentence of `n`) and stop -/
theorem rep_contra {ofNt} (hs : FirstSound G ofNt) {m n : Nat} {rest : List Item}
    (hrep : repsOK.repOK disjointToks (firstOfItems ofNt) ofNt (useContexts G m) n rest = true)
    {f : Form} {b : Parts} (hh : G.has f = true) (ho : f.origin = n) (hb : wfParts G f.items b = true)
    {r : Parts} (hr : wfParts G rest r = true) {x z : List Tok} (hz : Adm G m z)
    (hy : b.yield ++ x = r.yield ++ z) : False := by
  refine rep_clash G separates_toks hs hrep hh ho hb (fun _ _ => trivial) hr (fun _ _ => trivial) (z := z) ?_
    (by simpa using hy)
  exact hz.imp id fun ⟨c, hc, q, z', hq, e⟩ => ⟨c, hc, q, z', hq, fun _ _ => trivial, by simpa using e⟩

theorem repOK_of_star {dj first ofNt ctx} {n : Nat} {rest : List Item}
    (h : repsOK dj first ofNt ctx (.star n :: rest) = true) : repsOK.repOK dj first ofNt ctx n rest = true := by
  simp only [repsOK, Bool.and_eq_true] at h; exact h.1

theorem repOK_of_opt {dj first ofNt ctx} {n : Nat} {rest : List Item}
    (h : repsOK dj first ofNt ctx (.opt n :: rest) = true) : repsOK.repOK dj first ofNt ctx n rest = true := by
  simp only [repsOK, Bool.and_eq_true] at h; exact h.1

theorem sub_unique {ofNt} (hs : FirstSound G ofNt)
    (hA : ∀ f ∈ G.forms, ∀ g ∈ G.forms, f.origin = g.origin → f.id ≠ g.id →
      altsApart disjointToks (firstOfItems ofNt) f.items g.items = true)
    {f g : Form} {b b' r₁ r₂ : Parts} {c : List Item} {z₁ z₂ : List Tok} (hc : c ∈ useContexts G f.origin)
    (hf : G.has f = true) (hg : G.has g = true) (ho : g.origin = f.origin) (hb : Derives G f.items b)
    (hb' : Derives G g.items b') (hr₁ : Derives G c r₁) (hr₂ : Derives G c r₂)
    (ihb : ∀ p₂ z₁ z₂, Derives G f.items p₂ → b.yield ++ z₁ = p₂.yield ++ z₂ → Adm G f.origin z₁ →
      Adm G f.origin z₂ → b = p₂ ∧ z₁ = z₂)
    (ihr : r₁.yield ++ z₁ = r₂.yield ++ z₂ → r₁ = r₂ ∧ z₁ = z₂)
    (hy : (Parts.sub f b r₁).yield ++ z₁ = (Parts.sub g b' r₂).yield ++ z₂) :
    Parts.sub f b r₁ = .sub g b' r₂ ∧ z₁ = z₂ := by
  simp only [Parts.yield, List.append_assoc] at hy
  obtain rfl := form_unique G hs hA hf hg ho.symm hb.wf hb'.wf hy
  obtain ⟨rfl, e⟩ := ihb b' _ _ hb' hy (.inr ⟨c, hc, r₁, z₁, hr₁.wf, rfl⟩) (.inr ⟨c, hc, r₂, z₂, hr₂.wf, rfl⟩)
  obtain ⟨rfl, e'⟩ := ihr e
  exact ⟨rfl, e'⟩

/-- Two derivations of the same item list (a suffix of a form of `m`) whose sentences, continued by admissible
followers, agree, are equal — and so are the followers. -/
theorem parts_unique {ofNt} (hs : FirstSound G ofNt)
    (hA : ∀ f ∈ G.forms, ∀ g ∈ G.forms, f.origin = g.origin → f.id ≠ g.id →
      altsApart disjointToks (firstOfItems ofNt) f.items g.items = true)
    (hR : ∀ f ∈ G.forms, repsOK disjointToks (firstOfItems ofNt) ofNt (useContexts G f.origin) f.items = true)
    (p₁ : Parts) : ∀ (is : List Item) (p₂ : Parts) (z₁ z₂ : List Tok) (h : Form) (pre : List Item),
      h ∈ G.forms → h.items = pre ++ is → wfParts G is p₁ = true → wfParts G is p₂ = true →
      p₁.yield ++ z₁ = p₂.yield ++ z₂ → Adm G h.origin z₁ → Adm G h.origin z₂ → p₁ = p₂ ∧ z₁ = z₂ := by
  intro is p₂ z₁ z₂ h pre hh hi h1 h2
  replace h1 := derives_of_wf h1
  replace h2 := derives_of_wf h2
  intro hy a1 a2
  induction h1 generalizing p₂ z₁ z₂ h pre with
  | done =>
    cases h2
    exact ⟨rfl, hy⟩
  | @kw k is r _ ih =>
    cases h2 with
    | kw hr₂ =>
      simp only [Parts.yield, List.cons_append, List.cons.injEq, true_and] at hy
      obtain ⟨rfl, e⟩ := ih _ z₁ z₂ h (pre ++ [.kw k]) hh (by simp [hi]) hr₂ hy a1 a2
      exact ⟨rfl, e⟩
  | @tok t s is r _ ih =>
    cases h2 with
    | tok hr₂ =>
      simp only [Parts.yield, List.cons_append, List.cons.injEq, Tok.named.injEq, true_and] at hy
      obtain ⟨rfl, hy⟩ := hy
      obtain ⟨rfl, e⟩ := ih _ z₁ z₂ h (pre ++ [.tok t]) hh (by simp [hi]) hr₂ hy a1 a2
      exact ⟨rfl, e⟩
  | @nt n f b is r₁ hf hof hb hr₁ ihb ihr =>
    subst hof
    cases h2 with
    | nt hg hog hb' hr₂ =>
      exact sub_unique G hs hA (mem_useContexts G hh hi (by simp [useContexts.go, usesNt])) hf hg hog hb hb' hr₁ hr₂
        (fun p₂ z₁ z₂ d => ihb p₂ z₁ z₂ f [] (mem_of_has G hf) rfl d)
        (fun e => ihr _ z₁ z₂ h (pre ++ [.nt f.origin]) hh (by simp [hi]) hr₂ e a1 a2) hy
  | @opt n f b is r₁ hf hof hb hr₁ ihb ihr =>
    subst hof
    cases h2 with
    | opt hg hog hb' hr₂ =>
      exact sub_unique G hs hA (mem_useContexts G hh hi (by simp [useContexts.go, usesNt])) hf hg hog hb hb' hr₁ hr₂
        (fun p₂ z₁ z₂ d => ihb p₂ z₁ z₂ f [] (mem_of_has G hf) rfl d)
        (fun e => ihr _ z₁ z₂ h (pre ++ [.opt f.origin]) hh (by simp [hi]) hr₂ e a1 a2) hy
    | optStop hr₂ =>
      simp only [Parts.yield, List.append_assoc] at hy
      exact (rep_contra G hs (repOK_of_opt (repsOK_suffix pre (hi ▸ hR h hh))) hf rfl hb.wf hr₂.wf a2 hy).elim
  | @star n f b is r₁ hf hof hb hr₁ ihb ihr =>
    subst hof
    cases h2 with
    | star hg hog hb' hr₂ =>
      exact sub_unique G hs hA (mem_useContexts G hh hi (by simp [useContexts.go])) hf hg hog hb hb' hr₁ hr₂
        (fun p₂ z₁ z₂ d => ihb p₂ z₁ z₂ f [] (mem_of_has G hf) rfl d)
        (fun e => ihr _ z₁ z₂ h pre hh hi hr₂ e a1 a2) hy
    | starStop hr₂ =>
      simp only [Parts.yield, List.append_assoc] at hy
      exact (rep_contra G hs (repOK_of_star (repsOK_suffix pre (hi ▸ hR h hh))) hf rfl hb.wf hr₂.wf a2 hy).elim
  | @starStop n is r₁ hr₁ ih =>
    cases h2 with
    | star hg hog hb' hr₂ =>
      simp only [Parts.yield, List.append_assoc] at hy
      exact (rep_contra G hs (repOK_of_star (repsOK_suffix pre (hi ▸ hR h hh))) hg hog hb'.wf hr₁.wf a1 hy.symm).elim
    | starStop hr₂ =>
      obtain ⟨rfl, e⟩ := ih _ z₁ z₂ h (pre ++ [.star n]) hh (by simp [hi]) hr₂ hy a1 a2
      exact ⟨rfl, e⟩
  | @optStop n is r₁ hr₁ ih =>
    cases h2 with
    | opt hg hog hb' hr₂ =>
      simp only [Parts.yield, List.append_assoc] at hy
      exact (rep_contra G hs (repOK_of_opt (repsOK_suffix pre (hi ▸ hR h hh))) hg hog hb'.wf hr₁.wf a1 hy.symm).elim
    | optStop hr₂ =>
      obtain ⟨rfl, e⟩ := ih _ z₁ z₂ h (pre ++ [.opt n]) hh (by simp [hi]) hr₂ hy a1 a2
      exact ⟨rfl, e⟩

theorem parseWFWith_spec {dj : List TokClass → List TokClass → Bool} (h : parseWFWith G dj = true) :
    (∀ f ∈ G.forms, ∀ g ∈ G.forms, f.origin = g.origin → f.id ≠ g.id →
      altsApart dj (firstOfItems (ntFirst G 12)) f.items g.items = true) ∧
    ∀ f ∈ G.forms, repsOK dj (firstOfItems (ntFirst G 12)) (ntFirst G 12) (useContexts G f.origin) f.items = true := by
  simp only [parseWFWith, Bool.and_eq_true, List.all_eq_true] at h
  refine ⟨fun f hf g hg ho hid => ?_, h.2⟩
  simpa [ho, hid] using h.1 f hf g hg

/-! ## Part 8: the model parser is sound and complete -/

theorem overlap_of_accepts {x y : TokClass} {w : Text} (hx : accepts G x w = true) (hy : accepts G y w = true) :
    overlap G x y = true := by
  cases x <;> cases y <;> simp only [accepts, beq_iff_eq] at hx hy
  · simp [overlap, hx, hy]
  · simp [overlap, hx, hy]
  · simp [overlap, hx, hy]
  · rename_i t t'
    simp only [overlap, Bool.or_eq_true, beq_iff_eq, Bool.not_eq_true']
    refine (Decidable.em (t = t')).imp_right fun _ => ?_
    -- a text accepted by both terminals witnesses that they are not apart
    unfold Table.matchTerm at hx hy
    unfold termsApart
    split at hx <;> split at hy <;> simp_all only [Bool.false_eq_true]
    · exact List.all_eq_false.mpr ⟨w, by simpa using hy, by simp [beq_iff_eq.mp hx]⟩
    · exact List.all_eq_false.mpr ⟨w, by simpa using hx, by simp [beq_iff_eq.mp hy]⟩
    · exact List.all_eq_false.mpr ⟨w, by simpa using hx, by simpa using hy⟩

theorem disjointTexts_false {a b : List TokClass} (h : disjointTexts G a b = true) {x y : TokClass} {w : Text}
    (ha : x ∈ a) (hb : y ∈ b) (hx : accepts G x w = true) (hy : accepts G y w = true) : False := by
  unfold disjointTexts at h
  have := List.all_eq_true.mp (List.all_eq_true.mp h x ha) y hb
  simp [overlap_of_accepts G hx hy] at this

theorem distinctTexts_inj {l : List Text} (h : distinctTexts l = true) {i j : Nat} {w : Text} (h1 : l[i]? = some w)
    (h2 : l[j]? = some w) : i = j := by
  induction l generalizing i j with
  | nil => simp at h1
  | cons k ks ih =>
    simp only [distinctTexts, Bool.and_eq_true, Bool.not_eq_true', List.contains_eq_mem, decide_eq_false_iff_not] at h
    cases i with
    | zero =>
      cases j with
      | zero => rfl
      | succ j =>
        simp only [List.getElem?_cons_zero, Option.some.injEq, List.getElem?_cons_succ] at h1 h2
        subst h1
        exact (h.1 (List.mem_of_getElem? h2)).elim
    | succ i =>
      cases j with
      | zero =>
        simp only [List.getElem?_cons_zero, Option.some.injEq, List.getElem?_cons_succ] at h1 h2
        subst h2
        exact (h.1 (List.mem_of_getElem? h1)).elim
      | succ j =>
        simp only [List.getElem?_cons_succ] at h1 h2
        rw [ih h.2 h1 h2]

theorem distinctTexts_of_buckets (c : Text → Nat) {l : List Text}
    (h : ((l.map c).eraseDups.all fun n => distinctTexts (l.filter (c · == n))) = true) : distinctTexts l = true := by
  induction l with
  | nil => rfl
  | cons x l ih =>
    simp only [List.all_eq_true, List.mem_eraseDups, List.mem_map] at h ih
    simp only [distinctTexts, Bool.and_eq_true, Bool.not_eq_true', List.contains_eq_mem, decide_eq_false_iff_not]
    constructor
    · intro hx
      have hb := h (c x) ⟨x, List.mem_cons_self, rfl⟩
      simp only [List.filter_cons, beq_self_eq_true, if_true, distinctTexts, Bool.and_eq_true, Bool.not_eq_true',
        List.contains_eq_mem, decide_eq_false_iff_not] at hb
      exact hb.1 (List.mem_filter.mpr ⟨hx, beq_self_eq_true _⟩)
    · refine ih fun n ⟨y, hy, hn⟩ => ?_
      have hb := h n ⟨y, List.mem_cons_of_mem _ hy, hn⟩
      rw [List.filter_cons] at hb
      split at hb
      · simp only [distinctTexts, Bool.and_eq_true] at hb
        exact hb.2
      · exact hb

theorem texts_cons (t : Tok) (ts : List Tok) : texts G (t :: ts) = G.tokText t :: texts G ts := rfl
theorem texts_nil : texts G [] = [] := rfl
theorem texts_append (a b : List Tok) : texts G (a ++ b) = texts G a ++ texts G b := by simp [texts]

/-- the token texts of a sentence are all `tokOK` -/
def ToksOK (ts : List Tok) : Prop := ∀ t ∈ ts, tokOK G t = true

theorem toksOK_append {a b : List Tok} : ToksOK G (a ++ b) ↔ ToksOK G a ∧ ToksOK G b := List.forall_mem_append

theorem toksOK_cons {t : Tok} {b : List Tok} : ToksOK G (t :: b) ↔ tokOK G t = true ∧ ToksOK G b := List.forall_mem_cons

theorem toksOK_nil : ToksOK G [] := nofun

theorem tokOK_accepts {t : Tok} (h : tokOK G t = true) : accepts G (cls t) (G.tokText t) = true := h

theorem tokOK_kw {k : Nat} (h : tokOK G (.kw k) = true) : G.keywords[k]? = some (G.tokText (.kw k)) := by
  simpa [tokOK, accepts, cls] using h

/-! ### the parser is sound -/

def PnOK (pn : Nat → List Text → PR (Form × Parts × List Text)) : Prop :=
  ∀ n toks f b r, pn n toks = .ok (f, b, r) → ToksOK G b.yield

theorem starParts_tokOK {ds : List (Form × Parts)} {tail : Parts} (hd : ∀ d ∈ ds, ToksOK G d.2.yield)
    (ht : ToksOK G tail.yield) : ToksOK G (starParts ds tail).yield := by
  rw [starParts_yield, toksOK_append]
  refine ⟨?_, ht⟩
  intro t htm
  simp only [List.mem_flatMap] at htm
  obtain ⟨d, hdm, htd⟩ := htm
  exact hd d hdm t htd

theorem parseStar_sound {pn} (hp : PnSound G pn) (hk : PnOK G pn) (n : Nat) (b : Nat) (toks : List Text) {ds r}
    (h : parseStar pn n b toks = .ok (ds, r)) :
    (∀ d ∈ ds, (G.has d.1 = true ∧ d.1.origin = n ∧ wfParts G d.1.items d.2 = true) ∧ ToksOK G d.2.yield) ∧
      toks = (ds.flatMap fun d => texts G d.2.yield) ++ r := by
  fun_induction parseStar pn n b toks generalizing ds r with
  | case1 | case5 | case6 => cases h; simp
  | case3 | case4 | case7 => cases h
  | case2 toks b f body rest hpn _ ds' r' hrec ih =>
    cases h
    obtain ⟨h1, h2, h3, h4⟩ := hp _ _ _ _ _ hpn
    obtain ⟨ih1, ih2⟩ := ih hrec
    refine ⟨List.forall_mem_cons.mpr ⟨⟨⟨h1, h2, h3⟩, hk _ _ _ _ _ hpn⟩, ih1⟩, ?_⟩
    rw [List.flatMap_cons, List.append_assoc, ← ih2]
    exact h4

theorem parseItems_sound {pn} (hp : PnSound G pn) (hk : PnOK G pn) (is : List Item) (toks : List Text) {p r}
    (h : parseItems G pn is toks = .ok (p, r)) :
    wfParts G is p = true ∧ ToksOK G p.yield ∧ toks = texts G p.yield ++ r := by
  fun_induction parseItems G pn is toks generalizing p r with
  | case1 => cases h; exact ⟨rfl, toksOK_nil G, rfl⟩
  | case2 | case4 | case5 | case7 | case9 | case10 | case12 | case13 | case16 => cases h  -- the parser fails
  | case3 k is t toks hk' ih =>  -- a keyword is matched
    obtain ⟨p', hp', rfl⟩ := mapParts_ok h
    obtain ⟨ih1, ih2, ih3⟩ := ih hp'
    have ht : G.keywords[k]? = some t := beq_iff_eq.mp hk'
    refine ⟨by simp [wfParts, ih1], (toksOK_cons G).mpr ⟨?_, ih2⟩, ?_⟩
    · simp [tokOK, accepts, cls, Table.tokText, ht]
    · simp [Parts.yield, texts_cons, Table.tokText, ht, ← ih3]
  | case6 t is x toks hm ih =>  -- a named token is matched
    obtain ⟨p', hp', rfl⟩ := mapParts_ok h
    obtain ⟨ih1, ih2, ih3⟩ := ih hp'
    refine ⟨by simp [wfParts, ih1], (toksOK_cons G).mpr ⟨?_, ih2⟩, ?_⟩
    · simpa [tokOK, accepts, cls, Table.tokText] using hm
    · simp [Parts.yield, texts_cons, Table.tokText, ← ih3]
  | case8 n is toks f b r' hpn ih | case14 n is toks f b r' hpn ih =>  -- `nt n`, `opt n` taken
    obtain ⟨h1, h2, h3, h4⟩ := hp _ _ _ _ _ hpn
    obtain ⟨p', hp', rfl⟩ := mapParts_ok h
    obtain ⟨ih1, ih2, ih3⟩ := ih hp'
    refine ⟨by simp [wfParts, h1, h2, h3, ih1], (toksOK_append G).mpr ⟨hk _ _ _ _ _ hpn, ih2⟩, ?_⟩
    rw [h4, ih3, Parts.yield, texts_append, List.append_assoc]
  | case11 n is toks ds r' hs ih =>  -- `star n`
    obtain ⟨s1, s2⟩ := parseStar_sound G hp hk n _ toks hs
    obtain ⟨p', hp', rfl⟩ := mapParts_ok h
    obtain ⟨ih1, ih2, ih3⟩ := ih hp'
    refine ⟨starParts_wf G (fun d hd => (s1 d hd).1) ih1, starParts_tokOK G (fun d hd => (s1 d hd).2) ih2, ?_⟩
    rw [s2, ih3, starParts_yield]
    simp [texts, List.map_flatMap]
  | case15 n is toks _ ih =>  -- `opt n` skipped
    obtain ⟨p', hp', rfl⟩ := mapParts_ok h
    obtain ⟨ih1, ih2, ih3⟩ := ih hp'
    exact ⟨by simp [wfParts, ih1], ih2, ih3⟩
theorem parseNt_sound (hi : IdsOK G = true) (fuel : Nat) : PnSound G (parseNt G fuel) ∧ PnOK G (parseNt G fuel) := by
  induction fuel with
  | zero => constructor <;> (intro n toks f b r h; simp [parseNt] at h)
  | succ fuel ih =>
    have key : ∀ n toks f b r, parseNt G (fuel + 1) n toks = .ok (f, b, r) →
        (G.has f = true ∧ f.origin = n ∧ wfParts G f.items b = true ∧ toks = texts G b.yield ++ r) ∧ ToksOK G b.yield := by
      intro n toks f b r h
      simp only [parseNt] at h
      obtain ⟨g, hg, hpg⟩ := firstForm_ok h
      split at hpg
      · rename_i ho
        split at hpg
        · rename_i p r' hpi
          simp only [PR.ok.injEq, Prod.mk.injEq] at hpg
          obtain ⟨rfl, rfl, rfl⟩ := hpg
          obtain ⟨h1, h2, h3⟩ := parseItems_sound G ih.1 ih.2 _ _ hpi
          exact ⟨⟨idsOK_has G hi hg, by simpa using ho, h1, h3⟩, h2⟩
        · cases hpg
        · cases hpg
      · cases hpg
    exact ⟨fun n toks f b r h => (key n toks f b r h).1, fun n toks f b r h => (key n toks f b r h).2⟩

theorem parseToks_tokOK (hi : IdsOK G = true) {toks : List Text} {d : Deriv} (h : parseToks G toks = .ok d) :
    ToksOK G d.yield := by
  unfold parseToks at h
  split at h
  · rename_i f p hp
    cases h
    exact (parseNt_sound G hi _).2 _ _ _ _ _ hp
  all_goals cases h

/-! ### in a non-recursive grammar the parser never runs out of fuel -/

def NoFuelAt (pn : Nat → List Text → PR (Form × Parts × List Text)) (n : Nat) : Prop := ∀ toks, pn n toks ≠ .fuel

theorem parseStar_noFuel {pn} {n : Nat} (hn : NoFuelAt pn n) (b : Nat) (toks : List Text) :
    parseStar pn n b toks ≠ .fuel := by
  fun_induction parseStar pn n b toks with
  | case1 | case2 | case3 | case5 | case6 => nofun
  | case4 _ _ _ _ _ _ _ hrec ih => exact (ih hrec).elim
  | case7 _ toks hpn => exact (hn toks hpn).elim

theorem mapParts_noFuel {f : Parts → Parts} {x : PR (Parts × List Text)} (h : x ≠ .fuel) : x.mapParts f ≠ .fuel := by
  cases x with
  | ok a => obtain ⟨p, r⟩ := a; simp [PR.mapParts]
  | fail => simp [PR.mapParts]
  | fuel => exact (h rfl).elim

theorem parseItems_noFuel {pn} (is : List Item) (hn : ∀ i ∈ is, ∀ m, itemNt i = some m → NoFuelAt pn m)
    (toks : List Text) : parseItems G pn is toks ≠ .fuel := by
  fun_induction parseItems G pn is toks with
  | case1 | case2 | case4 | case5 | case7 | case9 | case12 => nofun
  | case3 _ _ _ _ _ ih | case6 _ _ _ _ _ ih | case8 _ _ _ _ _ _ _ ih | case11 _ _ _ _ _ _ ih | case14 _ _ _ _ _ _ _ ih
  | case15 _ _ _ _ ih =>
    exact mapParts_noFuel (ih fun j hj => hn j (List.mem_cons_of_mem _ hj))
  | case10 n _ toks hpn | case16 n _ toks hpn => exact (hn _ List.mem_cons_self n rfl toks hpn).elim
  | case13 n _ toks hps => exact (parseStar_noFuel (hn _ List.mem_cons_self n rfl) _ toks hps).elim

theorem firstForm_noFuel {α} {p : Form → PR α} {fs : List Form} (h : ∀ f ∈ fs, p f ≠ .fuel) :
    firstForm p fs ≠ .fuel := by
  induction fs with
  | nil => simp [firstForm]
  | cons f fs ih =>
    simp only [firstForm]
    split
    · simp
    · rename_i hp; exact (h f (by simp) hp).elim
    · exact ih (fun g hg => h g (List.mem_cons_of_mem _ hg))

theorem depthOK_items {k n : Nat} (h : depthOK G (k + 1) n = true) {f : Form} (hf : f ∈ G.forms) (ho : f.origin = n) :
    ∀ i ∈ f.items, ∀ m, itemNt i = some m → depthOK G k m = true := by
  intro i hi m hm
  simp only [depthOK, List.all_eq_true, Bool.or_eq_true, bne_iff_ne, ne_eq] at h
  rcases h f hf with h | h
  · exact (h ho).elim
  · have := h i hi
    simpa [hm] using this

theorem parseNt_noFuel (k : Nat) : ∀ n, depthOK G k n = true → NoFuelAt (parseNt G k) n := by
  induction k with
  | zero => intro n h; simp [depthOK] at h
  | succ k ih =>
    intro n h toks
    simp only [parseNt]
    apply firstForm_noFuel
    intro f hf
    split
    · rename_i ho
      have := parseItems_noFuel G (pn := parseNt G k) f.items
        (fun i hi m hm => ih m (depthOK_items G h hf (by simpa using ho) i hi m hm)) toks
      split <;> simp_all
    · simp

/-! ### the budget of `parseStar` does not matter once it covers the input -/

theorem parseStar_budget {pn} {n : Nat} (hn : NoFuelAt pn n) (b : Nat) : ∀ toks : List Text, toks.length ≤ b →
    parseStar pn n b toks = parseStar pn n toks.length toks := by
  -- strong induction: the two sides recurse on the rest with different budgets, `b` and `toks.length - 1`
  induction b using Nat.strongRecOn with
  | _ b ih =>
    intro toks hl
    cases b with
    | zero => rw [List.eq_nil_of_length_eq_zero (Nat.le_zero.mp hl)]; rfl
    | succ b =>
      cases hm : toks.length with
      | zero =>
        rw [List.eq_nil_of_length_eq_zero hm]
        simp only [parseStar, List.length_nil, Nat.not_lt_zero, if_false]
        split
        · rfl
        · rfl
        · rename_i hpn; exact (hn _ hpn).elim
      | succ m =>
        simp only [parseStar]
        split
        · rename_i f body rest hpn
          split
          · rw [ih b (Nat.lt_succ_self b) rest (by omega), ih m (by omega) rest (by omega)]
          · rfl
        · rfl
        · rfl

theorem separates_texts : Separates G.tokText (tokOK G · = true) (disjointTexts G) :=
  fun hd ht ht' ok ok' e => disjointTexts_false G hd ht ht' (tokOK_accepts G ok) (e ▸ tokOK_accepts G ok')

/-- `z` (token texts) may follow a sentence of nonterminal `m` -/
def AdmT (m : Nat) (z : List Text) : Prop :=
  z = [] ∨ ∃ c ∈ useContexts G m, ∃ q z', wfParts G c q = true ∧ ToksOK G q.yield ∧ z = texts G q.yield ++ z'

theorem parseStar_step {pn} {n : Nat} (hn : NoFuelAt pn n) {toks R : List Text} {f : Form} {b : Parts}
    (hpn : pn n toks = .ok (f, b, R)) (hlt : R.length < toks.length) :
    parseStar pn n toks.length toks =
      match parseStar pn n R.length R with
      | .ok (ds, r) => .ok ((f, b) :: ds, r)
      | .fail => .fail
      | .fuel => .fuel := by
  cases hl : toks.length with
  | zero => omega
  | succ bud =>
    simp only [parseStar, hpn]
    rw [if_pos hlt, parseStar_budget hn bud R (by omega)]
    cases parseStar pn n R.length R with
    | ok a => obtain ⟨ds, r⟩ := a; rfl
    | fail => rfl
    | fuel => rfl

theorem parseStar_stop {pn} {n : Nat} {toks : List Text} (hpn : pn n toks = .fail) (bud : Nat) :
    parseStar pn n bud toks = .ok ([], toks) := by
  cases bud with
  | zero => rfl
  | succ bud => simp [parseStar, hpn]

theorem parseItems_star_step {pn} {n : Nat} (hn : NoFuelAt pn n) {is : List Item} {toks R z : List Text} {f : Form}
    {b r : Parts} (hpn : pn n toks = .ok (f, b, R)) (hlt : R.length < toks.length)
    (h : parseItems G pn (.star n :: is) R = .ok (r, z)) :
    parseItems G pn (.star n :: is) toks = .ok (.sub f b r, z) := by
  simp only [parseItems] at h ⊢
  rw [parseStar_step hn hpn hlt]
  split at h
  · rename_i ds r' hs
    obtain ⟨p', hp', rfl⟩ := mapParts_ok h
    simp [hs, hp', PR.mapParts, starParts]
  · cases h
  · cases h

theorem parseItems_star_stop {pn} {n : Nat} {is : List Item} {toks : List Text} (hpn : pn n toks = .fail) :
    parseItems G pn (.star n :: is) toks = (parseItems G pn is toks).mapParts Parts.stop := by
  simp only [parseItems, parseStar_stop hpn]
  rfl

theorem repOK_nonempty {dj ofNt ctx} (hs : FirstSound G ofNt) {n : Nat} {rest : List Item}
    (hrep : repsOK.repOK dj (firstOfItems ofNt) ofNt ctx n rest = true)
    {f : Form} {b : Parts} (hh : G.has f = true) (ho : f.origin = n) (hb : wfParts G f.items b = true) :
    ∃ t ys, b.yield = t :: ys := by
  unfold repsOK.repOK at hrep
  split at hrep
  · rename_i a en bs eb hn hrest
    simp only [Bool.and_eq_true, Bool.not_eq_true'] at hrep
    obtain ⟨⟨rfl, _⟩, _⟩ := hrep
    obtain ⟨t, ys, e1, _⟩ := headIn_false (hs n a false hn f b hh ho hb)
    exact ⟨t, ys, e1⟩
  · cases hrep

/-- `pn` parses every sentence of nonterminal `m`, in every admissible context, to the derivation it came from -/
def PnCompleteAt (pn : Nat → List Text → PR (Form × Parts × List Text)) (m : Nat) : Prop :=
  ∀ f b, G.has f = true → f.origin = m → wfParts G f.items b = true → ToksOK G b.yield →
    ∀ z, AdmT G m z → pn m (texts G b.yield ++ z) = .ok (f, b, z)

/-- when a repetition / option stops, the nonterminal parser fails on what follows -/
theorem pn_fails_at_stop {ofNt} (hs : FirstSound G ofNt) {pn} (hsound : PnSound G pn) (hok : PnOK G pn)
    {m n : Nat} {rest : List Item}
    (hrep : repsOK.repOK (disjointTexts G) (firstOfItems ofNt) ofNt (useContexts G m) n rest = true)
    (hnf : NoFuelAt pn n) {r : Parts} (hr : wfParts G rest r = true) (okr : ToksOK G r.yield) {z : List Text}
    (hz : AdmT G m z) : pn n (texts G r.yield ++ z) = .fail := by
  cases hpn : pn n (texts G r.yield ++ z) with
  | fail => rfl
  | fuel => exact (hnf _ hpn).elim
  | ok a =>
    obtain ⟨f', b', r'⟩ := a
    obtain ⟨h1, h2, h3, h4⟩ := hsound _ _ _ _ _ hpn
    exact (rep_clash G (separates_texts G) hs hrep h1 h2 h3 (hok _ _ _ _ _ hpn) hr okr hz h4.symm).elim

theorem parseItems_complete {ofNt} (hs : FirstSound G ofNt) {pn} (hsound : PnSound G pn) (hok : PnOK G pn)
    {h : Form} (hh : h ∈ G.forms)
    (hR : repsOK (disjointTexts G) (firstOfItems ofNt) ofNt (useContexts G h.origin) h.items = true)
    (p : Parts) : ∀ (is pre : List Item), h.items = pre ++ is →
      (∀ i ∈ is, ∀ m, itemNt i = some m → PnCompleteAt G pn m ∧ NoFuelAt pn m) →
      wfParts G is p = true → ToksOK G p.yield → ∀ z, AdmT G h.origin z →
      parseItems G pn is (texts G p.yield ++ z) = .ok (p, z) := by
  intro is pre hi hgood hw
  replace hw := derives_of_wf hw
  intro okp z hz
  have tail : ∀ {i : Item} {is : List Item}, (∀ j ∈ i :: is, ∀ m, itemNt j = some m → PnCompleteAt G pn m ∧ NoFuelAt pn m) →
      ∀ j ∈ is, ∀ m, itemNt j = some m → PnCompleteAt G pn m ∧ NoFuelAt pn m :=
    fun hg j hj => hg j (List.mem_cons_of_mem _ hj)
  induction hw generalizing pre with
  | done => simp [parseItems, Parts.yield, texts]
  | @kw k is r _ ih =>
    simp only [Parts.yield, toksOK_cons] at okp
    have hrec := ih (pre ++ [.kw k]) (by simp [hi]) (tail hgood) okp.2
    simp only [Parts.yield, texts_cons, List.cons_append, parseItems, tokOK_kw G okp.1, beq_self_eq_true, if_true, hrec]
    rfl
  | @tok t s is r _ ih =>
    simp only [Parts.yield, toksOK_cons] at okp
    have hrec := ih (pre ++ [.tok t]) (by simp [hi]) (tail hgood) okp.2
    have hm : G.matchTerm t s = true := by simpa [tokOK, accepts, cls, Table.tokText] using okp.1
    simp only [Parts.yield, texts_cons, List.cons_append, parseItems, Table.tokText, hm, if_true, hrec]
    rfl
  | @nt n f b is r hf hof hb hr _ ihr =>
    simp only [Parts.yield, toksOK_append, texts_append, List.append_assoc] at okp ⊢
    have hctx : is ∈ useContexts G n := mem_useContexts G hh hi (by simp [useContexts.go, usesNt])
    have hpn := (hgood (.nt n) (by simp) n rfl).1 f b hf hof hb.wf okp.1 (texts G r.yield ++ z)
      (Or.inr ⟨is, hctx, r, z, hr.wf, okp.2, rfl⟩)
    have hrec := ihr (pre ++ [.nt n]) (by simp [hi]) (tail hgood) okp.2
    simp only [parseItems, hpn, hrec]
    rfl
  | @opt n f b is r hf hof hb hr _ ihr =>
    simp only [Parts.yield, toksOK_append, texts_append, List.append_assoc] at okp ⊢
    have hctx : is ∈ useContexts G n := mem_useContexts G hh hi (by simp [useContexts.go, usesNt])
    have hpn := (hgood (.opt n) (by simp) n rfl).1 f b hf hof hb.wf okp.1 (texts G r.yield ++ z)
      (Or.inr ⟨is, hctx, r, z, hr.wf, okp.2, rfl⟩)
    have hrec := ihr (pre ++ [.opt n]) (by simp [hi]) (tail hgood) okp.2
    simp only [parseItems, hpn, hrec]
    rfl
  | @star n f b is r hf hof hb hr _ ihr =>
    simp only [Parts.yield, toksOK_append, texts_append, List.append_assoc] at okp ⊢
    obtain ⟨hc, hnf⟩ := hgood (.star n) (by simp) n rfl
    have hctx : (.star n :: is) ∈ useContexts G n := mem_useContexts G hh hi (by simp [useContexts.go])
    have hpn := hc f b hf hof hb.wf okp.1 (texts G r.yield ++ z) (Or.inr ⟨_, hctx, r, z, hr.wf, okp.2, rfl⟩)
    obtain ⟨t, ys, hy⟩ := repOK_nonempty G hs (repOK_of_star (repsOK_suffix pre (hi ▸ hR))) hf hof hb.wf
    exact parseItems_star_step G hnf hpn (by simp [hy, texts]; omega) (ihr pre hi hgood okp.2)
  | @starStop n is r hr ih =>
    have hnf := (hgood (.star n) (by simp) n rfl).2
    have hfail := pn_fails_at_stop G hs hsound hok (repOK_of_star (repsOK_suffix pre (hi ▸ hR))) hnf hr.wf okp hz
    rw [Parts.yield, parseItems_star_stop G hfail, ih (pre ++ [.star n]) (by simp [hi]) (tail hgood) okp]
    rfl
  | @optStop n is r hr ih =>
    have hnf := (hgood (.opt n) (by simp) n rfl).2
    have hfail := pn_fails_at_stop G hs hsound hok (repOK_of_opt (repsOK_suffix pre (hi ▸ hR))) hnf hr.wf okp hz
    simp only [Parts.yield, parseItems, hfail, ih (pre ++ [.opt n]) (by simp [hi]) (tail hgood) okp]
    rfl

theorem firstForm_select {α} {p : Form → PR α} {fs : List Form} {f : Form} {a : α} (hf : f ∈ fs) (hp : p f = .ok a)
    (hothers : ∀ g ∈ fs, g ≠ f → p g = .fail) : firstForm p fs = .ok a := by
  induction fs with
  | nil => cases hf
  | cons g fs ih =>
    by_cases hgf : g = f
    · subst hgf
      simp [firstForm, hp]
    · have hg := hothers g (by simp) hgf
      simp only [firstForm, hg]
      have hf' : f ∈ fs := by
        simp only [List.mem_cons] at hf
        rcases hf with rfl | hf
        · exact (hgf rfl).elim
        · exact hf
      exact ih hf' (fun g' hg' => hothers g' (List.mem_cons_of_mem _ hg'))

theorem parseNt_complete (hp : ParseWFT G = true) (hi : IdsOK G = true) (k : Nat) :
    ∀ n, depthOK G k n = true → PnCompleteAt G (parseNt G k) n := by
  rw [ParseWFT, Bool.and_eq_true] at hp
  obtain ⟨hA, hR⟩ := parseWFWith_spec G hp.2
  induction k with
  | zero => intro n h; simp [depthOK] at h
  | succ k ih =>
    intro n hd f b hf ho hb okb z hz
    subst ho
    have hs := ntFirst_sound G 12
    have hfm := mem_of_has G hf
    simp only [parseNt]
    -- the form of the derivation parses to it; any other form of the rule does not run out of fuel, and a success
    -- would be a second derivation starting with the same texts, which `altsApart` excludes
    apply firstForm_select hfm
    · have := parseItems_complete G hs (parseNt_sound G hi k).1 (parseNt_sound G hi k).2 hfm (hR f hfm) b
        f.items [] (by simp)
        (fun i hi' m hm =>
          have hdm := depthOK_items G hd hfm rfl i hi' m hm
          ⟨ih m hdm, parseNt_noFuel G k m hdm⟩)
        hb okb z hz
      simp [this]
    · intro g hg hgf
      split
      · rename_i hog
        have hog' : g.origin = f.origin := by simpa using hog
        cases hpi : parseItems G (parseNt G k) g.items (texts G b.yield ++ z) with
        | fail => rfl
        | fuel =>
          exact (parseItems_noFuel G (pn := parseNt G k) g.items
            (fun i hi' m hm => parseNt_noFuel G k m (depthOK_items G hd hg hog' i hi' m hm)) _ hpi).elim
        | ok a =>
          obtain ⟨p', r'⟩ := a
          obtain ⟨w1, ok', w2⟩ := parseItems_sound G (parseNt_sound G hi k).1 (parseNt_sound G hi k).2 _ _ hpi
          have hid : g.id ≠ f.id := fun e => hgf (has_inj G (idsOK_has G hi hg) hf e)
          exact (altsApart_clash G (separates_texts G)
            (fun ok ok' e => distinctTexts_inj hp.1 (tokOK_kw G ok) (e ▸ tokOK_kw G ok')) hs (hA g hg f hfm hog' hid) w1 hb
            ok' okb w2.symm).elim
      · rfl

theorem parseText_ok {src : Text} {d : Deriv} (h : parseText G src = .ok d) :
    ∃ toks, lexProfile G.words src = some toks ∧ parseToks G toks = .ok d := by
  unfold parseText at h
  split at h
  · cases h
  · exact ⟨_, ‹_›, h⟩

theorem disjointToks_of_texts {a b : List TokClass} (h : disjointTexts G a b = true) : disjointToks a b = true := by
  simp only [disjointTexts, disjointToks, List.all_eq_true, Bool.not_eq_eq_eq_not, Bool.not_true, List.contains_eq_mem,
    decide_eq_false_iff_not] at h ⊢
  intro x hx hxb
  have := h x hx x hxb
  cases x <;> simp [overlap] at this

section mono
variable {dj dj' : List TokClass → List TokClass → Bool} (hdj : ∀ a b, dj a b = true → dj' a b = true)
include hdj

theorem altsApart_mono {first x y} (h : altsApart dj first x y = true) : altsApart dj' first x y = true := by
  fun_induction altsApart dj' first x y with
  | case1 a x b y ih =>
    simp only [altsApart, Bool.or_eq_true] at h ⊢
    exact h.imp id ih
  | case2 x y hneg A ea B eb hy hx =>
    rw [altsApart.eq_2 _ _ _ _ hneg, hx, hy] at h
    simp only [Bool.and_eq_true] at h ⊢
    exact ⟨h.1, hdj _ _ h.2⟩
  | case3 x y hneg hno =>
    rw [altsApart.eq_2 _ _ _ _ hneg] at h
    split at h
    · exact (hno _ _ _ _ ‹_› ‹_›).elim
    · exact h

theorem repOK_mono {first ofNt ctx n rest} (h : repsOK.repOK dj first ofNt ctx n rest = true) :
    repsOK.repOK dj' first ofNt ctx n rest = true := by
  unfold repsOK.repOK at h ⊢
  split
  · rename_i a en b eb h1 h2
    simp only [h1, h2, Bool.and_eq_true, Bool.or_eq_true, List.all_eq_true] at h ⊢
    refine ⟨⟨h.1.1, hdj _ _ h.1.2⟩, h.2.imp id fun hc c hm => ?_⟩
    have := hc c hm
    split at this
    · simp only [Bool.and_eq_true] at this ⊢
      exact ⟨this.1, hdj _ _ this.2⟩
    · exact this
  · rename_i hno
    split at h
    · exact (hno _ _ _ _ ‹_› ‹_›).elim
    · exact h

theorem repsOK_mono {first ofNt ctx is} (h : repsOK dj first ofNt ctx is = true) :
    repsOK dj' first ofNt ctx is = true := by
  induction is with
  | nil => rfl
  | cons i is ih =>
    cases i <;> simp only [repsOK, Bool.and_eq_true] at h ⊢
    · exact ih h
    · exact ih h
    · exact ih h
    · exact ⟨repOK_mono hdj h.1, ih h.2⟩
    · exact ⟨repOK_mono hdj h.1, ih h.2⟩

theorem parseWFWith_mono (h : parseWFWith G dj = true) : parseWFWith G dj' = true := by
  simp only [parseWFWith, Bool.and_eq_true, List.all_eq_true, Bool.or_eq_true] at h ⊢
  exact ⟨fun f hf g hg => (h.1 f hf g hg).imp id (altsApart_mono hdj), fun f hf => repsOK_mono hdj (h.2 f hf)⟩

end mono

/-- the hypothesis of `parse_complete` implies that of `unique_readability` -/
theorem parseWF_of_parseWFT (h : ParseWFT G = true) : ParseWF G = true := by
  rw [ParseWFT, Bool.and_eq_true] at h
  exact parseWFWith_mono G (fun _ _ => disjointToks_of_texts G) h.2

theorem parseWFWith_of_buckets {dj : List TokClass → List TokClass → Bool}
    (ha : allInBuckets (·.origin) (fun f g => f.origin != g.origin || f.id == g.id ||
      altsApart dj (firstOfItems (ntFirst G 12)) f.items g.items) G.forms = true)
    (hr : (G.forms.all fun f =>
      repsOK dj (firstOfItems (ntFirst G 12)) (ntFirst G 12) (useContexts G f.origin) f.items) = true) :
    parseWFWith G dj = true := by
  rw [parseWFWith, Bool.and_eq_true]
  exact ⟨all_pairs_of_buckets ha fun f g hne => by simp [hne], hr⟩

/-! ## Part 9: a weaker lookahead check that ambiguous tables pass -/

/-- `useContexts` without its starred case: the context of `m*` does not include a further `m` -/
def useContexts0 (G : Table) (m : Nat) : List (List Item) :=
  G.forms.flatMap fun h => go h.items
where
  go : List Item → List (List Item)
    | [] => []
    | i :: rest => (if usesNt m i then [rest] else []) ++ go rest

/-- `repsOK` with a nullable rule allowed under `?` -/
def repsOK0 (first : List Item → Option (List TokClass × Bool))
    (ofNt : Nat → Option (List TokClass × Bool)) (ctx : List (List Item)) : List Item → Bool
  | [] => true
  | .star n :: rest => repOK n true rest && repsOK0 first ofNt ctx rest
  | .opt n :: rest => repOK n false rest && repsOK0 first ofNt ctx rest
  | _ :: rest => repsOK0 first ofNt ctx rest
where
  repOK (n : Nat) (isStar : Bool) (rest : List Item) : Bool :=
    match ofNt n, first rest with
    | some (a, en), some (b, eb) =>
      !(isStar && en) && disjointToks a b &&
        (!eb || ctx.all fun c =>
          match first c with
          | some (cf, ce) => !ce && disjointToks a cf
          | none => false)
    | _, _ => false

/-- `ParseWF` weakened: no context for the start symbol, `useContexts0`, `repsOK0` -/
def ParseWF0 (G : Table) : Bool :=
  let ofNt := ntFirst G 12
  let first := firstOfItems ofNt
  (G.forms.all fun f => G.forms.all fun g =>
    f.origin != g.origin || f.id == g.id || altsApart disjointToks first f.items g.items) &&
  (G.forms.all fun f => repsOK0 first ofNt (if f.origin == G.start then [] else useContexts0 G f.origin) f.items)

/-- `S → A*`, `A → "a" | "(" S A* ")"`: the start symbol is used again inside `A`, where an `A` can follow it -/
def cex1 : Table :=
  ⟨[⟨0, 0, none, [.star 1]⟩, ⟨1, 1, none, [.kw 0]⟩, ⟨2, 1, none, [.kw 1, .nt 0, .star 1, .kw 2]⟩],
   [[97], [40], [41]], [], 0, []⟩

/-- `( a )` read as `( S[a] )` -/
def cex1_d1 : Deriv := ⟨⟨0, 0, none, [.star 1]⟩,
  .sub ⟨2, 1, none, [.kw 1, .nt 0, .star 1, .kw 2]⟩
    (.kw 1 (.sub ⟨0, 0, none, [.star 1]⟩ (.sub ⟨1, 1, none, [.kw 0]⟩ (.kw 0 .done) (.stop .done)) (.stop (.kw 2 .done))))
    (.stop .done)⟩

/-- `( a )` read as `( S[] a )` -/
def cex1_d2 : Deriv := ⟨⟨0, 0, none, [.star 1]⟩,
  .sub ⟨2, 1, none, [.kw 1, .nt 0, .star 1, .kw 2]⟩
    (.kw 1 (.sub ⟨0, 0, none, [.star 1]⟩ (.stop .done) (.sub ⟨1, 1, none, [.kw 0]⟩ (.kw 0 .done) (.stop (.kw 2 .done)))))
    (.stop .done)⟩

/-- `S → B? ";"`, `B → C*`, `C → "c"`: an optional part that can be empty -/
def cex2 : Table :=
  ⟨[⟨0, 0, none, [.opt 1, .kw 1]⟩, ⟨1, 1, none, [.star 2]⟩, ⟨2, 2, none, [.kw 0]⟩], [[99], [59]], [], 0, []⟩

/-- `;` read as `B[] ;` -/
def cex2_d1 : Deriv := ⟨⟨0, 0, none, [.opt 1, .kw 1]⟩, .sub ⟨1, 1, none, [.star 2]⟩ (.stop .done) (.kw 1 .done)⟩

/-- `;` read without a `B` -/
def cex2_d2 : Deriv := ⟨⟨0, 0, none, [.opt 1, .kw 1]⟩, .stop (.kw 1 .done)⟩

/-- `S → M* ";"`, `M → "m" N*`, `N → "m"`: a repeated rule that ends with a repetition -/
def cex3 : Table :=
  ⟨[⟨0, 0, none, [.star 1, .kw 1]⟩, ⟨1, 1, none, [.kw 0, .star 2]⟩, ⟨2, 2, none, [.kw 0]⟩], [[109], [59]], [], 0, []⟩

/-- `m m ;` read as `M[m N[m]] ;` -/
def cex3_d1 : Deriv := ⟨⟨0, 0, none, [.star 1, .kw 1]⟩,
  .sub ⟨1, 1, none, [.kw 0, .star 2]⟩ (.kw 0 (.sub ⟨2, 2, none, [.kw 0]⟩ (.kw 0 .done) (.stop .done))) (.stop (.kw 1 .done))⟩

/-- `m m ;` read as `M[m] M[m] ;` -/
def cex3_d2 : Deriv := ⟨⟨0, 0, none, [.star 1, .kw 1]⟩,
  .sub ⟨1, 1, none, [.kw 0, .star 2]⟩ (.kw 0 (.stop .done))
    (.sub ⟨1, 1, none, [.kw 0, .star 2]⟩ (.kw 0 (.stop .done)) (.stop (.kw 1 .done)))⟩

/-- what makes a pair of derivations a counterexample to unique readability of table `G` -/
def Ambiguous (G : Table) (d₁ d₂ : Deriv) : Prop :=
  IdsOK G = true ∧ d₁.WF G = true ∧ d₂.WF G = true ∧ d₁.form.origin = G.start ∧ d₂.form.origin = G.start ∧
    d₁.yield = d₂.yield ∧ toTree d₁ ≠ toTree d₂

instance (G : Table) (d₁ d₂ : Deriv) : Decidable (Ambiguous G d₁ d₂) := by unfold Ambiguous; infer_instance

end C10

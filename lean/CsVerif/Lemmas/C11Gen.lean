import CsVerif.Model.C11Gen
import CsVerif.Lemmas.C10Gen
import CsVerif.Lemmas.C12Gen
import CsVerif.Props.C11
import CsVerif.Lemmas.PyULib
/-! Helper lemmas for Props/C11Gen.lean: the run-time operations (`PyU`, `PyU_T11`) on the encodings of the model's items, lists
and dictionaries, and the walk of `Gen/PyC2Dict.lean` (from `C2Profile.as_dict`) against `C11.step` / `C11.run` / `C11.asDict`. -/
namespace C11Gen
open PyU
-- one `simp only` list often serves all cases of a split, so not every name is used in every case

abbrev TOK : Cls := Gen.PyC2Prof.Token

/-- the type function never answers `"STRING"` -/
def TyOK (ty : C10.Text → C10.Text) : Prop := ∀ s, ty s ≠ C11.stringName

theorem strName_eq : strName = .str C11.stringName := by decide +kernel

theorem view_str (s : C10.Text) : t11View TOK (.str s) = .str s := rfl

theorem view_enc (ty : C10.Text → C10.Text) (i : C11.Item') : t11View TOK (encItem ty i) = .str i.text := by
  cases i with
  | plain s => rfl
  | token b s => cases b <;> rfl

theorem eq_enc_str (ty : C10.Text → C10.Text) (i : C11.Item') (l : C10.Text) :
    t11Eq TOK (encItem ty i) (.str l) = (i.text == l) := by
  cases i with
  | plain s => simp [t11Eq, encItem, t11View, PyU.eq, C11.Item'.text]
  | token b s => cases b <;> simp [t11Eq, encItem, t11View, PyU.eq, C11.Item'.text, tokenV, C12Gen.tokenV, Gen.PyC2Prof.Token]

theorem contains_flush_enc (ty : C10.Text → C10.Text) (i : C11.Item') :
    t11Contains TOK (PyU.lit "{};") (encItem ty i) = .ok (C10.isFlush i.text) := by
  have : PyU.lit "{};" = .str [123, 125, 59] := by decide +kernel
  rw [this]
  simp only [t11Contains, view_str, view_enc, C10Gen.contains_substr, C10.isFlush]

theorem isInstance_enc (ty : C10.Text → C10.Text) (i : C11.Item') :
    PyU.isInstance (encItem ty i) [Ty.cls TOK] = i.isToken := by
  cases i with
  | plain s => rfl
  | token b s => cases b <;> rfl


abbrev encL (ty : C10.Text → C10.Text) (l : List C11.Item') : List V := l.map (encItem ty)

theorem pop_enc (ty : C10.Text → C10.Text) (l : List C11.Item') :
    t11Pop (.list (encL ty l)) = (C11.pop l).map fun p => (encItem ty p.1, V.list (encL ty p.2)) := by
  simp only [t11Pop, C11.pop, encL, List.getLast?_map]
  cases l.getLast? <;> simp [Except.map, List.dropLast_eq_take, List.map_take]

theorem getItem_last (ty : C10.Text → C10.Text) (l : List C11.Item') :
    PyU.getItem (.list (encL ty l)) (.int (-1)) = (match l.getLast? with
      | none => .error .indexError
      | some x => .ok (encItem ty x)) := by
  simp only [PyU.getItem, PyU.asInt, PyRt.normIdx, encL, List.length_map]
  by_cases hl : l = []
  · subst hl; simp [Except.map]
  · have hpos : 0 < l.length := List.length_pos_iff.mpr hl
    have h1 : ((-1 : Int) < 0) := by decide
    have h3 : ((-1 : Int) + (l.length : Int)).toNat = l.length - 1 := by omega
    have h4 : l.length - 1 < l.length := by omega
    have h5 : (0 ≤ (-1 : Int) + (l.length : Int) ∧ (-1 : Int) + (l.length : Int) < (l.length : Int)) := by omega
    simp only [h5, h1, h3, ↓reduceIte, Except.map, List.getLast?_eq_getElem?, List.getD_eq_getElem?_getD, List.getElem?_map,
      List.getElem?_eq_getElem h4, Option.map_some, Option.getD_some, and_self]

theorem extend_enc (a b : List V) : t11Extend TOK (.list a) (.list b) = .ok (.list (a ++ b)) := rfl

theorem add_lists (a b : List V) : PyU.add (.list a) (.list b) = .ok (.list (a ++ b)) := rfl

theorem append_enc (ty : C10.Text → C10.Text) (l : List C11.Item') (i : C11.Item') :
    PyU.append (.list (encL ty l)) (encItem ty i) = .ok (.list (encL ty (l ++ [i]))) := by
  simp [PyU.append, encL]


/-! ### `".".join(…)` -/
theorem joinStrs_dot : ∀ (l : List C10.Text), PyU.joinStrs [46] (l.map V.str) = .ok (C11.joinDot l)
  | [] => rfl
  | [x] => rfl
  | x :: y :: r => by
    have ih := joinStrs_dot (y :: r)
    simp only [List.map_cons] at ih ⊢
    simp only [PyU.joinStrs, ih, Except.map, C11.joinDot, List.append_assoc, List.singleton_append]

theorem map_view_enc (ty : C10.Text → C10.Text) (l : List C11.Item') :
    (encL ty l).map (t11View TOK) = (l.map C11.Item'.text).map V.str := by
  simp only [encL, List.map_map]
  apply List.map_congr_left
  intro i _
  exact view_enc ty i

theorem lit_dot : PyU.lit "." = .str [46] := by decide +kernel

theorem join_enc (ty : C10.Text → C10.Text) (l : List C11.Item') :
    t11Join TOK (PyU.lit ".") (.list (encL ty l)) = .ok (.str (C11.joinDot (l.map C11.Item'.text))) := by
  rw [lit_dot]
  simp only [t11Join, t11View, PyU.iterList, map_view_enc, PyU.join, joinStrs_dot, Except.map]

/-! ### `key in list_props` -/
theorem listProps_lit : (V.list [(PyU.lit "stage.transform-x86.header"), (PyU.lit "process-inject.transform-x86"), (PyU.lit "process-inject.execute"), (PyU.lit "http-post.server.output"), (PyU.lit "http-post.client.id"), (PyU.lit "http-post.client.output"), (PyU.lit "http-stager.server.output"), (PyU.lit "http-get.client.metadata"), (PyU.lit "http-get.server.output")]) = listPropsV := by
  rw [listPropsV, C11.gen_listProps_codes]
  rfl

theorem any_t11Eq_str (k : C10.Text) (l : List C10.Text) : (l.map V.str).any (t11Eq TOK (.str k)) = l.contains k := by
  induction l with
  | nil => rfl
  | cons x xs ih =>
    have e : t11Eq TOK (.str k) (.str x) = (k == x) := by simp [t11Eq, t11View, PyU.eq]
    simp only [List.map_cons, List.any_cons, e, List.contains_cons]
    rw [ih]

theorem contains_listProps (k : C10.Text) :
    t11Contains TOK listPropsV (.str k) = .ok (ProfileApi.listProps.contains k) := by
  simp only [t11Contains, listPropsV, t11View, any_t11Eq_str]

/-! ### `repr(line)` never raises (the walk evaluates it for `logger.debug(repr(line))`) -/
theorem reprL_enc (ty : C10.Text → C10.Text) : ∀ (l : List C11.Item'), ∃ r, t11ReprL TOK (encL ty l) = .ok r
  | [] => ⟨[], rfl⟩
  | i :: is => by
    obtain ⟨r, hr⟩ := reprL_enc ty is
    have h1 : ∃ a, t11Repr TOK (encItem ty i) = .ok a := by
      cases i with
      | plain s => exact ⟨_, rfl⟩
      | token b s =>
        cases b <;> simp [encItem, tokenV, C12Gen.tokenV, t11Repr, t11ReprL, Gen.PyC2Prof.Token, strName, PyU.lit]
    obtain ⟨a, ha⟩ := h1
    simp only [encL, List.map_cons] at hr ⊢
    simp only [t11ReprL, ha, hr]
    exact ⟨_, rfl⟩

theorem reprV_enc (ty : C10.Text → C10.Text) (l : List C11.Item') : ∃ r, t11ReprV TOK (.list (encL ty l)) = .ok r := by
  obtain ⟨r, hr⟩ := reprL_enc ty l
  refine ⟨V.str (91 :: r ++ [93]), ?_⟩
  simp only [t11ReprV, t11Repr, hr, Except.map]


/-! ### `properties[key].append(value)` -/
theorem findKey_enc (ty : C10.Text → C10.Text) (k : C10.Text) (d : C11.Dict) :
    (PyU.findKey (.str k) (d.map fun kv => V.str kv.1) (d.map fun kv => V.list (kv.2.map (encValue ty)))).isSome
      = d.any (fun kv => kv.1 == k) := by
  rw [PyU.findKey_map, Option.isSome_map, List.isSome_find?]
  simp only [PyU.keyEq_str, BEq.comm (a := k)]

theorem appendAt_enc (ty : C10.Text → C10.Text) (k : C10.Text) (v : C11.Value) : ∀ (d : C11.Dict),
    d.any (fun kv => kv.1 == k) = true →
    PyU.t11AppendAt (.str k) (encValue ty v) (d.map fun kv => V.str kv.1) (d.map fun kv => V.list (kv.2.map (encValue ty)))
      = .ok ((C11.Dict.add d k v).map fun kv => V.list (kv.2.map (encValue ty)))
  | [], h => by simp at h
  | (k', vs) :: r, h => by
    simp only [List.map_cons, PyU.t11AppendAt, keyEq_str, C11.Dict.add]
    by_cases hk : k' = k
    · subst hk
      simp [PyU.append, Except.map]
    · have h1 : (k == k') = false := beq_eq_false_iff_ne.mpr (Ne.symm hk)
      have h2 : (k' == k) = false := beq_eq_false_iff_ne.mpr hk
      simp only [List.any_cons, h2, Bool.false_or] at h
      simp only [h1, Bool.false_eq_true, ↓reduceIte, hk, appendAt_enc ty k v r h, Except.map, List.map_cons]

theorem add_keys (k : C10.Text) (v : C11.Value) : ∀ (d : C11.Dict), d.any (fun kv => kv.1 == k) = true →
    (C11.Dict.add d k v).map (fun kv => V.str kv.1) = d.map (fun kv => V.str kv.1)
  | [], h => by simp at h
  | (k', vs) :: r, h => by
    simp only [C11.Dict.add]
    by_cases hk : k' = k
    · simp [hk]
    · have h2 : (k' == k) = false := beq_eq_false_iff_ne.mpr hk
      simp only [List.any_cons, h2, Bool.false_or] at h
      simp only [hk, ↓reduceIte, List.map_cons, add_keys k v r h]

theorem add_new (k : C10.Text) (v : C11.Value) : ∀ (d : C11.Dict), d.any (fun kv => kv.1 == k) = false →
    C11.Dict.add d k v = d ++ [(k, [v])]
  | [], _ => rfl
  | (k', vs) :: r, h => by
    simp only [List.any_cons, Bool.or_eq_false_iff] at h
    have hk : ¬ k' = k := by intro e; simp [e] at h
    simp only [C11.Dict.add, hk, ↓reduceIte, add_new k v r h.2, List.cons_append]

theorem ddAppend_enc (ty : C10.Text → C10.Text) (d : C11.Dict) (k : C10.Text) (v : C11.Value) :
    t11DdAppend (encDD ty d) (.str k) (encValue ty v) = .ok (encDD ty (C11.Dict.add d k v)) := by
  simp only [t11DdAppend, encDD, encDict, beq_self_eq_true, ↓reduceIte, hashable_str]
  cases h : d.any (fun kv => kv.1 == k) with
  | true =>
    have hs := findKey_enc ty k d
    rw [h] at hs
    obtain ⟨w, hw⟩ := Option.isSome_iff_exists.mp hs
    simp only [hw, appendAt_enc ty k v d h, Except.map, add_keys k v d h]
  | false =>
    have hs := findKey_enc ty k d
    rw [h] at hs
    have hn := Option.not_isSome_iff_eq_none.mp (by simpa using hs)
    simp only [hn, add_new k v d h, List.map_append, List.map_cons, List.map_nil]


theorem ddAppend_atom (ty : C10.Text → C10.Text) (d : C11.Dict) (k : C10.Text) (a : C11.Atom) :
    t11DdAppend (encDD ty d) (.str k) (encAtom ty a) = .ok (encDD ty (C11.Dict.add d k (.atom a))) := ddAppend_enc ty d k (.atom a)

theorem ddAppend_tuple (ty : C10.Text → C10.Text) (d : C11.Dict) (k : C10.Text) (as : List C11.Atom) :
    t11DdAppend (encDD ty d) (.str k) (.tuple (as.map (encAtom ty))) = .ok (encDD ty (C11.Dict.add d k (.tuple as))) :=
  ddAppend_enc ty d k (.tuple as)

/-! ### the external `string_token_to_bytes` -/
/-- what the walk needs of `string_token_to_bytes` on the items `l`: a plain `str` and a Token of another type are returned as
they are, a STRING token of `l` is decoded as the model says -/
structure StbSpec (stb : V → Py V) (l : List C11.Item') : Prop where
  plain : ∀ s, stb (.str s) = .ok (.str s)
  other : ∀ t s, t ≠ C11.stringName → stb (tokenV (.str t) (.str s)) = .ok (tokenV (.str t) (.str s))
  string : ∀ s, C11.Item'.token true s ∈ l → stb (tokenV strName (.str s)) = (C12.stringTokenToBytesCP s).map V.bytes

theorem StbSpec.mono {stb : V → Py V} {l l' : List C11.Item'} (h : StbSpec stb l) (hs : ∀ x ∈ l', x ∈ l) : StbSpec stb l' :=
  ⟨h.plain, h.other, fun s hm => h.string s (hs _ hm)⟩

theorem stb_item (ty : C10.Text → C10.Text) (hty : TyOK ty) (stb : V → Py V) (l : List C11.Item') (h : StbSpec stb l)
    (i : C11.Item') (hi : i ∈ l) : stb (encItem ty i) = (C11.listAtom i).map (encAtom ty) := by
  cases i with
  | plain s => simp only [encItem, h.plain, C11.listAtom, Except.map, encAtom]
  | token b s =>
    cases b with
    | true =>
      simp only [encItem, h.string s hi, C11.listAtom]
      cases C12.stringTokenToBytesCP s <;> rfl
    | false => simp only [encItem, h.other _ s (hty s), C11.listAtom, Except.map, encAtom]

theorem comp1_forList (ty : C10.Text → C10.Text) (hty : TyOK ty) (stb : V → Py V) (l0 : List C11.Item') (h : StbSpec stb l0) :
    ∀ (l : List C11.Item') (acc : List V), (∀ x ∈ l, x ∈ l0) →
    PyU.forList (encL ty l) (Gen.PyC2Dict.as_dict_walk_comp1 stb) (.list acc)
      = (C11.mapPy C11.listAtom l).map fun as => V.list (acc ++ as.map (encAtom ty))
  | [], acc, _ => by simp [PyU.forList, C11.mapPy, Except.map]
  | i :: is, acc, hs => by
    have hi := stb_item ty hty stb l0 h i (hs i (List.mem_cons_self))
    simp only [encL, List.map_cons, PyU.forList, Gen.PyC2Dict.as_dict_walk_comp1, hi, C11.mapPy]
    cases hA : C11.listAtom i with
    | error e => rfl
    | ok a =>
      have ih := comp1_forList ty hty stb l0 h is (acc ++ [encAtom ty a]) (fun x hx => hs x (List.mem_cons_of_mem _ hx))
      simp only [encL] at ih
      simp only [Except.map, PyU.append, bind, Except.bind, pure, Except.pure, ih]
      cases C11.mapPy C11.listAtom is <;> simp


theorem strName_tok_eq : t11Eq TOK strName (PyU.lit "STRING") = true := by decide +kernel
theorem ty_ne (ty : C10.Text → C10.Text) (hty : TyOK ty) (s : C10.Text) : t11Eq TOK (.str (ty s)) (PyU.lit "STRING") = false := by
  have : PyU.lit "STRING" = .str C11.stringName := by decide +kernel
  simp only [this, t11Eq, t11View, PyU.eq, beq_eq_false_iff_ne]
  exact hty s

theorem getAttr_type (t v : V) : PyU.getAttr (tokenV t v) "type" = .ok t := rfl
theorem strOf_tok (t : V) (s : C10.Text) : t11StrOf TOK (tokenV t (.str s)) = .ok (.str s) := rfl
theorem slice_strip (s : C10.Text) : PyU.slice (.str s) (V.int 1) (V.int (-1)) = .ok (.str (C11.strip s)) := by
  simp only [PyU.slice, PyU.bound, PyU.asInt, bind, Except.bind, pure, Except.pure, C12Gen.slice_1_m1, C11.strip]
theorem append_list (acc : List V) (x : V) : PyU.append (.list acc) x = .ok (.list (acc ++ [x])) := rfl

theorem pairStep (ty : C10.Text → C10.Text) (hty : TyOK ty) (stb : V → Py V) (i : C11.Item') (acc : List V) :
    Gen.PyC2Dict.as_dict_walk_loop2 stb (encItem ty i) (.list acc)
      = (C11.pairAtom i).map fun a => (Ctl.cont, V.list (acc ++ [encAtom ty a])) := by
  cases i with
  | plain s => simp only [Gen.PyC2Dict.as_dict_walk_loop2, encItem, PyU.getAttr, PyRt.error_bind, C11.pairAtom, Except.map]
  | token b s =>
    cases b with
    | true =>
      simp only [Gen.PyC2Dict.as_dict_walk_loop2, encItem, getAttr_type, PyU.ok_bind, strName_tok_eq, ↓reduceIte, strOf_tok, slice_strip,
        append_list, C11.pairAtom, Except.map, encAtom]
      rfl
    | false =>
      simp only [Gen.PyC2Dict.as_dict_walk_loop2, encItem, getAttr_type, PyU.ok_bind, ty_ne ty hty, Bool.false_eq_true, ↓reduceIte,
        append_list, C11.pairAtom, Except.map, encAtom]
      rfl

theorem loop2_forList (ty : C10.Text → C10.Text) (hty : TyOK ty) (stb : V → Py V) :
    ∀ (l : List C11.Item') (acc : List V),
    PyU.forList (encL ty l) (Gen.PyC2Dict.as_dict_walk_loop2 stb) (.list acc)
      = (C11.mapPy C11.pairAtom l).map fun as => V.list (acc ++ as.map (encAtom ty))
  | [], acc => by simp [PyU.forList, C11.mapPy, Except.map]
  | i :: is, acc => by
    simp only [encL, List.map_cons, PyU.forList, pairStep ty hty stb i acc, C11.mapPy]
    cases hA : C11.pairAtom i with
    | error e => rfl
    | ok a =>
      have ih := loop2_forList ty hty stb is (acc ++ [encAtom ty a])
      simp only [encL] at ih
      simp only [Except.map, ih]
      cases C11.mapPy C11.pairAtom is <;> simp

theorem slice_line_last2 (l : List V) : PyU.slice (.list l) (V.int (-2)) V.none = .ok (.list (l.drop (l.length - 2))) := by
  simp only [PyU.slice_list, PyU.bound_int, PyU.bound_none, PyU.ok_bind, PyU.pure_ok, PyRt.slice_from, pySliceFrom]
  rfl

theorem slice_line_butlast2 (l : List V) : PyU.slice (.list l) V.none (V.int (-2)) = .ok (.list (l.take (l.length - 2))) := by
  simp only [PyU.slice_list, PyU.bound_int, PyU.bound_none, PyU.ok_bind, PyU.pure_ok, PyRt.slice_to, pySliceTo]
  rfl


theorem lit_set : PyU.lit "set" = .str C11.setKw := by decide +kernel
theorem lit_lbrace : PyU.lit "{" = .str C10.lbrace := by decide +kernel
theorem lit_rbrace : PyU.lit "}" = .str C10.rbrace := by decide +kernel
theorem lit_semi : PyU.lit ";" = .str C10.semi := by decide +kernel
theorem lit_dqDefault : PyU.lit "\"default\"" = .str C11.dqDefault := by decide +kernel

theorem pop_of_last {α : Type} (l : List α) (x : α) (h : l.getLast? = some x) : C11.pop l = .ok (x, l.dropLast) := by
  simp [C11.pop, h]

theorem pop_of_none {α : Type} (l : List α) (h : l.getLast? = none) : C11.pop l = .error .indexError := by
  simp [C11.pop, h]

/-- the state of the walk as the loop's state tuple -/
def encSt (ty : C10.Text → C10.Text) (st : C11.St) : V × V × V :=
  (.list (encL ty st.line), .list (encL ty st.stack), encDD ty st.props)

theorem isInstance_tokenV (t v : V) : PyU.isInstance (tokenV t v) [Ty.cls TOK] = true := rfl

theorem finish_atom {α : Type} (ty : C10.Text → C10.Text) (hty : TyOK ty) (a : C11.Atom) (X Y : Py α) :
    (if PyU.isInstance (encAtom ty a) [Ty.cls TOK] = true then
        (PyU.getAttr (encAtom ty a) "type" >>= fun t39 => if t11Eq TOK t39 (PyU.lit "STRING") = true then X else Y)
      else Y) = Y := by
  cases a with
  | str s => rfl
  | bytes b => rfl
  | tok s =>
    simp only [isInstance_tokenV, ↓reduceIte, encAtom, getAttr_type, PyU.ok_bind, ty_ne ty hty, Bool.false_eq_true]

theorem finish_tuple {α : Type} (xs : List V) (X Y : Py α) :
    (if PyU.isInstance (.tuple xs) [Ty.cls TOK] = true then X else Y) = Y := rfl

theorem finish_item {α : Type} (ty : C10.Text → C10.Text) (hty : TyOK ty) (x : C11.Item') (F : V → Py α) :
    (if PyU.isInstance (encItem ty x) [Ty.cls TOK] = true then
        (PyU.getAttr (encItem ty x) "type" >>= fun t39 =>
          if t11Eq TOK t39 (PyU.lit "STRING") = true then
            (t11StrOf TOK (encItem ty x) >>= fun t40 => PyU.slice t40 (V.int 1) (V.int (-1)) >>= fun t41 => F t41)
          else F (encItem ty x))
      else F (encItem ty x)) = F (encAtom ty (C11.lastAtom x)) := by
  cases x with
  | plain s => rfl
  | token b s =>
    cases b with
    | true =>
      simp only [isInstance_tokenV, ↓reduceIte, encItem, getAttr_type, PyU.ok_bind, strName_tok_eq, strOf_tok, slice_strip, C11.lastAtom,
        encAtom]
    | false =>
      simp only [isInstance_tokenV, ↓reduceIte, encItem, getAttr_type, PyU.ok_bind, ty_ne ty hty, Bool.false_eq_true, C11.lastAtom,
        encAtom]

theorem tupleOf_list (xs : List V) : t11TupleOf TOK (.list xs) = .ok (.tuple xs) := rfl
theorem len_tuple (xs : List V) : PyU.len (.tuple xs) = .ok (.int (xs.length : Nat)) := rfl
theorem len_list (xs : List V) : PyU.len (.list xs) = .ok (.int (xs.length : Nat)) := rfl
theorem eq_int_one (n : Nat) : t11Eq TOK (.int (n : Nat)) (V.int 1) = (n == 1) := PyU.eq_int_nat n 1
theorem gt_len2 (n : Nat) : PyU.gt (.int (n : Nat)) (V.int 2) = .ok (decide (n > 2)) := by
  simp only [PyU.gt, PyU.lt, PyU.asInt]
  congr 1
  have : ((2 : Int) < (n : Int)) ↔ n > 2 := by omega
  simp only [this]

theorem step_semi (ty : C10.Text → C10.Text) (hty : TyOK ty) (st : C11.St) (item : C11.Item') (stb : V → Py V)
    (l0 : List C11.Item') (hstb : StbSpec stb l0) (hline : ∀ x ∈ st.line, x ∈ l0)
    (h1 : ¬ item.text = C11.setKw) (h2 : C10.isFlush item.text = true) (h3 : ¬ item.text = C10.lbrace) (h4 : ¬ item.text = C10.rbrace)
    (h5 : item.text = C10.semi) :
    Gen.PyC2Dict.as_dict_walk_loop1 stb listPropsV (encItem ty item) (encSt ty st)
      = (C11.step ProfileApi.listProps st item).map fun st' => (Ctl.cont, encSt ty st') := by
  have e1 : (item.text == C11.setKw) = false := beq_eq_false_iff_ne.mpr h1
  have e3 : (item.text == C10.lbrace) = false := beq_eq_false_iff_ne.mpr h3
  have e4 : (item.text == C10.rbrace) = false := beq_eq_false_iff_ne.mpr h4
  have e5 : (item.text == C10.semi) = true := beq_iff_eq.mpr h5
  have p5 : (item.text = C10.semi) = True := eq_true h5
  obtain ⟨r, hr⟩ := reprV_enc ty (st.line ++ [item])
  simp only [Gen.PyC2Dict.as_dict_walk_loop1, C11.step, encSt, lit_set, lit_lbrace, lit_rbrace, lit_semi, eq_enc_str, e1, h1, h2, h3, e3,
    e4, h4, e5, p5, Bool.false_eq_true, ↓reduceIte, append_enc, PyU.ok_bind, contains_flush_enc, hr, pop_enc, C11.pop_snoc, Except.map,
    join_enc, contains_listProps, C11.semiCase]
  by_cases hlp : ProfileApi.listProps.contains (C11.joinDot (st.stack.map C11.Item'.text)) = true
  · simp only [hlp, ↓reduceIte, PyU.iterList, PyU.ok_bind, comp1_forList ty hty stb l0 hstb st.line [] hline, List.nil_append]
    cases hm : C11.mapPy C11.listAtom st.line with
    | error e => simp only [Except.map, PyRt.error_bind]
    | ok as =>
      simp only [Except.map, PyU.ok_bind, tupleOf_list, len_tuple, eq_int_one, List.length_map, add_lists, List.append_nil, join_enc]
      match as with
      | [] =>
        simp only [List.length_nil, show ((0 : Nat) == 1) = false from rfl, Bool.false_eq_true, ↓reduceIte, finish_tuple, ddAppend_tuple,
          PyU.ok_bind, pure, Except.pure]
        rfl
      | [a] =>
        simp only [List.length_cons, List.length_nil, List.map_cons, List.map_nil, show ((0 + 1 : Nat) == 1) = true from rfl, ↓reduceIte,
          getItem_tuple_zero, PyU.ok_bind, finish_atom ty hty a, ddAppend_atom, pure, Except.pure]
      | a :: b :: rest =>
        have hn : ((rest.length + 1 + 1 : Nat) == 1) = false := by simp
        simp only [List.length_cons, hn, Bool.false_eq_true, ↓reduceIte, finish_tuple, ddAppend_tuple, PyU.ok_bind, pure, Except.pure]
        rfl
  · have hlp' : ProfileApi.listProps.contains (C11.joinDot (st.stack.map C11.Item'.text)) = false := Bool.eq_false_iff.mpr hlp
    simp only [hlp', Bool.false_eq_true, ↓reduceIte, len_list, PyU.ok_bind, gt_len2, List.length_map]
    by_cases hlen : st.line.length > 2
    · simp only [hlen, decide_true, ↓reduceIte, slice_line_last2, slice_line_butlast2, List.length_map, ← List.map_drop, ← List.map_take,
      PyU.ok_bind, PyU.iterList, loop2_forList ty hty stb, List.nil_append, add_lists, ← List.map_append, join_enc]
      cases hm : C11.mapPy C11.pairAtom (List.drop (st.line.length - 2) st.line) with
      | error e => simp only [Except.map, PyRt.error_bind]
      | ok as =>
        simp only [Except.map, PyU.ok_bind, tupleOf_list, finish_tuple, ddAppend_tuple, pure, Except.pure, List.map_append]
        rfl
    · simp only [hlen, decide_false, Bool.false_eq_true, ↓reduceIte]
      cases hp : C11.pop st.line with
      | error e => simp only [PyRt.error_bind]
      | ok p =>
        obtain ⟨x, line'⟩ := p
        simp only [PyU.ok_bind, add_lists, ← List.map_append, join_enc]
        have hf := finish_item ty hty x (fun v => t11DdAppend (encDD ty st.props)
          (V.str (C11.joinDot (List.map C11.Item'.text (st.stack ++ line')))) v >>= fun t42 =>
            (pure (Ctl.cont, V.list [], V.list (encL ty st.stack), t42) : Py (Ctl × V × V × V)))
        rw [hf]
        simp only [ddAppend_atom, PyU.ok_bind, pure, Except.pure, List.map_append]
        rfl


theorem loop1_step (ty : C10.Text → C10.Text) (hty : TyOK ty) (st : C11.St) (item : C11.Item') (stb : V → Py V)
    (l0 : List C11.Item') (hstb : StbSpec stb l0) (hline : ∀ x ∈ st.line, x ∈ l0) :
    Gen.PyC2Dict.as_dict_walk_loop1 stb listPropsV (encItem ty item) (encSt ty st)
      = (C11.step ProfileApi.listProps st item).map fun st' => (Ctl.cont, encSt ty st') := by
  by_cases h1 : item.text = C11.setKw
  · -- `if item == "set": continue`
    have e1 : (item.text == C11.setKw) = true := beq_iff_eq.mpr h1
    have p1 : (item.text = C11.setKw) = True := eq_true h1
    simp only [Gen.PyC2Dict.as_dict_walk_loop1, C11.step, encSt, lit_set, eq_enc_str, e1, p1, ↓reduceIte, Except.map, pure, Except.pure]
  have e1 : (item.text == C11.setKw) = false := beq_eq_false_iff_ne.mpr h1
  cases h2 : C10.isFlush item.text with
  | false =>
    simp only [Gen.PyC2Dict.as_dict_walk_loop1, C11.step, encSt, lit_set, eq_enc_str, e1, h1, h2, Bool.false_eq_true, ↓reduceIte, append_enc,
      PyU.ok_bind, contains_flush_enc, Except.map, pure, Except.pure]
  | true =>
    by_cases h3 : item.text = C10.lbrace
    · -- `{`: the line (without a `"default"` variant) goes onto the stack
      have e3 : (item.text == C10.lbrace) = true := beq_iff_eq.mpr h3
      have p3 : (item.text = C10.lbrace) = True := eq_true h3
      simp only [Gen.PyC2Dict.as_dict_walk_loop1, C11.step, encSt, lit_set, lit_lbrace, lit_dqDefault, eq_enc_str, e1, h1, h2, p3, e3,
        Bool.false_eq_true, ↓reduceIte, append_enc, PyU.ok_bind, contains_flush_enc, pop_enc, C11.pop_snoc, Except.map, getItem_last]
      cases hl : st.line.getLast? with
      | none => simp only [PyRt.error_bind]
      | some x =>
        simp only [PyU.ok_bind, isInstance_enc, eq_enc_str, pop_of_last _ _ hl, extend_enc]
        by_cases hc : (x.isToken && x.text == C11.dqDefault) = true
        · simp only [hc, ↓reduceIte, pure, Except.pure, encL, List.map_append, List.map_nil]
        · simp only [hc, Bool.false_eq_true, ↓reduceIte, pure, Except.pure, encL, List.map_append, List.map_nil]
    have e3 : (item.text == C10.lbrace) = false := beq_eq_false_iff_ne.mpr h3
    by_cases h4 : item.text = C10.rbrace
    · -- `}`: the keyword, and a variant token if there is one, come off the stack
      have e4 : (item.text == C10.rbrace) = true := beq_iff_eq.mpr h4
      have p4 : (item.text = C10.rbrace) = True := eq_true h4
      simp only [Gen.PyC2Dict.as_dict_walk_loop1, C11.step, encSt, lit_set, lit_lbrace, lit_rbrace, eq_enc_str, e1, h1, h2, h3, e3, e4, p4,
        Bool.false_eq_true, ↓reduceIte, append_enc, PyU.ok_bind, contains_flush_enc, pop_enc, Except.map]
      cases hp : C11.pop st.stack with
      | error e => simp only [PyRt.error_bind]
      | ok p =>
        simp only [PyU.ok_bind, isInstance_enc, pop_enc]
        cases hx : p.1.isToken with
        | false => simp only [Bool.false_eq_true, ↓reduceIte, pure, Except.pure]; rfl
        | true =>
          simp only [↓reduceIte]
          cases hq : C11.pop p.2 with
          | error e => simp only [Except.map, PyRt.error_bind]
          | ok q => simp only [Except.map, PyU.ok_bind, pure, Except.pure]; rfl
    have e4 : (item.text == C10.rbrace) = false := beq_eq_false_iff_ne.mpr h4
    by_cases h5 : item.text = C10.semi
    · exact step_semi ty hty st item stb l0 hstb hline h1 h2 h3 h4 h5
    · -- `{}`, `};`, `{};` and the empty string are substrings of `"{};"` too: only `line = []`
      have e5 : (item.text == C10.semi) = false := beq_eq_false_iff_ne.mpr h5
      simp only [Gen.PyC2Dict.as_dict_walk_loop1, C11.step, encSt, lit_set, lit_lbrace, lit_rbrace, lit_semi, eq_enc_str, e1, h1, h2, h3, e3,
        e4, h4, e5, h5, Bool.false_eq_true, ↓reduceIte, append_enc, PyU.ok_bind, contains_flush_enc, Except.map, pure, Except.pure, encL,
        List.map_nil]

theorem step_line {lp : List C10.Text} {st st' : C11.St} {item : C11.Item'} (h : C11.step lp st item = .ok st') :
    st'.line = [] ∨ st'.line = st.line ++ [item] ∨ st'.line = st.line := by
  revert h
  fun_cases C11.step lp st item <;> intro h <;> cases h
  -- `continue` on `set`; the flush branches; the append
  all_goals first | exact .inr (.inr rfl) | exact .inl rfl | exact .inr (.inl rfl)

theorem run_forList (ty : C10.Text → C10.Text) (hty : TyOK ty) (stb : V → Py V) (l0 : List C11.Item') (hstb : StbSpec stb l0) :
    ∀ (items : List C11.Item') (st : C11.St), (∀ x ∈ items, x ∈ l0) → (∀ x ∈ st.line, x ∈ l0) →
    PyU.forList (encL ty items) (Gen.PyC2Dict.as_dict_walk_loop1 stb listPropsV) (encSt ty st)
      = (C11.run ProfileApi.listProps st items).map (encSt ty)
  | [], st, _, _ => rfl
  | i :: is, st, hi, hl => by
    simp only [encL, List.map_cons, PyU.forList, loop1_step ty hty st i stb l0 hstb hl, C11.run]
    cases hs : C11.step ProfileApi.listProps st i with
    | error e => rfl
    | ok st' =>
      have hl' : ∀ x ∈ st'.line, x ∈ l0 := by
        intro x hx
        rcases step_line hs with h | h | h
        · rw [h] at hx; cases hx
        · rw [h] at hx
          rcases List.mem_append.mp hx with hx | hx
          · exact hl x hx
          · rw [List.mem_singleton.mp hx]; exact hi i List.mem_cons_self
        · rw [h] at hx; exact hl x hx
      have ih := run_forList ty hty stb l0 hstb is st' (fun x hx => hi x (List.mem_cons_of_mem _ hx)) hl'
      simp only [encL] at ih
      simp only [Except.map, ih]

theorem gen_as_dict_walk_proof (ty : C10.Text → C10.Text) (hty : TyOK ty) (stb : V → Py V) (items : List C11.Item')
    (hstb : StbSpec stb items) :
    Gen.PyC2Dict.as_dict_walk stb (encItems ty items) = (C11.asDict ProfileApi.listProps items).map (encDD ty) := by
  have h := run_forList ty hty stb items hstb items ⟨[], [], []⟩ (fun _ h => h) (fun _ h => by cases h)
  simp only [encSt, encL, List.map_nil] at h
  have hdd : PyU.t11DdNew = encDD ty [] := rfl
  simp only [Gen.PyC2Dict.as_dict_walk, listProps_lit, PyU.iterList, encItems, PyU.ok_bind, hdd, h, C11.asDict]
  cases C11.run ProfileApi.listProps ⟨[], [], []⟩ items <;> rfl


theorem foldl_max_le (l : List Nat) : ∀ (a : Nat), a ≤ l.foldl max a ∧ ∀ x ∈ l, x ≤ l.foldl max a := by
  induction l with
  | nil => intro a; simp
  | cons y ys ih =>
    intro a
    obtain ⟨h1, h2⟩ := ih (max a y)
    refine ⟨by simp only [List.foldl_cons]; omega, ?_⟩
    intro x hx
    simp only [List.foldl_cons]
    rcases List.mem_cons.mp hx with h | h
    · subst h; omega
    · exact h2 x h

theorem fuelForItems_gt (l : List C11.Item') (i : C11.Item') (hi : i ∈ l) : i.text.length < fuelForItems l := by
  have := (foldl_max_le (l.map fun i => i.text.length) 0).2 i.text.length (List.mem_map.mpr ⟨i, hi, rfl⟩)
  simp only [fuelForItems]
  omega

theorem stbG_spec (fuel : Nat) (l : List C11.Item') (hf : ∀ i ∈ l, i.text.length < fuel) : StbSpec (stbG fuel) l := by
  refine ⟨?_, ?_, ?_⟩
  · intro s
    simp only [stbG, C12Gen.gen_string_token_to_bytes_not_token_proof (.str s) fuel rfl]
  · intro t s ht
    have h : PyU.eq (.str t) (PyU.lit "STRING") = false := by
      have : PyU.lit "STRING" = .str C11.stringName := by decide +kernel
      simp only [this, PyU.eq, beq_eq_false_iff_ne]
      exact ht
    simp only [stbG, tokenV, C12Gen.gen_string_token_to_bytes_other_type_proof (.str t) (.str s) fuel h]
  · intro s hs
    have hl := hf _ hs
    simp only [C11.Item'.text] at hl
    have := C12Gen.gen_string_token_to_bytes_proof s fuel (by omega)
    simp only [C12Gen.stringToken] at this
    simp only [stbG, tokenV, strName, this, C12Gen.liftS, PyU.liftS]
    cases C12.stringTokenToBytesCP s <;> rfl

/-- what `as_dict()` answers and leaves behind, as the translated method answers it: the dictionary and the object afterwards;
an exception of the walk; `eLark` when the Reconstructor cannot print the tree -/
def encCached {H : Type} (ty : C10.Text → C10.Text) (encT : C10.Tree → V) (encH : H → V) (eLark : PyExc)
    (r : Option (Py C11.Dict) × C11.PState H) : Py V :=
  match r.1 with
  | none => .error eLark
  | some (.error e) => .error e
  | some (.ok d) => .ok (.tuple [encDict ty d, encState ty encT encH r.2])

/-- what the translated method assumes of the external functions: `hash(tree)` is the model's hash (it never raises), the
Reconstructor yields the model's items or fails, `string_token_to_bytes` decodes the STRING tokens of those items -/
structure ExtSpec {H : Type} (ty : C10.Text → C10.Text) (encT : C10.Tree → V) (encH : H → V) (eLark : PyExc)
    (hash : C10.Tree → H) (items : C10.Tree → Option (List C11.Item'))
    (tree_hash reconstruct_items stb : V → Py V) : Prop where
  hash_ok : ∀ t, tree_hash (encT t) = .ok (encH (hash t))
  items_ok : ∀ t, reconstruct_items (encT t) = match items t with
    | some l => .ok (encItems ty l)
    | none => .error eLark
  stb_ok : ∀ t l, items t = some l → StbSpec stb l
  hash_eq : ∀ a b : H, t11Eq TOK (encH a) (encH b) = true ↔ a = b
  hash_none : ∀ a : H, t11Eq TOK V.none (encH a) = false

theorem getAttr_hash (t c h : V) : PyU.getAttr (profileV t c h) "_dict_hash" = .ok h := rfl
theorem getAttr_tree (t c h : V) : PyU.getAttr (profileV t c h) "tree" = .ok t := rfl
theorem getAttr_cache (t c h : V) : PyU.getAttr (profileV t c h) "_dict_cache" = .ok c := rfl
theorem setAttr_hash (t c h x : V) : PyU.setAttrObj (profileV t c h) "_dict_hash" x = .ok (profileV t c x) := rfl
theorem setAttr_cache (t c h x : V) : PyU.setAttrObj (profileV t c h) "_dict_cache" x = .ok (profileV t x h) := rfl
theorem dictOf_dd (ty : C10.Text → C10.Text) (d : C11.Dict) : t11DictOf (encDD ty d) = .ok (encDict ty d) := rfl

end C11Gen

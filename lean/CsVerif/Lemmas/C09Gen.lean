import CsVerif.Model.C09Gen
import CsVerif.Lemmas.PyUFile
import CsVerif.Lemmas.PyULib15
import CsVerif.Lemmas.C09
import CsVerif.Props.C20Gen
/-! The definitions of `Gen/PyXor.lean` (`iter_nonce_offsets`, the methods of `XorEncodedFile`) against the model of `Model/C09.lean`,
and operation histories through the translated methods (`stepG_eq`, `runG_eq`, `runTraceG_eq`).  File objects: Lemmas/PyUFile.lean. -/
namespace C09Gen
open PyU
open C15Gen hiding pure_ok throw_err add_int sub_int iadd_int eq_int lt_int gt_int len_bytes add_bytes truthy_bytes

theorem u32_bytes (d : Bytes) : Gen.PyXor.u32 (.bytes d) = .ok (.int (C09.u32 d)) := by
  have := C20Gen.gen_u32 d .little false
  simp only [C20Gen.orderStr] at this
  simp only [Gen.PyXor.u32, liftBytesInt, this, Except.map, C09.u32]

theorem xor_bytes (d k : Bytes) : Gen.PyXor.xor (.bytes d) (.bytes k) = .ok (.bytes (C20.xor d k)) := by
  simp only [Gen.PyXor.xor, liftXor, C20Gen.gen_xor, Except.map]

/-! ### iter_nonce_offsets -/

theorem gen_iter_nonce_offsets_body (rs : Int) (i : Nat) (f : PyFile) (ys : List V) :
    Gen.PyXor.iter_nonce_offsets_loop1 (.int rs) (.int (i : Int)) (encFile f, .list ys)
      = (let f1 : PyFile := { f with pos := i }
         let r1 := f1.read 4
         let r2 := r1.2.read 4
         if r1.1.length ≠ 4 ∨ r2.1.length ≠ 4 then .ok (.brk, encFile r2.2, .list ys)
         else if C09.u32 (C20.xor r1.1 r2.1) + (i : Int) + 8 = rs then .ok (.cont, encFile r2.2, .list (ys ++ [.int (i : Int)]))
         else .ok (.cont, encFile r2.2, .list ys)) := by
  simp only [Gen.PyXor.iter_nonce_offsets_loop1, fileSeek_nat, PyU.ok_bind, fileRead_4, len_bytes, eq_int, xor_bytes, u32_bytes,
    add_int, pure_ok, yieldTo]
  generalize ({ f with pos := i } : PyFile) = g
  by_cases h1 : (g.read 4).1.length = 4
  · by_cases h2 : ((g.read 4).2.read 4).1.length = 4
    · simp only [h1, h2, ne_eq, not_true_eq_false, or_self, if_false]
      by_cases h3 : C09.u32 (C20.xor (g.read 4).1 ((g.read 4).2.read 4).1) + (i : Int) + 8 = rs
      · simp [h3]
      · have : (C09.u32 (C20.xor (g.read 4).1 ((g.read 4).2.read 4).1) + (i : Int) + 8 == rs) = false := by simpa using h3
        simp [h3, this]
    · have : ((((g.read 4).2.read 4).1.length : Int) == 4) = false := by simp only [beq_eq_false_iff_ne, ne_eq]; omega
      simp [h1, h2, this]
  · have : (((g.read 4).1.length : Int) == 4) = false := by simp only [beq_eq_false_iff_ne, ne_eq]; omega
    simp [h1, this]

theorem gen_iter_nonce_offsets_loop (rs : Int) : ∀ (k i : Nat) (f : PyFile) (ys : List V),
    forList ((List.range' i k).map (fun (n : Nat) => V.int (n : Int))) (Gen.PyXor.iter_nonce_offsets_loop1 (.int rs)) (encFile f, V.list ys)
      = (C09.nonceLoop rs k i f).map (fun r => (encFile r.2, V.list (ys ++ r.1.map (fun (n : Nat) => V.int (n : Int))))) := by
  intro k
  induction k with
  | zero => intro i f ys; simp [forList, C09.nonceLoop, Except.map]
  | succ k ih =>
    intro i f ys
    simp only [List.range'_succ, List.map_cons, forList, gen_iter_nonce_offsets_body, C09.nonceLoop, PyFile.seekSet_ok]
    generalize ({ f with pos := i } : PyFile) = g
    by_cases hc : (g.read 4).1.length ≠ 4 ∨ ((g.read 4).2.read 4).1.length ≠ 4
    · simp [hc, Except.map]
    · simp only [hc, if_false]
      by_cases h3 : C09.u32 (C20.xor (g.read 4).1 ((g.read 4).2.read 4).1) + (i : Int) + 8 = rs
      · simp only [h3, if_true, ih]
        cases C09.nonceLoop rs k (i + 1) ((g.read 4).2.read 4).2 with
        | error e => rfl
        | ok r => simp [Except.map]
      · simp only [h3, if_false, ih]
        cases C09.nonceLoop rs k (i + 1) ((g.read 4).2.read 4).2 with
        | error e => rfl
        | ok r => simp [Except.map]

/-! ### attribute access, `tell` -/

theorem getAttr_fh (x : C09.XorFile) : getAttr (encXor x) "fh" = .ok (encFile x.fh) := by
  simp [getAttr, encXor, Gen.PyXor.XorEncodedFile, lookupField]
theorem getAttr_off (x : C09.XorFile) : getAttr (encXor x) "nonce_offset" = .ok (.int (x.nonceOff : Int)) := by
  simp [getAttr, encXor, Gen.PyXor.XorEncodedFile, lookupField]
theorem getAttr_nonce (x : C09.XorFile) : getAttr (encXor x) "initial_nonce" = .ok (.bytes x.initialNonce) := by
  simp [getAttr, encXor, Gen.PyXor.XorEncodedFile, lookupField]
theorem setAttr_fh (x : C09.XorFile) (f : PyFile) : setAttr (encXor x) "fh" (encFile f) = .ok (encXor { x with fh := f }) := by
  simp [setAttr, encXor, Gen.PyXor.XorEncodedFile, setField]

theorem gen_tell_proof (x : C09.XorFile) :
    Gen.PyXor.XorEncodedFile_tell (encXor x) = .ok (encRes (.int (C09.tell x)) x) := by
  simp only [Gen.PyXor.XorEncodedFile_tell, getAttr_fh, getAttr_off, fileTell_enc, PyU.ok_bind, add_int, sub_int, pure_ok, encRes,
    C09.tell, PyFile.tell]

/-! ### seek -/

theorem unpack2_tuple (a b : V) : unpack2 (.tuple [a, b]) = .ok (a, b) := by rfl

theorem fmt_int (n : Int) : ∃ s, fmt (.int n) "" = .ok s := ⟨_, rfl⟩

/-- the last line of `seek`: `return self.fh.seek(max(target, 0) + base)` -/
theorem gen_seek_last_line (x : C09.XorFile) (t : Int) :
    (do
      let t14 ← getAttr (encXor x) "fh"
      let t15 ← max2 (.int t) (V.int 0)
      let t16 ← PyU.add t15 (.int ((x.nonceOff : Int) + 8))
      let t17 ← fileSeek t14 t16 (V.int 0)
      let t18 ← setAttr (encXor x) "fh" t17.2
      pure (V.tuple [t17.1, t18]) : Py V) = (C09.seekTo x t).map (fun r => encRes (.int (r.1 : Int)) r.2) := by
  simp only [getAttr_fh, max2_int, add_int, PyU.ok_bind, fileSeek_set, C09.seekTo]
  cases x.fh.seekSet (max t 0 + ((x.nonceOff : Int) + 8)) with
  | error e => rfl
  | ok r => simp [Except.map, setAttr_fh, pure_ok, encRes]

theorem whence_other (w : Int) (h : w < 0 ∨ 3 ≤ w) : (w == 0) = false ∧ (w == 1) = false ∧ (w == 2) = false := by
  simp only [beq_eq_false_iff_ne, ne_eq]; omega

/-- every `whence` other than 0, 1, 2 is the `else` branch: ValueError, nothing moves -/
theorem seek_other_whence (x : C09.XorFile) (off w : Int) (h : w < 0 ∨ 3 ≤ w) :
    Gen.PyXor.XorEncodedFile_seek (encXor x) (.int off) (.int w) = .error .valueError := by
  obtain ⟨h0, h1, h2⟩ := whence_other w h
  obtain ⟨s, hs⟩ := fmt_int w
  simp only [Gen.PyXor.XorEncodedFile_seek, getAttr_off, add_int, PyU.ok_bind, eq_int, h0, h1, h2, Bool.false_eq_true, ↓reduceIte, hs,
    throw_err, PyRt.error_bind]

theorem gen_seek_proof (x : C09.XorFile) (off : Int) (wh : Nat) :
    Gen.PyXor.XorEncodedFile_seek (encXor x) (.int off) (.int (wh : Int))
      = (C09.seek x off wh).map (fun r => encRes (.int (r.1 : Int)) r.2) := by
  obtain ⟨s0, hs0⟩ := fmt_int off
  obtain ⟨s1, hs1⟩ := fmt_int (wh : Int)
  simp only [Gen.PyXor.XorEncodedFile_seek, getAttr_off, add_int, PyU.ok_bind, eq_int, lt_int, hs0, hs1, throw_err, PyRt.error_bind,
    gen_tell_proof, encRes, unpack2_tuple, ↓gen_seek_last_line]
  match wh with
  | 0 =>
    by_cases h : off < 0
    · simp only [Int.natCast_zero, beq_self_eq_true, decide_eq_true h, ↓reduceIte, C09.seek, if_pos h, Except.map]
    · simp only [Int.natCast_zero, beq_self_eq_true, decide_eq_false h, Bool.false_eq_true, ↓reduceIte, C09.seek, if_neg h]
  | 1 =>
    have h10 : ((1 : Int) == 0) = false := by decide
    simp only [Int.natCast_one, h10, beq_self_eq_true, Bool.false_eq_true, ↓reduceIte, C09.seek]
  | 2 =>
    have h20 : (((2 : Nat) : Int) == 0) = false := by decide
    have h21 : (((2 : Nat) : Int) == 1) = false := by decide
    have h22 : (((2 : Nat) : Int) == 2) = true := by decide
    simp only [h20, h21, h22, Bool.false_eq_true, ↓reduceIte, getAttr_fh, PyU.ok_bind, fileSeek_end, C09.seek]
    cases x.fh.seekEnd 0 with
    | error e => rfl
    | ok r =>
      simp only [Except.map, PyU.ok_bind, setAttr_fh, sub_int, add_int]
      exact gen_seek_last_line { x with fh := r.2 } ((r.1 : Int) - ((x.nonceOff : Int) + 8) + off)
  | k + 3 =>
    obtain ⟨h0, h1, h2⟩ := whence_other ((k + 3 : Nat) : Int) (Or.inr (by omega))
    simp only [h0, h1, h2, Bool.false_eq_true, ↓reduceIte, C09.seek, Except.map]

/-! ### read_nonce -/

theorem tryCatch_ok {α : Type} (a : α) (h : PyExc → Py α) : tryCatch (Except.ok a : Py α) h = .ok a := by rfl
theorem tryCatch_err {α : Type} (e : PyExc) (h : PyExc → Py α) : tryCatch (Except.error e : Py α) h = h e := by rfl

/-- after the `try` block: `self.fh.seek(pos)` and the splice -/
theorem read_nonce_tail (x : C09.XorFile) (f2 : PyFile) (nonce : Bytes) :
    (do
      let t9 ← getAttr (encXor { x with fh := f2 }) "fh"
      let t10 ← fileSeek t9 (V.int ↑x.fh.pos) (V.int 0)
      let t11 ← setAttr (encXor { x with fh := f2 }) "fh" t10.snd
      let t12 ← getAttr t11 "nonce_offset"
      let t13 ← add t12 (V.int 12)
      let t14 ← lt (V.int ↑x.fh.pos) t13
      if t14 = true then do
          let t15 ← getAttr t11 "nonce_offset"
          let t16 ← add t15 (V.int 8)
          let t17 ← sub (V.int ↑x.fh.pos) t16
          let t18 ← getAttr t11 "initial_nonce"
          let t19 ← slice t18 t17 V.none
          let t21 ← sub (V.int 4) t17
          let t20 ← slice (V.bytes nonce) t21 V.none
          let t22 ← add t19 t20
          pure (V.tuple [t22, t11])
        else pure (V.tuple [V.bytes nonce, t11]) : Py V)
      = .ok (encRes (.bytes (C09.spliceNonce x x.fh.pos nonce)) { x with fh := { f2 with pos := x.fh.pos } }) := by
  simp only [PyU.ok_bind, getAttr_fh, fileSeek_nat, setAttr_fh, getAttr_off, getAttr_nonce, add_int, lt_int, sub_int, slice_from,
    add_bytes, pure_ok, C09.spliceNonce, encRes]
  by_cases hp : x.fh.pos < x.nonceOff + 12
  · simp only [decide_eq_true (show (x.fh.pos : Int) < (x.nonceOff : Int) + 12 by omega), if_pos hp, ↓reduceIte]
  · simp only [decide_eq_false (show ¬ (x.fh.pos : Int) < (x.nonceOff : Int) + 12 by omega), if_neg hp, Bool.false_eq_true, ↓reduceIte]

theorem gen_read_nonce_proof (x : C09.XorFile) :
    Gen.PyXor.XorEncodedFile_read_nonce (encXor x) = (C09.readNonce x).map (fun r => encRes (.bytes r.1) r.2) := by
  unfold Gen.PyXor.XorEncodedFile_read_nonce C09.readNonce C09.rawNonce
  simp only [getAttr_fh, fileTell_enc, PyU.ok_bind, fileSeek_cur]
  cases hsc : x.fh.seekCur (-4) with
  | error e =>
    simp only [Except.map, PyRt.error_bind, tryCatch_err]
    by_cases he : e = PyExc.osError
    · simp only [he, ↓reduceIte, pure_ok, PyFile.tell, PyFile.seekSet_ok]
      exact read_nonce_tail x x.fh [0, 0, 0, 0]
    · simp only [he, ↓reduceIte, throw_err, PyRt.error_bind]
  | ok r =>
    simp only [Except.map, PyU.ok_bind, setAttr_fh, getAttr_fh, fileRead_4, pure_ok, PyFile.tell, PyFile.seekSet_ok]
    exact read_nonce_tail x (r.2.read 4).2 (r.2.read 4).1

/-! ### read -/

theorem iadd_bytes (a b : Bytes) : PyU.iadd (.bytes a) (.bytes b) = .ok (.bytes (a ++ b)) := by rfl
theorem ge_int (a b : Int) : PyU.ge (.int a) (.int b) = .ok (!decide (a < b)) := by rfl

/-- the test `n > 0 and len(data) >= n`, whatever follows it -/
theorem enough_test {β : Type} (n : Int) (d : Bytes) (k : Bool → Py β) :
    (do
      let t10 ← PyU.gt (.int n) (V.int 0)
      if t10 = true then do
        let t11 ← PyU.len (.bytes d)
        let t12 ← PyU.ge t11 (.int n)
        k t12
      else k t10) = k (decide (n > 0 ∧ (d.length : Int) ≥ n)) := by
  rw [gt_int, PyU.ok_bind, len_bytes, PyU.ok_bind, ge_int, PyU.ok_bind]
  by_cases h1 : 0 < n
  · by_cases h2 : (d.length : Int) < n
    · have : ¬ (n > 0 ∧ (d.length : Int) ≥ n) := by omega
      simp only [decide_eq_true h1, decide_eq_true h2, decide_eq_false this, if_true, Bool.not_true]
    · have : n > 0 ∧ (d.length : Int) ≥ n := by omega
      simp only [decide_eq_true h1, decide_eq_false h2, decide_eq_true this, if_true, Bool.not_false]
  · have : ¬ (n > 0 ∧ (d.length : Int) ≥ n) := by omega
    simp only [decide_eq_false h1, decide_eq_false this, Bool.false_eq_true, if_false]

theorem read_loop1_body (n : Int) (x : C09.XorFile) (f : PyFile) (data nonce : Bytes) :
    Gen.PyXor.read_loop1 (.int n) (encXor { x with fh := f }, .bytes data, .bytes nonce)
      = .ok (if (f.read 4).1 = [] then (.brk, encXor { x with fh := (f.read 4).2 }, .bytes data, .bytes nonce)
          else (if n > 0 ∧ ((data ++ C20.xor (f.read 4).1 nonce).length : Int) ≥ n then Ctl.brk else Ctl.cont,
            encXor { x with fh := (f.read 4).2 }, .bytes (data ++ C20.xor (f.read 4).1 nonce), .bytes (f.read 4).1)) := by
  simp only [Gen.PyXor.read_loop1, getAttr_fh, fileRead_4, PyU.ok_bind, setAttr_fh, truthy_bytes, Bool.not_not, xor_bytes, iadd_bytes,
    ↓enough_test, pure_ok]
  by_cases hemp : (f.read 4).1 = []
  · simp only [hemp, List.isEmpty_nil, ↓reduceIte]
  · have hne : (f.read 4).1.isEmpty = false := List.isEmpty_eq_false_iff.mpr hemp
    by_cases hbrk : n > 0 ∧ ((data ++ C20.xor (f.read 4).1 nonce).length : Int) ≥ n
    · simp only [hne, Bool.false_eq_true, decide_eq_true hbrk, if_pos hbrk, if_neg hemp, ↓reduceIte]
    · simp only [hne, Bool.false_eq_true, decide_eq_false hbrk, if_neg hbrk, if_neg hemp, ↓reduceIte]

theorem gen_read_loop (n : Int) (x : C09.XorFile) (f : PyFile) (nonce : Bytes) (got : Nat) :
    ∀ (data : Bytes) (fuel : Nat), got = data.length → f.data.length - f.pos < fuel →
    ∃ nonce', whileFuel fuel (Gen.PyXor.read_loop1 (.int n)) (encXor { x with fh := f }, .bytes data, .bytes nonce)
      = .ok (encXor { x with fh := (C09.readLoop n f nonce got).2 }, .bytes (data ++ (C09.readLoop n f nonce got).1), nonce') := by
  fun_induction C09.readLoop n f nonce got with
  | case1 f nonce got hemp =>
    intro data fuel hg hf
    obtain ⟨fu, rfl⟩ : ∃ fu, fuel = fu + 1 := ⟨fuel - 1, by omega⟩
    have hb := read_loop1_body n x f data nonce
    rw [if_pos hemp] at hb
    exact ⟨_, by rw [whileFuel_brk fu hb, List.append_nil]⟩
  | case2 f nonce got hne chunk dec hbrk =>
    intro data fuel hg hf
    obtain ⟨fu, rfl⟩ : ∃ fu, fuel = fu + 1 := ⟨fuel - 1, by omega⟩
    have hb := read_loop1_body n x f data nonce
    have hbrk' : n > 0 ∧ ((data ++ C20.xor (f.read 4).1 nonce).length : Int) ≥ n := by
      rw [List.length_append, ← hg]; exact hbrk
    rw [if_neg hne, if_pos hbrk'] at hb
    exact ⟨_, whileFuel_brk fu hb⟩
  | case3 f nonce got hne chunk dec hcont r ih =>
    intro data fuel hg hf
    obtain ⟨fu, rfl⟩ : ∃ fu, fuel = fu + 1 := ⟨fuel - 1, by omega⟩
    have hb := read_loop1_body n x f data nonce
    have hcont' : ¬ (n > 0 ∧ ((data ++ C20.xor (f.read 4).1 nonce).length : Int) ≥ n) := by
      rw [List.length_append, ← hg]; exact hcont
    rw [if_neg hne, if_neg hcont'] at hb
    have hprog := C09.readLoop_progress f hne
    obtain ⟨nonce', hn'⟩ := ih (data ++ dec) fu (by rw [List.length_append, ← hg]) (by omega)
    exact ⟨nonce', by rw [whileFuel_cont fu hb]; exact hn'.trans (by rw [List.append_assoc])⟩

/-- `if n is None or n < 0: n = -1` -/
theorem gen_read_norm (fuel : Nat) (s : V) (n : Option Int) :
    Gen.PyXor.XorEncodedFile_read fuel s (encOptInt n) = Gen.PyXor.XorEncodedFile_read fuel s (.int (C09.normN n)) := by
  have h2 : PyU.lt (.int (-1)) (.int 0) = .ok true := by rfl
  cases n with
  | none =>
    simp only [Gen.PyXor.XorEncodedFile_read, C09.normN, encOptInt, isNone, Bool.not_true, Bool.not_false, Bool.false_eq_true, ↓reduceIte,
      h2, PyU.ok_bind]
  | some v =>
    by_cases hv : v < 0
    · have h1 : PyU.lt (.int v) (.int 0) = .ok true := by rw [lt_int, decide_eq_true hv]
      simp only [C09.normN, if_pos hv, encOptInt]
      simp only [Gen.PyXor.XorEncodedFile_read, isNone, Bool.not_false, ↓reduceIte, h1, h2, PyU.ok_bind]
    · simp only [C09.normN, if_neg hv, encOptInt]

theorem gen_read_proof (x : C09.XorFile) (n : Option Int) (fuel : Nat) (hf : x.fh.data.length + 1 ≤ fuel) :
    Gen.PyXor.XorEncodedFile_read fuel (encXor x) (encOptInt n) = (C09.read x n).map (fun r => encRes (.bytes r.1) r.2) := by
  rw [C09.read_unfold, gen_read_norm]
  have hm := C09.normN_cases n
  generalize C09.normN n = m at hm ⊢
  obtain ⟨nonce, hrn⟩ := C09.readNonce_restores x
  obtain ⟨nonce', hloop⟩ := gen_read_loop m x x.fh nonce 0 [] fuel rfl (by omega)
  have hloop' : whileFuel fuel (Gen.PyXor.read_loop1 (V.int m)) (encXor x, V.bytes [], V.bytes nonce)
      = .ok (encXor { x with fh := (C09.readLoop m x.fh nonce 0).2 }, V.bytes (C09.readLoop m x.fh nonce 0).1, nonce') := hloop
  rcases hm with rfl | hm
  · have hlt : PyU.lt (.int (-1)) (.int 0) = .ok true := by rfl
    have h0 : ((-1 : Int) == 0) = false := by decide
    simp only [Gen.PyXor.XorEncodedFile_read, isNone, Bool.not_false, hlt, PyU.ok_bind, eq_int, h0, Bool.false_eq_true, ↓reduceIte,
      gen_read_nonce_proof, hrn, Except.map, encRes, unpack2_tuple, hloop', beq_self_eq_true, slice_all, pure_ok, Int.reduceNeg,
      if_neg (show ¬ (-1 : Int) = 0 by decide)]
  · have hlt : PyU.lt (.int m) (.int 0) = .ok false := by rw [lt_int, decide_eq_false (by omega)]
    by_cases h0 : m = 0
    · subst h0
      simp only [Gen.PyXor.XorEncodedFile_read, isNone, Bool.not_false, hlt, PyU.ok_bind, eq_int, beq_self_eq_true,
        Bool.false_eq_true, ↓reduceIte, pure_ok, Except.map, encRes]
    · have hb0 : (m == 0) = false := beq_eq_false_iff_ne.mpr h0
      have h1 : ¬ m = -1 := by omega
      have hb1 : (m == -1) = false := beq_eq_false_iff_ne.mpr h1
      by_cases hgt : ((C09.readLoop m x.fh nonce 0).1.length : Int) > m
      · have hg : PyU.gt (.int ((C09.readLoop m x.fh nonce 0).1.length : Int)) (.int m) = .ok true := by
          rw [gt_int, decide_eq_true hgt]
        simp only [Gen.PyXor.XorEncodedFile_read, isNone, Bool.not_false, hlt, PyU.ok_bind, eq_int, hb0, hb1, Bool.false_eq_true,
          ↓reduceIte, gen_read_nonce_proof, hrn, Except.map, encRes, unpack2_tuple, hloop', len_bytes, hg, getAttr_fh, sub_int,
          fileSeek_cur, if_neg h0, if_neg h1, if_pos hgt]
        cases (C09.readLoop m x.fh nonce 0).2.seekCur (m - ((C09.readLoop m x.fh nonce 0).1.length : Int)) with
        | error e => rfl
        | ok r => simp only [PyU.ok_bind, setAttr_fh, slice_to, pySliceTo, if_pos hm, pure_ok]
      · have hg : PyU.gt (.int ((C09.readLoop m x.fh nonce 0).1.length : Int)) (.int m) = .ok false := by
          rw [gt_int, decide_eq_false hgt]
        simp only [Gen.PyXor.XorEncodedFile_read, isNone, Bool.not_false, hlt, PyU.ok_bind, eq_int, hb0, hb1, Bool.false_eq_true,
          ↓reduceIte, gen_read_nonce_proof, hrn, Except.map, encRes, unpack2_tuple, hloop', len_bytes, hg, slice_to, pySliceTo, if_pos hm, pure_ok,
          if_neg h0, if_neg h1, if_neg hgt]

/-! ### histories through the translated methods -/

theorem unpackRes_map {α : Type} (r : Py α) (g : α → V) (h : α → C09.XorFile) :
    unpackRes (r.map (fun a => encRes (g a) (h a))) = r.map (fun a => (g a, encXor (h a))) := by
  cases r <;> rfl

theorem stepG_eq (x : C09.XorFile) (op : C09.Op) (fuel : Nat) (hf : x.fh.data.length + 1 ≤ fuel) :
    stepG fuel (encXor x) op = (C09.stepOp x op).map (fun r => (encOut r.1, encXor r.2)) := by
  cases op with
  | seek off wh =>
    simp only [stepG, gen_seek_proof, C09.stepOp]
    cases C09.seek x off wh <;> rfl
  | read n =>
    simp only [stepG, gen_read_proof x n fuel hf, C09.stepOp]
    cases C09.read x n <;> rfl
  | tell => simp only [stepG, gen_tell_proof, C09.stepOp]; rfl

theorem stepOp_data {x x' : C09.XorFile} {op : C09.Op} {o : C09.Out} (h : C09.stepOp x op = .ok (o, x')) :
    x'.fh.data = x.fh.data := by
  cases op with
  | seek off wh =>
    simp only [C09.stepOp] at h
    rcases C09.seek_frame x off wh with he | ⟨v, hv⟩
    · rw [he] at h; cases h
    · rw [hv] at h; simp only [Except.map] at h; injection h with h; injection h with _ h; subst h; rfl
  | read n =>
    simp only [C09.stepOp] at h
    obtain ⟨out, q, hr⟩ := C09.read_total x n
    rw [hr] at h; simp only [Except.map] at h; injection h with h; injection h with _ h; subst h; rfl
  | tell =>
    simp only [C09.stepOp] at h
    injection h with h; injection h with _ h; subst h; rfl

theorem runG_eq (ops : List C09.Op) : ∀ (x : C09.XorFile) (fuel : Nat), x.fh.data.length + 1 ≤ fuel →
    runG fuel (encXor x) ops = (C09.run x ops).map (fun r => (r.1.map encOut, encXor r.2)) := by
  induction ops with
  | nil => intro x fuel _; rfl
  | cons op ops ih =>
    intro x fuel hf
    simp only [runG, stepG_eq x op fuel hf, C09.run]
    cases hs : C09.stepOp x op with
    | error e => rfl
    | ok r =>
      obtain ⟨o, x'⟩ := r
      have hd := stepOp_data hs
      simp only [Except.map, ih x' fuel (by rw [hd]; exact hf)]
      cases C09.run x' ops with
      | error e => rfl
      | ok r => rfl

theorem runTraceG_eq (ops : List C09.Op) : ∀ (x : C09.XorFile) (fuel : Nat), x.fh.data.length + 1 ≤ fuel →
    runTraceG fuel (encXor x) ops = (C09.runTrace x ops).map (fun r => r.map encOut) := by
  induction ops with
  | nil => intro x fuel _; rfl
  | cons op ops ih =>
    intro x fuel hf
    simp only [runTraceG, stepG_eq x op fuel hf, C09.runTrace]
    cases hs : C09.stepOp x op with
    | error e => simp only [Except.map, List.map_cons, ih x fuel hf]
    | ok r =>
      obtain ⟨o, x'⟩ := r
      have hd := stepOp_data hs
      simp only [Except.map, List.map_cons, ih x' fuel (by rw [hd]; exact hf)]

end C09Gen

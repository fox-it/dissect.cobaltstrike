import CsVerif.Model.C15Gen
import CsVerif.Model.PyFile
import CsVerif.Lemmas.PyULib
/-! The file-object operations of `PyU` (Model/PyU_T15.lean: `fileRead`, `fileSeek`, `fileTell` on `C15Gen.encFile f`) against `PyFile`,
for every translation tie whose code works on a file object (C15Gen, C09Gen, C18Gen, C17GenU, C01Gen). -/
namespace C15Gen
open PyU

theorem pure_ok {α : Type} (a : α) : (pure a : Py α) = .ok a := by rfl
theorem throw_err {α : Type} (e : PyExc) : (throw e : Py α) = .error e := by rfl

/-! ### file objects -/

theorem kindNat_cases (k : FileKind) : ((kindNat k : Nat) : Int) = 0 ∨ ((kindNat k : Nat) : Int) = 1 := by
  cases k <;> simp [kindNat]

theorem asFile_mk (d : Bytes) (p k : Nat) (hk : k = 0 ∨ k = 1) : asFile (mkFile d p k) = some (d, p, k) := by
  rcases hk with rfl | rfl <;> simp [asFile, mkFile]

theorem asFile_enc (f : PyFile) : asFile (encFile f) = some (f.data, f.pos, kindNat f.kind) :=
  asFile_mk _ _ _ (by cases f.kind <;> simp [kindNat])

theorem fileTell_enc (f : PyFile) : fileTell (encFile f) = .ok (.int (f.pos : Int)) := by
  simp [fileTell, asFile_enc]

theorem fileRead_enc (f : PyFile) (n : Int) (h : -1 ≤ n ∨ f.kind = .bytesIO) :
    fileRead (encFile f) (.int n) = .ok (.bytes (f.read n).1, encFile (f.read n).2) := by
  have hk : ¬ (n < -1 ∧ kindNat f.kind = 1) := by
    rcases h with h | h
    · omega
    · simp [h, kindNat]
  simp only [fileRead, asFile_enc, asInt, hk, if_false, PyFile.read]
  rfl

theorem fileRead_nat (f : PyFile) (n : Nat) :
    fileRead (encFile f) (.int (n : Int)) = .ok (.bytes (f.read n).1, encFile (f.read n).2) :=
  fileRead_enc f n (Or.inl (by omega))

theorem negSeekExc_eq (f : PyFile) : PyU.negSeekExc (kindNat f.kind) = f.negSeekExc := by
  cases hk : f.kind <;> simp [PyU.negSeekExc, PyFile.negSeekExc, kindNat, hk]

theorem fileSeek_set (f : PyFile) (o : Int) :
    fileSeek (encFile f) (.int o) (.int 0)
      = (f.seekSet o).map (fun r => (V.int (r.1 : Int), encFile r.2)) := by
  simp only [fileSeek, asFile_enc, asInt, if_true, PyFile.seekSet, negSeekExc_eq]
  split
  · rfl
  · rename_i h
    have : ((o.toNat : Nat) : Int) = o := by omega
    simp only [Except.map, encFile, this]

theorem gt_int (a b : Int) : PyU.gt (.int a) (.int b) = .ok (decide (b < a)) := by rfl
theorem lt_int (a b : Int) : PyU.lt (.int a) (.int b) = .ok (decide (a < b)) := by rfl
theorem len_bytes (b : Bytes) : PyU.len (.bytes b) = .ok (.int (b.length : Int)) := by rfl
theorem sub_int (a b : Int) : PyU.sub (.int a) (.int b) = .ok (.int (a - b)) := by rfl
theorem add_int (a b : Int) : PyU.add (.int a) (.int b) = .ok (.int (a + b)) := by rfl
theorem nat_ne_neg1 (q : Nat) : ((q : Int) == -1) = false := by
  simp only [beq_eq_false_iff_ne, ne_eq]; omega

theorem truthy_bytes (b : Bytes) : truthy (.bytes b) = !b.isEmpty := by rfl
theorem add_bytes (a b : Bytes) : PyU.add (.bytes a) (.bytes b) = .ok (.bytes (a ++ b)) := by rfl

theorem fileRead_4 (f : PyFile) : fileRead (encFile f) (.int 4) = .ok (.bytes (f.read 4).1, encFile (f.read 4).2) :=
  fileRead_enc f 4 (Or.inl (by omega))
theorem fileRead_8 (f : PyFile) : fileRead (encFile f) (.int 8) = .ok (.bytes (f.read 8).1, encFile (f.read 8).2) :=
  fileRead_enc f 8 (Or.inl (by omega))
theorem eq_int (a b : Int) : PyU.eq (.int a) (.int b) = (a == b) := by rfl
theorem iadd_int (a b : Int) : PyU.iadd (.int a) (.int b) = .ok (.int (a + b)) := by rfl

/-! ### relative seeks -/

theorem fileSeek_rel (f : PyFile) (o : Int) (w : Int) (base : Nat) (hw : w = 1 ∨ w = 2)
    (hb : base = if w = 1 then f.pos else f.data.length) :
    fileSeek (encFile f) (.int o) (.int w) = (f.seekRel base o).map (fun r => (V.int (r.1 : Int), encFile r.2)) := by
  have hw0 : ¬ w = 0 := by omega
  simp only [fileSeek, asFile_enc, asInt, hw0, if_false, hw, if_true, PyFile.seekRel]
  have hbase : (if w = 1 then (f.pos : Int) else (f.data.length : Int)) = (base : Int) := by
    rw [hb]; split <;> rfl
  rw [hbase]
  by_cases ht : (base : Int) + o < 0
  · simp only [ht, if_true]
    cases hk : f.kind <;> simp [kindNat, Except.map, encFile]
  · have : (((base : Int) + o).toNat : Int) = (base : Int) + o := by omega
    simp only [ht, if_false, Except.map, encFile, this]

theorem fileSeek_cur (f : PyFile) (o : Int) :
    fileSeek (encFile f) (.int o) (.int 1) = (f.seekCur o).map (fun r => (V.int (r.1 : Int), encFile r.2)) :=
  fileSeek_rel f o 1 f.pos (Or.inl rfl) (by simp)

theorem fileSeek_end (f : PyFile) (o : Int) :
    fileSeek (encFile f) (.int o) (.int 2) = (f.seekEnd o).map (fun r => (V.int (r.1 : Int), encFile r.2)) :=
  fileSeek_rel f o 2 f.data.length (Or.inr rfl) (by simp)

theorem fileSeek_nat (f : PyFile) (n : Nat) :
    fileSeek (encFile f) (.int (n : Int)) (.int 0) = .ok (.int (n : Int), encFile { f with pos := n }) := by
  rw [fileSeek_set, PyFile.seekSet_ok]; rfl

end C15Gen

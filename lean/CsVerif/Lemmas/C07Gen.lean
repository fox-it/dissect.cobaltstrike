import CsVerif.Model.C07Gen
import CsVerif.Lemmas.C16Gen
import CsVerif.Lemmas.C04Gen
import CsVerif.Lemmas.C05Gen
import CsVerif.Lemmas.C06Gen
import CsVerif.Lemmas.PyULib
/-! Helper lemmas for `Props/C07Gen.lean`: the translated `get_transform_for_http`, `C2Http.__init__` and `iter_recover_http` against
the model, through the ties of the functions they call (C16Gen, C04Gen, C05Gen, C06Gen).  Blocks of the translated text are stated
as lemmas with the rest of the function as a continuation `K` (`derivefrag`, `keyfrag`, `keysfrag`). -/
namespace C07Gen
open PyU (V)
open C07

theorem prefixAny_bytes (u : Bytes) (uris : List Bytes) :
    PyU.t07PrefixAny (.bytes u) (uris.map .bytes) = .ok (startsWithAny u uris) := by
  induction uris with
  | nil => rfl
  | cons p ps ih =>
    simp only [List.map, PyU.t07PrefixAny, PyU.t07Prefix1, startsWithAny, List.any_cons]
    cases hp : p.isPrefixOf u
    · simp only [ih, startsWithAny, Bool.false_or]
    · rfl

theorem startswith_tuple (u : Bytes) (uris : List Bytes) :
    PyU.t07Startswith (.bytes u) (.tuple (uris.map .bytes)) = .ok (.bool (startsWithAny u uris)) := by
  simp only [PyU.t07Startswith, prefixAny_bytes]; rfl

theorem startswith_bytes (u p : Bytes) : PyU.t07Startswith (.bytes u) (.bytes p) = .ok (.bool (p.isPrefixOf u)) := by rfl

theorem reprText_bind {α : Type} (v : V) (k : Py α) : (PyU.t07ReprText v >>= fun _ => k) = k := by
  unfold PyU.t07ReprText
  cases PyU.repr v <;> rfl

/-- what the methods read from `self`: the fields are found by comparing names -/
theorem getAttr_encSelf (cfg : HttpCfg) (tg ts tr : V) (o : Rest) :
    PyU.getAttr (encSelf cfg tg ts tr o) "get_verb" = .ok (.bytes cfg.getVerb) ∧
    PyU.getAttr (encSelf cfg tg ts tr o) "get_uris" = .ok (.tuple (cfg.getUris.map .bytes)) ∧
    PyU.getAttr (encSelf cfg tg ts tr o) "submit_verb" = .ok (.bytes cfg.submitVerb) ∧
    PyU.getAttr (encSelf cfg tg ts tr o) "submit_uri" = .ok (.bytes cfg.submitUri) ∧
    PyU.getAttr (encSelf cfg tg ts tr o) "transform_get" = .ok tg ∧
    PyU.getAttr (encSelf cfg tg ts tr o) "transform_submit" = .ok ts ∧
    PyU.getAttr (encSelf cfg tg ts tr o) "transform_response" = .ok tr ∧
    PyU.getAttr (encSelf cfg tg ts tr o) "verify_hmac" = .ok o.verify_hmac ∧
    PyU.getAttr (encSelf cfg tg ts tr o) "priv" = .ok o.priv ∧
    PyU.getAttr (encSelf cfg tg ts tr o) "metadata_cache" = .ok o.metadata_cache ∧
    PyU.getAttr (encSelf cfg tg ts tr o) "beacon_keys" = .ok o.beacon_keys := by
  unfold encSelf PyU.getAttr
  simp only [Gen.PyC2H.C2Http, PyU.lookupField, String.reduceBEq, Bool.false_eq_true, ↓reduceIte, and_self]

theorem gen_get_transform_for_http_request (us : V → Py V) (pq : V → V → Py V) (cfg : HttpCfg) (tg ts tr : V) (o : Rest) (m u : Bytes) (p h b : V) :
    Gen.PyC2H.get_transform_for_http us pq (encSelf cfg tg ts tr o) (.inst Gen.PyC2U.HttpRequest [.bytes m, .bytes u, p, h, b]) =
      match routeRequest cfg m u with
      | some rt => .ok (pick tg ts tr rt)
      | none => .error .valueError := by
  have hb : PyU.isInstance (V.inst Gen.PyC2U.HttpRequest [.bytes m, .bytes u, p, h, b]) [PyU.Ty.bytes] = false := rfl
  have hr : PyU.isInstance (V.inst Gen.PyC2U.HttpRequest [.bytes m, .bytes u, p, h, b]) [PyU.Ty.cls Gen.PyC2U.HttpRequest] = true := rfl
  have a1 : PyU.getAttr (V.inst Gen.PyC2U.HttpRequest [.bytes m, .bytes u, p, h, b]) "method" = .ok (.bytes m) := rfl
  have a2 : PyU.getAttr (V.inst Gen.PyC2U.HttpRequest [.bytes m, .bytes u, p, h, b]) "uri" = .ok (.bytes u) := rfl
  obtain ⟨s1, s2, s3, s4, s5, s6, -⟩ := getAttr_encSelf cfg tg ts tr o
  have e1 : PyU.eq (.bytes m) (.bytes cfg.getVerb) = (m == cfg.getVerb) := rfl
  have e2 : PyU.eq (.bytes m) (.bytes cfg.submitVerb) = (m == cfg.submitVerb) := rfl
  unfold Gen.PyC2H.get_transform_for_http
  simp only [hb, hr, a1, a2, s1, s2, s3, s4, s5, s6, e1, e2, startswith_tuple, startswith_bytes, PyU.ok_bind, Bool.false_eq_true, ↓reduceIte]
  simp only [reprText_bind, routeRequest]
  cases h1 : (m == cfg.getVerb) <;> cases h2 : startsWithAny u cfg.getUris <;> cases h3 : (m == cfg.submitVerb) <;>
    cases h4 : cfg.submitUri.isPrefixOf u <;> rfl


theorem gen_get_transform_for_http_response (us : V → Py V) (pq : V → V → Py V) (cfg : HttpCfg) (tg ts tr : V) (o : Rest) (a b c d e : V) :
    Gen.PyC2H.get_transform_for_http us pq (encSelf cfg tg ts tr o) (.inst Gen.PyC2U.HttpResponse [a, b, c, d, e]) = .ok tr := by
  have hb : PyU.isInstance (V.inst Gen.PyC2U.HttpResponse [a, b, c, d, e]) [PyU.Ty.bytes] = false := rfl
  have hr : PyU.isInstance (V.inst Gen.PyC2U.HttpResponse [a, b, c, d, e]) [PyU.Ty.cls Gen.PyC2U.HttpRequest] = false := rfl
  have hs : PyU.isInstance (V.inst Gen.PyC2U.HttpResponse [a, b, c, d, e]) [PyU.Ty.cls Gen.PyC2U.HttpResponse] = true := rfl
  have s7 := (getAttr_encSelf cfg tg ts tr o).2.2.2.2.2.2.1
  unfold Gen.PyC2H.get_transform_for_http
  simp only [hb, hr, hs, s7, Bool.false_eq_true, ↓reduceIte]

theorem gen_msg (us : V → Py V) (pq : V → V → Py V) (cfg : HttpCfg) (tg ts tr : V) (o : Rest) (status reason request : V) (h : C04.Http) :
    Gen.PyC2H.get_transform_for_http us pq (encSelf cfg tg ts tr o) (C04Gen.encHttp status reason request h) =
      (routeInput cfg (.msg h)).map (pick tg ts tr) := by
  cases h with
  | request r =>
    simp only [C04Gen.encHttp, C04Gen.encReq, gen_get_transform_for_http_request, routeInput, routeHttp]
    cases routeRequest cfg r.method r.uri <;> rfl
  | response hs b =>
    simp only [C04Gen.encHttp, gen_get_transform_for_http_response, routeInput, routeHttp]
    rfl

theorem encMsg_http (m : C16.Msg) : ∃ st re rq, C16Gen.encMsg m = C04Gen.encHttp st re rq (msgToHttp m) := by
  cases m with
  | request m u ps hs b => exact ⟨.none, .none, .none, rfl⟩
  | response st r hs b => exact ⟨.int st, .bytes r, .none, rfl⟩

theorem get_transform_for_http_bytes (self : V) (d : Bytes) :
    Gen.PyC2H.get_transform_for_http C16Gen.urlsplitX C16Gen.parseQslX self (.bytes d) =
      match C16.parseRawHttp d with
      | .error e => .error e
      | .ok m => Gen.PyC2H.get_transform_for_http C16Gen.urlsplitX C16Gen.parseQslX self (C16Gen.encMsg m) := by
  have hb : PyU.isInstance (V.bytes d) [PyU.Ty.bytes] = true := rfl
  conv =>
    lhs
    unfold Gen.PyC2H.get_transform_for_http
    simp only [hb, ↓reduceIte, C16Gen.gen_parse_raw_http_proof]
  cases C16.parseRawHttp d with
  | error e => rfl
  | ok m => cases m <;> rfl

theorem gen_raw (cfg : HttpCfg) (tg ts tr : V) (o : Rest) (d : Bytes) :
    Gen.PyC2H.get_transform_for_http C16Gen.urlsplitX C16Gen.parseQslX (encSelf cfg tg ts tr o) (.bytes d) =
      (routeInput cfg (.raw d)).map (pick tg ts tr) := by
  rw [get_transform_for_http_bytes, routeInput]
  cases C16.parseRawHttp d with
  | error e => rfl
  | ok m =>
    obtain ⟨st, re, rq, he⟩ := encMsg_http m
    dsimp only
    rw [he]
    exact gen_msg _ _ cfg tg ts tr o st re rq (msgToHttp m)

/-! ### the constructor -/

open C04Gen (encOB)
open PyU (lift_ok lift_err okA_bind errA_bind pureA_ok throwA)

theorem truthy_encOB (o : Option Bytes) : PyU.truthy (encOB o) = C07.truthy o := by
  cases o with
  | none => rfl
  | some b => cases b <;> rfl

theorem truthy_encPriv (o : Option Int) : PyU.truthy (encPriv o) = o.isSome := by
  cases o <;> rfl

theorem any3 (ak ar : Option Bytes) (p : Option Int) :
    PyU.t07Any (.list [encOB ak, encOB ar, encPriv p]) = .ok (.bool (C07.truthy ak || C07.truthy ar || p.isSome)) := by
  simp [PyU.t07Any, PyU.iterList, Except.map, truthy_encOB, truthy_encPriv, Bool.or_assoc]

theorem isNone_encOB (o : Option Bytes) : PyU.isNone (encOB o) = o.isNone := by cases o <;> rfl

theorem eq_len16 (b : Bytes) : PyU.eq (.int (b.length : Int)) (.int 16) = (b.length == 16) := PyU.eq_int_nat b.length 16

theorem reprText_bindA {α : Type} (v : V) (k : PyU.PyA α) :
    ((liftM (PyU.t07ReprText v) : PyU.PyA PyRt.Str) >>= fun _ => k) = k := by
  unfold PyU.t07ReprText
  cases PyU.repr v <;> rfl

theorem truthy_bool (b : Bool) : PyU.truthy (.bool b) = b := by rfl

theorem mkDict_nil : PyU.mkDict [] = .ok (.dict [] []) := by rfl
theorem len_bytes (b : Bytes) : PyU.len (.bytes b) = .ok (.int (b.length : Int)) := by rfl
theorem getAttr_bc_pk (s u p t : V) : PyU.getAttr (encBConfig s u p t) "public_key" = .ok p := by rfl
theorem getAttr_bc_trial (s u p t : V) : PyU.getAttr (encBConfig s u p t) "is_trial" = .ok t := by rfl
theorem getAttr_bc_settings (s u p t : V) : PyU.getAttr (encBConfig s u p t) "settings" = .ok s := by rfl
theorem getAttr_bc_uris (s u p t : V) : PyU.getAttr (encBConfig s u p t) "uris" = .ok u := by rfl
theorem getAttr_key_n (n : Int) : PyU.getAttr (encKey n) "n" = .ok (.int n) := by rfl
theorem eq_int (a b : Int) : PyU.eq (.int a) (.int b) = (a == b) := by rfl
theorem encodeUtf8_str (s : PyRt.Str) (b : Bytes) (h : PyU.utf8Enc s = .ok b) : PyU.encodeUtf8 (.str s) = .ok (.bytes b) := by
  simp [PyU.encodeUtf8, h, Except.map]

theorem comp_uris (d i : V → Py V) : ∀ (uris : List PyRt.Str) (bs : List Bytes) (acc : List V), encodeAll uris = .ok bs →
    PyU.forList (uris.map .str) (Gen.PyC2H.__init___comp1 d i) (.list acc) = .ok (.list (acc ++ bs.map .bytes))
  | [], bs, acc, h => by
    simp only [encodeAll] at h
    injection h with h; subst h
    simp [PyU.forList]
  | u :: us, bs, acc, h => by
    simp only [encodeAll] at h
    cases hu : PyU.utf8Enc u with
    | error e => rw [hu] at h; cases h
    | ok b =>
      rw [hu] at h
      cases hr : encodeAll us with
      | error e => rw [hr] at h; cases h
      | ok bs' =>
        rw [hr] at h
        simp only [Except.map] at h
        injection h with h; subst h
        have step : Gen.PyC2H.__init___comp1 d i (.str u) (.list acc) = .ok (PyU.Ctl.cont, .list (acc ++ [.bytes b])) := by
          unfold Gen.PyC2H.__init___comp1
          simp only [encodeUtf8_str u b hu, lift_ok, okA_bind, PyU.append]
          rfl
        simp only [List.map, PyU.forList, step]
        have ih := comp_uris d i us bs' (acc ++ [.bytes b]) hr
        rw [ih]
        simp

theorem fmtAltHex_bindA {α : Type} (n : Int) (k : PyU.PyA α) :
    ((liftM (PyU.t07FmtAltHex (.int n)) : PyU.PyA PyRt.Str) >>= fun _ => k) = k := by
  simp only [PyU.t07FmtAltHex, PyU.asInt]
  split <;> rfl

/-- the `if aes_rand:` block with the rest of the function as `K`: either way the rest runs on the keys `mkDecoder` calls `k0` -/
theorem derivefrag (c : C06.Crypto) (ak hk ar : Option Bytes) (K : V × V → PyU.PyA V) :
    (if PyU.truthy (encOB ar) = true then do
        let t2 ← (liftM (deriveX c.sha256 (encOB ar)) : PyU.PyA V)
        let t3 ← (liftM (PyU.unpack2 t2) : PyU.PyA (V × V))
        K t3
      else K (encOB ak, encOB hk)) =
    K (encOB (if C07.truthy ar then (some (C06.deriveKeys c (ar.getD [])).1, some (C06.deriveKeys c (ar.getD [])).2) else (ak, hk)).1,
       encOB (if C07.truthy ar then (some (C06.deriveKeys c (ar.getD [])).1, some (C06.deriveKeys c (ar.getD [])).2) else (ak, hk)).2) := by
  rw [truthy_encOB]
  cases ar with
  | none => rfl
  | some r =>
    cases ht : C07.truthy (some r) with
    | false => rfl
    | true =>
      simp only [↓reduceIte, encOB, deriveX, C05Gen.derive_eq, Except.map, lift_ok, okA_bind]
      rfl

/-- the `is not None and len(·) != 16` test of one key (its `raise` already evaluated), with the rest of the function as `K` -/
theorem keyfrag (o : Option Bytes) (K : PyU.PyA V) :
    (if (!PyU.isNone (encOB o)) = true then do
        let t4 ← (liftM (PyU.len (encOB o)) : PyU.PyA V)
        if (!PyU.eq t4 (V.int 16)) = true then .error (.py .valueError) else K
      else if (!PyU.isNone (encOB o)) = true then .error (.py .valueError) else K) =
    if o.any (·.length != 16) then .error (.py .valueError) else K := by
  cases o with
  | none => rfl
  | some a =>
    have e2 : encOB (some a) = V.bytes a := rfl
    have i2 : PyU.isNone (V.bytes a) = false := rfl
    simp only [e2, i2, Bool.not_false, ↓reduceIte, len_bytes, lift_ok, okA_bind, eq_len16, Option.any_some]
    by_cases ha : a.length = 16 <;> simp [ha]

/-! ### `iter_recover_http`: unrelated requests -/

theorem gen_iter_recover_http_unrelated_msg (us : V → Py V) (pq : V → V → Py V) (b64 ub64 : V → Py V) (rsa : V → V → V → Py V) (der ipk : V → Py V)
    (dps : V → V → V → Py V) (cbp tkp : V → Py V)
    (cfg : HttpCfg) (tg ts tr : V) (o : Rest) (keys : V) (r : C04.Req) (h : routeRequest cfg r.method r.uri = none) :
    Gen.PyC2H.iter_recover_http us pq b64 ub64 rsa der ipk dps cbp tkp (encSelf cfg tg ts tr o) (C04Gen.encReq r) keys
      = .error (.py .valueError) := by
  have hb : PyU.isInstance (C04Gen.encReq r) [PyU.Ty.bytes] = false := rfl
  have hg := gen_msg us pq cfg tg ts tr o .none .none .none (.request r)
  simp only [C04Gen.encHttp, routeInput, routeHttp, h] at hg
  unfold Gen.PyC2H.iter_recover_http
  have hk := (getAttr_encSelf cfg tg ts tr o).2.2.2.2.2.2.2.2.2.2
  simp only [hb, Bool.false_eq_true, ↓reduceIte, hg, hk, Except.map, lift_ok, lift_err, okA_bind, errA_bind]
  split <;> rfl

theorem iter_recover_http_bytes (b64 ub64 : V → Py V) (rsa : V → V → V → Py V) (der ipk : V → Py V)
    (dps : V → V → V → Py V) (cbp tkp : V → Py V) (self keys : V) (data : Bytes) :
    Gen.PyC2H.iter_recover_http C16Gen.urlsplitX C16Gen.parseQslX b64 ub64 rsa der ipk dps cbp tkp self (.bytes data) keys =
      match C16.parseRawHttp data with
      | .error e => .error (.py e)
      | .ok m => Gen.PyC2H.iter_recover_http C16Gen.urlsplitX C16Gen.parseQslX b64 ub64 rsa der ipk dps cbp tkp self
          (C16Gen.encMsg m) keys := by
  have hb : PyU.isInstance (V.bytes data) [PyU.Ty.bytes] = true := rfl
  -- only the left side is unfolded and rewritten; on the right the test `isinstance(http, bytes)` of a message object evaluates
  conv =>
    lhs
    unfold Gen.PyC2H.iter_recover_http
    simp only [hb, ↓reduceIte, C16Gen.gen_parse_raw_http_proof]
  cases C16.parseRawHttp data with
  | error e => rfl
  | ok m => cases m <;> rfl

/-! ### `iter_recover_http` against `C07.iterRecoverHttp` -/

theorem optBytes_encOB (o : Option Bytes) : optBytes? (encOB o) = some o := by cases o <;> rfl

theorem dps_eq (c : C05.Crypto) (p : C05.Packet) (verify : Bool) (k : Keys) :
    decryptPacketStarX c (encPacket p) (.bool verify) (keysV k) =
      (C05.decryptPacket c p k.aesKey k.hmacKey k.iv verify).map .bytes := by
  simp only [decryptPacketStarX, encPacket, keysV, optBytes_encOB]
  have : (Gen.PyC2H.BeaconKeys.isTuple && Gen.PyC2H.BeaconKeys.fields == ["aes_key", "hmac_key", "iv"]) = true := by decide
  simp only [this, ↓reduceIte, C05Gen.decrypt_packet_eq]
  rfl

theorem loop_step {us : V → Py V} {pq : V → V → Py V} {b64 ub64 : V → Py V} {rsa : V → V → V → Py V} {der ipk : V → Py V}
    (c : Crypto) (self c2data : V) (k : Keys) (verify isReq : Bool)
    (hv : PyU.getAttr self "verify_hmac" = .ok (.bool verify))
    (h1 : PyU.isInstance c2data [PyU.Ty.cls Gen.PyC2U.ClientC2Data] = isReq)
    (h2 : PyU.isInstance c2data [PyU.Ty.cls Gen.PyC2U.ServerC2Data] = !isReq) (p : C05.Packet) (ys : List V) :
    Gen.PyC2H.iter_recover_http_loop1 us pq b64 ub64 rsa der ipk (decryptPacketStarX c.sym) callbackPacketX taskPacketX self (keysV k)
        c2data (encPacket p) (V.list ys)
      = match (C05.decryptPacketT c.sym p k.aesKey k.hmacKey k.iv verify).1 with
        | .error e => .error (.py e)
        | .ok pt =>
          match parseItem isReq pt with
          | .error e => .error (.py e)
          | .ok it => .ok (PyU.Ctl.cont, V.list (ys ++ [encItem it])) := by
  unfold Gen.PyC2H.iter_recover_http_loop1
  simp only [hv, lift_ok, okA_bind, dps_eq, C05.decryptPacket]
  cases hd : (C05.decryptPacketT c.sym p k.aesKey k.hmacKey k.iv verify).1 with
  | error e => rfl
  | ok pt =>
    simp only [Except.map, lift_ok, okA_bind, h1, h2, parseItem]
    cases isReq with
    | true =>
      simp only [↓reduceIte, callbackPacketX]
      cases parseCallback pt <;> rfl
    | false =>
      simp only [Bool.false_eq_true, Bool.not_false, ↓reduceIte, taskPacketX]
      cases parseTask pt <;> rfl

theorem loop_packets {us : V → Py V} {pq : V → V → Py V} {b64 ub64 : V → Py V} {rsa : V → V → V → Py V} {der ipk : V → Py V}
    (c : Crypto) (self c2data : V) (k : Keys) (verify isReq : Bool)
    (hv : PyU.getAttr self "verify_hmac" = .ok (.bool verify))
    (h1 : PyU.isInstance c2data [PyU.Ty.cls Gen.PyC2U.ClientC2Data] = isReq)
    (h2 : PyU.isInstance c2data [PyU.Ty.cls Gen.PyC2U.ServerC2Data] = !isReq) :
    ∀ (ps : List C05.Packet) (ys : List V),
      PyU.forList (ps.map encPacket)
          (Gen.PyC2H.iter_recover_http_loop1 us pq b64 ub64 rsa der ipk (decryptPacketStarX c.sym) callbackPacketX taskPacketX self (keysV k) c2data)
          (V.list ys)
        = match (decodePackets c k verify isReq ps).exc with
          | none => .ok (.list (ys ++ (decodePackets c k verify isReq ps).items.map encItem))
          | some e => .error (encExcA e)
  | [], ys => by simp [PyU.forList, decodePackets]
  | p :: ps, ys => by
    simp only [List.map, PyU.forList, decodePackets, loop_step c self c2data k verify isReq hv h1 h2]
    cases hd : (C05.decryptPacketT c.sym p k.aesKey k.hmacKey k.iv verify).1 with
    | error e => rfl
    | ok pt =>
      dsimp only
      cases hp : parseItem isReq pt with
      | error e => rfl
      | ok it =>
        dsimp only
        rw [loop_packets c self c2data k verify isReq hv h1 h2 ps]
        cases (decodePackets c k verify isReq ps).exc with
        | none => simp
        | some e => rfl


theorem findKey_cache (blob : Bytes) (cache : List (Bytes × C06.Metadata)) :
    PyU.findKey (.bytes blob) (cache.map fun p => V.bytes p.1) (cache.map fun p => C06Gen.encMeta p.2) =
      (cache.lookup blob).map C06Gen.encMeta :=
  PyU.findKey_assoc V.bytes C06Gen.encMeta PyU.keyEq_bytes blob cache

theorem dictGet_cache (cache : List (Bytes × C06.Metadata)) (blob : Bytes) :
    PyU.dictGet (encCache cache) (.bytes blob) .none =
      .ok (match cache.lookup blob with | some m => C06Gen.encMeta m | none => .none) := by
  have hh : PyU.hashable (V.bytes blob) = true := rfl
  simp only [PyU.dictGet, encCache, hh, ↓reduceIte, findKey_cache]
  cases cache.lookup blob <;> rfl

theorem setItem_cache (cache : List (Bytes × C06.Metadata)) (blob : Bytes) (m : C06.Metadata) (h : cache.lookup blob = none) :
    PyU.setItem (encCache cache) (.bytes blob) (C06Gen.encMeta m) = .ok (encCache (cache ++ [(blob, m)])) := by
  have hh : PyU.hashable (V.bytes blob) = true := rfl
  simp only [PyU.setItem, encCache, hh, ↓reduceIte, PyU.dictInsert, findKey_cache, h, Option.map_none, List.map_append, List.map]

theorem isNone_encMeta (m : C06.Metadata) : PyU.isNone (C06Gen.encMeta m) = false := by rfl

theorem truthy_keysV (k : Keys) : PyU.truthy (keysV k) = true := by rfl

theorem resultCls_eq (h : C04.Http) : C04Gen.resultCls h = clsOf (isRequest h) := by cases h <;> rfl

theorem iterPacketsX_enc (isReq : Bool) (c2 : C04.C2Data) :
    iterPacketsX (C04Gen.encC2 (clsOf isReq) c2) =
      .ok (.tuple [.list ((frames isReq c2.output).1.map encPacket), encExcCode (frames isReq c2.output).2]) := by
  cases isReq <;> cases ho : c2.output <;> simp [iterPacketsX, C04Gen.encC2, C04Gen.encOB, clsOf, frames, ho] <;> rfl

theorem packets_tail (c : Crypto) (k : Keys) (verify isReq : Bool) (c2 : C04.C2Data) (ys : List V) (self' : V)
    (hv : PyU.getAttr self' "verify_hmac" = .ok (.bool verify)) :
    (do
      let t30 ← (liftM (iterPacketsX (C04Gen.encC2 (clsOf isReq) c2)) : PyU.PyA V)
      let t31 ← (liftM (PyU.getItem t30 (V.int 0)) : PyU.PyA V)
      let t32 ← (liftM (PyU.iterList t31) : PyU.PyA (List V))
      let t38 ←
        PyU.forList t32
            (Gen.PyC2H.iter_recover_http_loop1 C16Gen.urlsplitX C16Gen.parseQslX C04Gen.b64decodeX
              C04Gen.urlsafeB64decodeX (C06Gen.decX c.asym) (deriveX c.asym.sha256) iterPacketsX
              (decryptPacketStarX c.sym) callbackPacketX taskPacketX self' (keysV k)
              (C04Gen.encC2 (clsOf isReq) c2))
            (V.list ys)
      let t39 ← (liftM (PyU.getItem t30 (V.int 1)) : PyU.PyA V)
      let _ ← (liftM (PyU.t07Reraise t39) : PyU.PyA V)
      pure (V.tuple [t38, self'])) = packResult c k verify isReq c2.output ys self' := by
  have h1 : PyU.isInstance (C04Gen.encC2 (clsOf isReq) c2) [PyU.Ty.cls Gen.PyC2U.ClientC2Data] = isReq := by cases isReq <;> rfl
  have h2 : PyU.isInstance (C04Gen.encC2 (clsOf isReq) c2) [PyU.Ty.cls Gen.PyC2U.ServerC2Data] = !isReq := by cases isReq <;> rfl
  have g1 : ∀ a b : V, PyU.getItem (.tuple [a, b]) (V.int 1) = .ok b := fun _ _ => rfl
  simp only [iterPacketsX_enc, lift_ok, okA_bind, PyU.getItem_tuple_zero, g1, PyU.iterList,
    loop_packets c self' (C04Gen.encC2 (clsOf isReq) c2) k verify isReq hv h1 h2, packResult]
  cases (decodePackets c k verify isReq (frames isReq c2.output).1).exc with
  | some e => rfl
  | none =>
    simp only [okA_bind]
    cases (frames isReq c2.output).2 with
    | none => rfl
    | some e =>
      have : PyU.t07Reraise (encExcCode (some e)) = .error e := by cases e <;> rfl
      simp only [this, lift_err, errA_bind]

theorem packResult_encOut (c : Crypto) (k : Keys) (verify isReq : Bool) (output : Option Bytes) (items : List Item)
    (tg ts tr : V) (o : Rest) (privV : V) (d' : Decoder) (calls : List Call) (self' : V) (hs : self' = encDec tg ts tr o privV d') :
    packResult c k verify isReq output (items.map encItem) self' =
      encOut tg ts tr o privV
        ⟨items ++ (decodePackets c k verify isReq (frames isReq output).1).items,
         match (decodePackets c k verify isReq (frames isReq output).1).exc with
         | some e => some e
         | none => (frames isReq output).2.map Exc.py,
         d', calls⟩ := by
  subst hs
  simp only [packResult, encOut]
  cases (decodePackets c k verify isReq (frames isReq output).1).exc with
  | some e => rfl
  | none => cases (frames isReq output).2 <;> simp only [Option.map, List.map_append] <;> rfl

theorem setCache (tg ts tr : V) (o : Rest) (privV : V) (d : Decoder) (c' : List (Bytes × C06.Metadata)) :
    PyU.instSetAttr (encDec tg ts tr o privV d) "metadata_cache" (encCache c') = .ok (encDec tg ts tr o privV { d with cache := c' }) := by
  unfold encDec encSelf PyU.instSetAttr
  simp only [Gen.PyC2H.C2Http, PyU.setField, String.reduceBEq, Bool.false_eq_true, ↓reduceIte, Option.map]

theorem setKeys (tg ts tr : V) (o : Rest) (privV : V) (d : Decoder) (k' : Keys) :
    PyU.instSetAttr (encDec tg ts tr o privV d) "beacon_keys" (keysV k') = .ok (encDec tg ts tr o privV { d with keys := k' }) := by
  unfold encDec encSelf PyU.instSetAttr
  simp only [Gen.PyC2H.C2Http, PyU.setField, String.reduceBEq, Bool.false_eq_true, ↓reduceIte, Option.map]

theorem all2 (a b : Option Bytes) :
    PyU.t07All (.list [encOB a, encOB b]) = .ok (.bool (C07.truthy a && C07.truthy b)) := by
  simp [PyU.t07All, PyU.iterList, Except.map, truthy_encOB]

theorem getAttr_aes_rand (m : C06.Metadata) : PyU.getAttr (C06Gen.encMeta m) "aes_rand" = .ok (.bytes m.aes_rand) := by
  simp only [C06Gen.encMeta, PyU.getAttr, C06Gen.bm_fields, C06Gen.metaVals]; rfl

theorem deriveX_bytes (sha : Bytes → Bytes) (r : Bytes) :
    deriveX sha (.bytes r) = .ok (.tuple [.bytes ((sha r).take 16), .bytes ((sha r).drop 16)]) := by
  simp only [deriveX, C05Gen.derive_eq, Except.map]

theorem pick_ok (cfg : HttpCfg) (tg ts tr : V) (ht : TransformsOk cfg tg ts tr) (rt : Route) :
    ∃ a b, pick tg ts tr rt = C04Gen.encT a b ∧ C04Gen.stepsOf b = some (transformOf cfg rt).rsteps := by
  cases rt with
  | get => exact ht.get
  | submit => exact ht.submit
  | response => exact ht.response

theorem getAttr_encDec (tg ts tr : V) (o : Rest) (privV : V) (d : Decoder) :
    PyU.getAttr (encDec tg ts tr o privV d) "verify_hmac" = .ok (.bool d.verify) ∧
    PyU.getAttr (encDec tg ts tr o privV d) "priv" = .ok privV ∧
    PyU.getAttr (encDec tg ts tr o privV d) "metadata_cache" = .ok (encCache d.cache) ∧
    PyU.getAttr (encDec tg ts tr o privV d) "beacon_keys" = .ok (keysV d.keys) := by
  unfold encDec
  exact (getAttr_encSelf _ _ _ _ _).2.2.2.2.2.2.2

/-- `keys = keys or self.beacon_keys`, with the rest of the generator as `K` -/
theorem keysfrag (tg ts tr : V) (o : Rest) (privV : V) (d : Decoder) (ext : Option Keys) (K : V → PyU.PyA V) :
    (if (!PyU.truthy (encExt ext)) = true then do
        let t5 ← (liftM (PyU.getAttr (encDec tg ts tr o privV d) "beacon_keys") : PyU.PyA V)
        K t5
      else K (encExt ext)) = K (keysV (ext.getD d.keys)) := by
  cases ext with
  | none => rw [(getAttr_encDec tg ts tr o privV d).2.2.2]; rfl
  | some k => rfl

theorem gen_iter_recover_http_msg (c : Crypto) (d : Decoder) (tg ts tr : V) (o : Rest) (privV : V) (hpv : PyU.truthy privV = d.hasPriv)
    (ht : TransformsOk d.cfg tg ts tr) (ext : Option Keys) (status reason request : V) (h : C04.Http) :
    iterRecoverG c (encDec tg ts tr o privV d) (C04Gen.encHttp status reason request h) (encExt ext)
      = encOut tg ts tr o privV (iterRecoverMsg c d ext h) := by
  have hb : PyU.isInstance (C04Gen.encHttp status reason request h) [PyU.Ty.bytes] = false := by cases h <;> rfl
  have hroute : Gen.PyC2H.get_transform_for_http C16Gen.urlsplitX C16Gen.parseQslX (encDec tg ts tr o privV d)
      (C04Gen.encHttp status reason request h) = (routeInput d.cfg (.msg h)).map (pick tg ts tr) :=
    gen_msg C16Gen.urlsplitX C16Gen.parseQslX d.cfg tg ts tr _ status reason request h
  unfold iterRecoverG Gen.PyC2H.iter_recover_http iterRecoverMsg recoverStage
  simp only [↓keysfrag, hb, Bool.false_eq_true, ↓reduceIte, hroute, routeInput]
  generalize ext.getD d.keys = k
  cases hr : routeHttp d.cfg h with
  | none => simp only [Except.map, lift_err, errA_bind]; rfl
  | some rt =>
    obtain ⟨a, b, hpick, hsteps⟩ := pick_ok d.cfg tg ts tr ht rt
    have hinst : PyU.isInstance (C04Gen.encT a b) [PyU.Ty.cls Gen.PyC2T.HttpDataTransform] = true := rfl
    simp only [Except.map, lift_ok, okA_bind, hpick, hinst, Bool.not_true, Bool.false_eq_true, ↓reduceIte,
      C04Gen.gen_recover_proof status reason request a b (transformOf d.cfg rt) hsteps h]
    cases hrec : C04.recover (transformOf d.cfg rt) h with
    | error e => cases e <;> rfl
    | ok c2 =>
      simp only [C04Gen.encR, okA_bind, ofC04, resultCls_eq]
      have gm : PyU.getAttr (C04Gen.encC2 (clsOf (isRequest h)) c2) "metadata" = .ok (encOB c2.metadata) := by
        cases isRequest h <;> rfl
      obtain ⟨-, gp, gc, -⟩ := getAttr_encDec tg ts tr o privV d
      have yl : ∀ (l : List V) (x : V), PyU.yieldTo (.list l) x = .list (l ++ [x]) := fun _ _ => rfl
      have hv : ∀ d' : Decoder, PyU.getAttr (encDec tg ts tr o privV d') "verify_hmac" = .ok (.bool d'.verify) :=
        fun d' => (getAttr_encDec tg ts tr o privV d').1
      simp only [gm, gp, gc, lift_ok, okA_bind, truthy_encOB, hpv, metadataStep]
      cases h1 : C07.truthy c2.metadata with
      | false =>
        simp only [Bool.false_eq_true, ↓reduceIte, Bool.false_and,
          packets_tail c k d.verify (isRequest h) c2 [] _ (hv d)]
        exact packResult_encOut c k d.verify (isRequest h) c2.output [] tg ts tr o privV _ _ _ rfl
      | true =>
        cases h2 : d.hasPriv with
        | false =>
          simp only [Bool.false_eq_true, ↓reduceIte, Bool.and_false,
            packets_tail c k d.verify (isRequest h) c2 [] _ (hv d)]
          exact packResult_encOut c k d.verify (isRequest h) c2.output [] tg ts tr o privV _ _ _ rfl
        | true =>
          simp only [↓reduceIte, Bool.and_self]
          obtain ⟨blob, hblob⟩ : ∃ blob, c2.metadata = some blob := by
            cases hm : c2.metadata with
            | none => rw [hm] at h1; cases h1
            | some b => exact ⟨b, rfl⟩
          have eb : encOB (some blob) = V.bytes blob := rfl
          have ga : ∀ k' : Keys, PyU.getAttr (keysV k') "aes_key" = .ok (encOB k'.aesKey) := fun _ => rfl
          have gh : ∀ k' : Keys, PyU.getAttr (keysV k') "hmac_key" = .ok (encOB k'.hmacKey) := fun _ => rfl
          simp only [hblob, eb, dictGet_cache, lift_ok, okA_bind, Option.getD_some]
          cases hl : d.cache.lookup blob with
          | some m =>
            simp only [isNone_encMeta, Bool.false_eq_true, ↓reduceIte, yl, List.nil_append,
              packets_tail c k d.verify (isRequest h) c2 _ _ (hv d)]
            exact packResult_encOut c k d.verify (isRequest h) c2.output [.metadata m] tg ts tr o privV _ _ _ rfl
          | none =>
            have in1 : PyU.isNone V.none = true := rfl
            simp only [in1, ↓reduceIte, C06Gen.gen_decrypt_metadata_proof]
            cases hdm : C06.decryptMetadata c.asym blob with
            | error e => rfl
            | ok m =>
              simp only [Except.map, lift_ok, okA_bind, setItem_cache d.cache blob m hl, setCache, (getAttr_encDec tg ts tr o privV _).2.2.2, ga, gh, all2, truthy_bool]
              cases hall : (C07.truthy d.keys.aesKey && C07.truthy d.keys.hmacKey) with
              | true =>
                simp only [Bool.not_true, Bool.false_eq_true, ↓reduceIte, yl, List.nil_append,
                  packets_tail c k d.verify (isRequest h) c2 _ _ (hv { d with cache := d.cache ++ [(blob, m)] })]
                exact packResult_encOut c k d.verify (isRequest h) c2.output [.metadata m] tg ts tr o privV _ _ _ rfl
              | false =>
                have kv : V.inst Gen.PyC2H.BeaconKeys [V.bytes ((c.asym.sha256 m.aes_rand).take 16),
                    V.bytes ((c.asym.sha256 m.aes_rand).drop 16),
                    V.bytes [97, 98, 99, 100, 101, 102, 103, 104, 105, 106, 107, 108, 109, 110, 111, 112]] =
                    keysV (derivedKeys c m.aes_rand) := rfl
                simp only [Bool.not_false, ↓reduceIte, getAttr_aes_rand, deriveX_bytes, PyU.unpack2_tuple, lift_ok, okA_bind, kv, setKeys, yl,
                  List.nil_append,
                  packets_tail c k d.verify (isRequest h) c2 _ _
                    (hv { d with cache := d.cache ++ [(blob, m)], keys := derivedKeys c m.aes_rand })]
                exact packResult_encOut c k d.verify (isRequest h) c2.output [.metadata m] tg ts tr o privV _ _ _ rfl

end C07Gen

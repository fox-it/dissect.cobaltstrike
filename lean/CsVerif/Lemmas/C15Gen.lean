import CsVerif.Model.C15Gen
import CsVerif.Lemmas.PyUFile
import CsVerif.Lemmas.C15
import CsVerif.Props.C20Gen
/-! The definitions of `Gen/PyScan.lean` against `C15.iterFindNeedle` / `C15.iterArtifactkit`, loop by loop: one body lemma per
generated `while` loop, then the loop by the functional induction of the model's loop.  File objects: Lemmas/PyUFile.lean. -/
namespace C15Gen
open PyU

theorem findFrom_eq (needle hay : Bytes) (i : Nat) : findFrom needle hay i = C15.findAux needle hay i := by
  induction hay generalizing i with
  | nil => unfold findFrom C15.findAux; rfl
  | cons x t ih => unfold findFrom C15.findAux; simp only [ih]

theorem findList_nat (hay needle : Bytes) (s : Nat) :
    findList hay needle (s : Int) = (match C15.bytesFind? hay needle s with | some i => (i : Int) | none => -1) := by
  have h : ¬ ((s : Int) < 0) := by omega
  simp only [findList, h, if_false, Int.toNat_natCast, C15.bytesFind?, findFrom_eq]
  split <;> rfl

theorem find_bytes (hay needle : Bytes) (s : Nat) :
    PyU.find (.bytes hay) (.bytes needle) (.int (s : Int))
      = .ok (.int (match C15.bytesFind? hay needle s with | some i => (i : Int) | none => -1)) := by
  simp only [PyU.find, bound, asInt, Option.getD, findList_nat]

/-- the test `max_offset and x > max_offset`, whatever follows it -/
theorem limit_test {β : Type} (m x : Nat) (k : Bool → Py β) :
    (if truthy (.int (m : Int)) = true then do let t ← PyU.gt (.int (x : Int)) (.int (m : Int)); k t else k (truthy (.int (m : Int))))
      = k (decide (m ≠ 0 ∧ x > m)) := by
  rw [truthy_nat, gt_int, PyU.ok_bind]
  by_cases hm : m = 0
  · simp only [hm, ne_eq, not_true_eq_false, decide_false, Bool.false_eq_true, if_false, false_and]
  · have : ((m : Int) < (x : Int)) ↔ x > m := by omega
    simp only [hm, ne_eq, not_false_eq_true, decide_true, if_true, true_and, this]

theorem loop2_body (B : V) (d needle saved : Bytes) (maxOff pos : Nat) (ys : List V) (p : Int) (start : Nat) (hp : p + 1 = start) :
    Gen.PyScan.iter_find_needle_loop2 B (.bytes needle) (.int (maxOff : Int)) (.bytes saved) (.int (pos : Int)) (.bytes d) (.list ys, .int p)
      = .ok (match C15.bytesFind? d needle start with
        | none => (.brk, .list ys, .int (-1))
        | some q =>
          if maxOff ≠ 0 ∧ q > maxOff then (.brk, .list ys, .int (q : Int))
          else (.cont, .list (ys ++ [.int ((pos : Int) + (q : Int) - (saved.length : Int))]), .int (q : Int))) := by
  have hadd : PyU.add (.int p) (.int 1) = .ok (.int (start : Int)) := by rw [add_int, hp]
  cases h : C15.bytesFind? d needle start with
  | none =>
    simp only [Gen.PyScan.iter_find_needle_loop2, hadd, find_bytes, h, PyU.ok_bind, eq_int, beq_self_eq_true, Bool.not_true,
      Bool.false_eq_true, if_false, if_true, pure_ok]
  | some q =>
    simp only [Gen.PyScan.iter_find_needle_loop2, hadd, find_bytes, h, PyU.ok_bind, eq_int, nat_ne_neg1, Bool.not_false, ↓reduceIte,
      ↓limit_test, add_int, len_bytes, sub_int, yieldTo, pure_ok]
    by_cases hc : maxOff ≠ 0 ∧ q > maxOff
    · simp only [decide_eq_true hc, if_pos hc, ↓reduceIte]
    · simp only [decide_eq_false hc, if_neg hc, Bool.false_eq_true, ↓reduceIte]

/-- Fuel: `find` can succeed once at each of the `|d| + 1 - start` positions from `start` on; one more iteration sees `-1`. -/
theorem gen_iter_find_needle_loop2 (B : V) (d needle saved : Bytes) (maxOff pos : Nat) (start : Nat) :
    ∀ (ys : List V) (p : Int) (fuel : Nat), p + 1 = start → d.length + 2 - start < fuel →
    ∃ p', whileFuel fuel (Gen.PyScan.iter_find_needle_loop2 B (.bytes needle) (.int (maxOff : Int)) (.bytes saved)
        (.int (pos : Int)) (.bytes d)) (.list ys, .int p)
      = .ok (.list (ys ++ (C15.findLoop d needle maxOff pos saved.length start).map .int), p') := by
  fun_induction C15.findLoop d needle maxOff pos saved.length start with
  | case1 start h =>
    intro ys p fuel hp hf
    obtain ⟨fu, rfl⟩ : ∃ fu, fuel = fu + 1 := ⟨fuel - 1, by omega⟩
    have hb := loop2_body B d needle saved maxOff pos ys p start hp
    simp only [h] at hb
    exact ⟨_, by rw [whileFuel_brk fu hb, List.map_nil, List.append_nil]⟩
  | case2 start q h hcut =>
    intro ys p fuel hp hf
    obtain ⟨fu, rfl⟩ : ∃ fu, fuel = fu + 1 := ⟨fuel - 1, by omega⟩
    have hb := loop2_body B d needle saved maxOff pos ys p start hp
    simp only [h, if_pos hcut] at hb
    exact ⟨_, by rw [whileFuel_brk fu hb, List.map_nil, List.append_nil]⟩
  | case3 start q h hcut ih =>
    intro ys p fuel hp hf
    obtain ⟨fu, rfl⟩ : ∃ fu, fuel = fu + 1 := ⟨fuel - 1, by omega⟩
    have hb := loop2_body B d needle saved maxOff pos ys p start hp
    simp only [h, if_neg hcut] at hb
    have hq := C15.bytesFind?_bounds _ _ _ _ h
    obtain ⟨p', hp'⟩ := ih (ys ++ [.int ((pos : Int) + (q : Int) - (saved.length : Int))]) (q : Int) fu rfl (by omega)
    exact ⟨p', by rw [whileFuel_cont fu hb, hp', List.map_cons, List.append_assoc, List.singleton_append]⟩

/-- `saved = d[-overlap_len:] if overlap_len > 0 else b""`, whatever follows it -/
theorem nextSaved_then {β : Type} (needle d : Bytes) (k : V → Py β) :
    (if decide ((0 : Int) < (needle.length : Int) - 1) = true then do
        let t22 ← PyU.neg (.int ((needle.length : Int) - 1))
        let t21 ← PyU.slice (.bytes d) t22 V.none
        k t21
      else k (V.bytes [])) = k (.bytes (C15.nextSaved needle d)) := by
  simp only [C15.nextSaved, C15.overlapLen, PyU.neg, asInt, PyU.ok_bind]
  by_cases h : (0 : Int) < (needle.length : Int) - 1
  · simp only [h, decide_true, if_true, PyU.slice_from, PyU.ok_bind]
  · simp only [h, decide_false, Bool.false_eq_true, if_false]

theorem nextSaved_gen (needle d : Bytes) :
    (do
      let t18 ← PyU.gt (.int ((needle.length : Int) - 1)) (V.int 0)
      let mut t23 := V.none
      if t18 then
        let t22 ← PyU.neg (.int ((needle.length : Int) - 1))
        let t21 ← PyU.slice (.bytes d) t22 V.none
        t23 := t21
      else
        t23 := (V.bytes [])
      pure t23 : Py V) = .ok (.bytes (C15.nextSaved needle d)) := by
  simp only [gt_int, PyU.ok_bind]
  exact (nextSaved_then needle d pure).trans (pure_ok _)

theorem seekSet_data {f f' : PyFile} {s : Int} {n : Nat} (h : f.seekSet s = .ok (n, f')) : f'.data = f.data := by
  unfold PyFile.seekSet at h
  split at h
  · cases h
  · injection h with h; injection h with _ h2; rw [← h2]

theorem read_length_le_rest (f : PyFile) (B : Nat) : (f.read (B : Int)).1.length ≤ f.data.length - f.pos := by
  rw [PyFile.read_length]; exact Nat.min_le_right _ _

theorem nextSaved_length_le (needle d : Bytes) : (C15.nextSaved needle d).length ≤ d.length := by
  rw [C15.nextSaved_eq, List.length_drop]; omega

theorem loop1_body (B : Nat) (needle : Bytes) (maxOff fuel0 : Nat) (f : PyFile) (saved : Bytes) (ys : List V)
    (h0 : saved.length + (f.data.length - f.pos) + 2 < fuel0) :
    Gen.PyScan.iter_find_needle_loop1 (.int (B : Int)) fuel0 (.bytes needle) (.int (maxOff : Int)) (.int ((needle.length : Int) - 1))
        (encFile f, .list ys, .bytes saved)
      = .ok (if maxOff ≠ 0 ∧ f.pos > maxOff then (.brk, encFile f, .list ys, .bytes saved)
          else if (f.read (B : Int)).1 = [] then (.brk, encFile (f.read (B : Int)).2, .list ys, .bytes saved)
          else (.cont, encFile (f.read (B : Int)).2,
            .list (ys ++ (C15.findLoop (saved ++ (f.read (B : Int)).1) needle maxOff f.pos saved.length 0).map .int),
            .bytes (C15.nextSaved needle (saved ++ (f.read (B : Int)).1)))) := by
  simp only [Gen.PyScan.iter_find_needle_loop1, fileTell_enc, PyU.ok_bind, ↓limit_test, fileRead_nat, truthy_bytes, add_bytes, gt_int,
    ↓nextSaved_then, pure_ok]
  by_cases hlim : maxOff ≠ 0 ∧ f.pos > maxOff
  · simp only [decide_eq_true hlim, if_pos hlim, ↓reduceIte]
  · by_cases hemp : (f.read (B : Int)).1 = []
    · simp only [decide_eq_false hlim, if_neg hlim, hemp, List.isEmpty_nil, Bool.not_true, Bool.not_false,
        Bool.false_eq_true, ↓reduceIte]
    · have hne : (f.read (B : Int)).1.isEmpty = false := List.isEmpty_eq_false_iff.mpr hemp
      have hble := read_length_le_rest f B
      obtain ⟨p', hp'⟩ := gen_iter_find_needle_loop2 (.int (B : Int)) (saved ++ (f.read (B : Int)).1) needle saved maxOff f.pos 0 ys (-1)
        fuel0 rfl (by rw [List.length_append]; omega)
      simp only [decide_eq_false hlim, if_neg hlim, if_neg hemp, hne, Bool.not_false, Bool.not_true, Bool.false_eq_true, ↓reduceIte,
        hp', PyU.ok_bind]

/-- Fuel: at most `len - pos` non-empty blocks and one empty read; the inner loop runs on `saved + block`, hence `fuel0`. -/
theorem gen_iter_find_needle_loop1 (B : Nat) (needle : Bytes) (maxOff : Nat) (fuel0 : Nat) (f : PyFile) (saved : Bytes) :
    ∀ (ys : List V) (fuel : Nat),
      saved.length + (f.data.length - f.pos) + 2 < fuel0 → (f.data.length - f.pos) < fuel →
      ∃ s', whileFuel fuel (Gen.PyScan.iter_find_needle_loop1 (.int (B : Int)) fuel0 (.bytes needle) (.int (maxOff : Int))
          (.int ((needle.length : Int) - 1))) (encFile f, .list ys, .bytes saved)
        = .ok (encFile (C15.needleLoop B needle maxOff f saved).2,
               .list (ys ++ (C15.needleLoop B needle maxOff f saved).1.map .int), s') := by
  fun_induction C15.needleLoop B needle maxOff f saved with
  | case1 f saved pos hlim =>
    intro ys fuel h0 hf
    obtain ⟨fu, rfl⟩ : ∃ fu, fuel = fu + 1 := ⟨fuel - 1, by omega⟩
    have hb := loop1_body B needle maxOff fuel0 f saved ys h0
    rw [if_pos (show maxOff ≠ 0 ∧ f.pos > maxOff from hlim)] at hb
    exact ⟨_, by rw [whileFuel_brk fu hb, List.map_nil, List.append_nil]⟩
  | case2 f saved pos hlim hemp =>
    intro ys fuel h0 hf
    obtain ⟨fu, rfl⟩ : ∃ fu, fuel = fu + 1 := ⟨fuel - 1, by omega⟩
    have hb := loop1_body B needle maxOff fuel0 f saved ys h0
    rw [if_neg (show ¬ (maxOff ≠ 0 ∧ f.pos > maxOff) from hlim), if_pos hemp] at hb
    exact ⟨_, by rw [whileFuel_brk fu hb, List.map_nil, List.append_nil]⟩
  | case3 f saved pos hlim hne block d offs rest ih =>
    intro ys fuel h0 hf
    obtain ⟨fu, rfl⟩ : ∃ fu, fuel = fu + 1 := ⟨fuel - 1, by omega⟩
    have hb := loop1_body B needle maxOff fuel0 f saved ys h0
    rw [if_neg (show ¬ (maxOff ≠ 0 ∧ f.pos > maxOff) from hlim), if_neg hne] at hb
    have hblk : 0 < (f.read (B : Int)).1.length := List.length_pos_iff.mpr hne
    have hble := read_length_le_rest f B
    have hns := nextSaved_length_le needle (saved ++ (f.read (B : Int)).1)
    rw [List.length_append] at hns
    obtain ⟨s', hs'⟩ := ih (ys ++ offs.map .int) fu
      (show (C15.nextSaved needle (saved ++ (f.read (B : Int)).1)).length
          + (f.data.length - (f.pos + (f.read (B : Int)).1.length)) + 2 < fuel0 by omega)
      (show f.data.length - (f.pos + (f.read (B : Int)).1.length) < fu by omega)
    refine ⟨s', (whileFuel_cont fu hb).trans (hs'.trans ?_)⟩
    simp only [List.map_append, List.append_assoc]
    rfl

/-! ### iter_artifactkit_payloads -/

theorem u32_bytes (d : Bytes) : Gen.PyScan.u32 (.bytes d) = .ok (.int (C15.u32 d)) := by
  have := C20Gen.gen_u32 d .little false
  simp only [C20Gen.orderStr] at this
  simp only [Gen.PyScan.u32, liftBytesInt, this, Except.map, C15.u32]

theorem xor_bytes (d k : Bytes) : Gen.PyScan.xor (.bytes d) (.bytes k) = .ok (.bytes (C20.xor d k)) := by
  simp only [Gen.PyScan.xor, liftXor, C20Gen.gen_xor, Except.map]

theorem u32_nonneg (d : Bytes) : 0 ≤ C15.u32 d := by rw [C15.u32_eq]; omega

/-- the test `maxrange is not None and pos > maxrange`, whatever follows it -/
theorem maxrange_test {β : Type} (mr : Option Nat) (pos : Nat) (k : Bool → Py β) :
    (if (!isNone (encOptNat mr)) = true then do let t3 ← PyU.gt (.int (pos : Int)) (encOptNat mr); k t3
      else k (!isNone (encOptNat mr))) = k (C15.pastRange mr pos) := by
  cases mr with
  | none => rfl
  | some m =>
    have : ((m : Int) < (pos : Int)) ↔ pos > m := by omega
    simp only [encOptNat, isNone, Bool.not_false, if_true, gt_int, PyU.ok_bind, C15.pastRange, this]

theorem gen_iter_artifactkit_payloads_body (mr : Option Nat) (f : PyFile) (pos : Nat) (ys : List V) :
    Gen.PyScan.iter_artifactkit_payloads_loop1 (encOptNat mr) (encFile f, .list ys, .int (pos : Int)) =
      if C15.pastRange mr pos = true then .ok (.brk, encFile f, .list ys, .int (pos : Int))
      else match C15.artStep f pos with
      | .error e => .error e
      | .ok (none, f') => .ok (.brk, encFile f', .list ys, .int (pos : Int))
      | .ok (some hs, f') => .ok (.cont, encFile f', .list (ys ++ hs.map encHit), .int ((pos : Int) + 1)) := by
  obtain ⟨g, hg⟩ : ∃ g : PyFile, { f with pos := pos } = g := ⟨_, rfl⟩
  have hsz := u32_nonneg ((g.read 4).2.read 4).1
  simp only [C15.artStep, PyFile.seekSet_ok, hg, Gen.PyScan.iter_artifactkit_payloads_loop1, ↓maxrange_test, fileSeek_nat, PyU.ok_bind,
    fileRead_4, fileRead_8, fileRead_enc _ (C15.u32 ((g.read 4).2.read 4).1) (Or.inl (by omega)), truthy_bytes, len_bytes, eq_int,
    add_int, u32_bytes, xor_bytes, iadd_int, yieldTo, pure_ok, Bool.not_not, C15.readHit]
  cases hpr : C15.pastRange mr pos with
  | true => simp only [↓reduceIte]
  | false =>
    simp only [Bool.false_eq_true, ↓reduceIte]
    by_cases hl : (g.read 4).1.length = 4
    · have hne : (g.read 4).1.isEmpty = false := by
        rw [List.isEmpty_eq_false_iff, ← List.length_pos_iff, hl]; decide
      have hl' : (((g.read 4).1.length : Int) == 4) = true := by rw [hl]; rfl
      have hnl : ¬ (g.read 4).1.length ≠ 4 := fun h => h hl
      by_cases hu : (pos : Int) + 16 = C15.u32 (g.read 4).1
      · simp only [hne, hl', beq_iff_eq.mpr hu, Bool.not_false, Bool.not_true, Bool.false_eq_true, ↓reduceIte, if_neg hnl, if_pos hu,
          List.map_cons, List.map_nil, encHit, Int.toNat_of_nonneg hsz]
      · simp only [hne, hl', beq_eq_false_iff_ne.mpr hu, Bool.not_false, Bool.not_true, Bool.false_eq_true, ↓reduceIte, if_neg hnl,
          if_neg hu, List.map_nil, List.append_nil]
    · have hl' : (((g.read 4).1.length : Int) == 4) = false := by
        rw [beq_eq_false_iff_ne]; omega
      cases hemp : (g.read 4).1.isEmpty with
      | true => simp only [Bool.not_true, Bool.false_eq_true, ↓reduceIte, if_pos hl]
      | false => simp only [hl', Bool.not_false, ↓reduceIte, if_pos hl]

theorem gen_iter_artifactkit_payloads_loop (mr : Option Nat) (f : PyFile) (pos : Nat) :
    ∀ (ys : List V) (fuel : Nat), f.data.length - pos < fuel →
      match C15.artLoop mr f pos with
      | .error e => whileFuel fuel (Gen.PyScan.iter_artifactkit_payloads_loop1 (encOptNat mr)) (encFile f, .list ys, .int (pos : Int)) = .error e
      | .ok r => ∃ s', whileFuel fuel (Gen.PyScan.iter_artifactkit_payloads_loop1 (encOptNat mr)) (encFile f, .list ys, .int (pos : Int))
          = .ok (encFile r.2, .list (ys ++ r.1.map encHit), s') := by
  fun_induction C15.artLoop mr f pos with
  | case1 f pos hpr =>
    intro ys fuel hf
    obtain ⟨fu, rfl⟩ : ∃ fu, fuel = fu + 1 := ⟨fuel - 1, by omega⟩
    have hb := gen_iter_artifactkit_payloads_body mr f pos ys
    rw [if_pos hpr] at hb
    exact ⟨_, by rw [whileFuel_brk fu hb, List.map_nil, List.append_nil]⟩
  | case2 f pos hpr e h =>
    intro ys fuel hf
    obtain ⟨fu, rfl⟩ : ∃ fu, fuel = fu + 1 := ⟨fuel - 1, by omega⟩
    have hb := gen_iter_artifactkit_payloads_body mr f pos ys
    simp only [if_neg hpr, h] at hb
    exact whileFuel_error fu hb
  | case3 f pos hpr f' h =>
    intro ys fuel hf
    obtain ⟨fu, rfl⟩ : ∃ fu, fuel = fu + 1 := ⟨fuel - 1, by omega⟩
    have hb := gen_iter_artifactkit_payloads_body mr f pos ys
    simp only [if_neg hpr, h] at hb
    exact ⟨_, by rw [whileFuel_brk fu hb, List.map_nil, List.append_nil]⟩
  | case4 f pos hpr hs f' h e hrec ih =>
    intro ys fuel hf
    obtain ⟨fu, rfl⟩ : ∃ fu, fuel = fu + 1 := ⟨fuel - 1, by omega⟩
    have hb := gen_iter_artifactkit_payloads_body mr f pos ys
    simp only [if_neg hpr, h] at hb
    have h1 := C15.artStep_data h
    have h2 := C15.artStep_some h
    have := ih (ys ++ hs.map encHit) fu (by rw [h1]; omega)
    rw [hrec] at this
    rw [whileFuel_cont fu hb]
    exact this
  | case5 f pos hpr hs f' h rest ff hrec ih =>
    intro ys fuel hf
    obtain ⟨fu, rfl⟩ : ∃ fu, fuel = fu + 1 := ⟨fuel - 1, by omega⟩
    have hb := gen_iter_artifactkit_payloads_body mr f pos ys
    simp only [if_neg hpr, h] at hb
    have h1 := C15.artStep_data h
    have h2 := C15.artStep_some h
    have := ih (ys ++ hs.map encHit) fu (by rw [h1]; omega)
    rw [hrec] at this
    obtain ⟨s', hs'⟩ := this
    exact ⟨s', by rw [whileFuel_cont fu hb]; exact hs'.trans (by rw [List.map_append, List.append_assoc])⟩

end C15Gen

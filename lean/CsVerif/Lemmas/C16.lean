import CsVerif.Model.C16
/-! C16 lemmas.  Each scanner of the model passes over a stretch free of its separator (`*_skip`); a rendered message is made
of such stretches, so parsing gives back its parts (`rendered_parts`).  Then percent-encoding, `urlsplit`, `int()`, `dict`. -/
namespace C16

theorem forall_byte {P : UInt8 → Prop} (h : ∀ n, n < 256 → P (UInt8.ofNat n)) : ∀ b : UInt8, P b := by
  intro b
  have := h b.toNat b.toNat_lt
  simpa using this

theorem partitionAt_skip (c : UInt8) (s : Bytes) (l X : Bytes) (h : ∀ b ∈ l, b ≠ c) :
    partitionAt (c :: s) (l ++ X) = (partitionAt (c :: s) X).map fun p => (l ++ p.1, p.2) := by
  induction l with
  | nil => simp
  | cons b l ih =>
    have hb : b ≠ c := h b (by simp)
    have ih' := ih (fun x hx => h x (by simp [hx]))
    simp only [List.cons_append, partitionAt, List.isPrefixOf]
    have : (c == b) = false := by simpa using fun h' => hb h'.symm
    simp [this, ih', Option.map_map, Function.comp_def]

theorem partitionAt_here (sep X : Bytes) (h : sep ≠ []) :
    partitionAt sep (sep ++ X) = some ([], X) := by
  cases sep with
  | nil => exact absurd rfl h
  | cons c s =>
    simp only [List.cons_append, partitionAt]
    have : (c :: s).isPrefixOf (c :: (s ++ X)) = true := by
      rw [← List.cons_append]; simp [List.isPrefixOf_iff_prefix]
    simp [this]

theorem noCR_iff (s : Bytes) : noCR s = true ↔ ∀ b ∈ s, b ≠ 13 := by
  simp [noCR]

theorem partitionAt_cons_ne (sep : Bytes) (b : UInt8) (rest : Bytes) (h : sep.isPrefixOf (b :: rest) = false) :
    partitionAt sep (b :: rest) = (partitionAt sep rest).map fun p => (b :: p.1, p.2) := by
  simp [partitionAt, h]

theorem partitionAt_crlfcrlf_line (l X : Bytes) (hne : l ≠ []) (h : ∀ b ∈ l, b ≠ 13) :
    partitionAt CRLFCRLF (CRLF ++ l ++ X) =
      (partitionAt CRLFCRLF X).map fun p => (CRLF ++ l ++ p.1, p.2) := by
  obtain ⟨c, l, rfl⟩ := List.exists_cons_of_ne_nil hne
  have hc : ((13 : UInt8) == c) = false := beq_eq_false_iff_ne.2 (h c (by simp)).symm
  rw [show CRLF ++ (c :: l) ++ X = 13 :: 10 :: (c :: l ++ X) from rfl,
    partitionAt_cons_ne _ _ _ (by simp [CRLFCRLF, List.isPrefixOf, hc]),
    partitionAt_cons_ne _ _ _ (by simp [CRLFCRLF, List.isPrefixOf]), CRLFCRLF, partitionAt_skip 13 _ (c :: l) X h]
  simp [CRLF, Option.map_map, Function.comp_def]

def headerLine (h : Bytes × Bytes) : Bytes := h.1 ++ colonSpace ++ h.2

theorem renderHeaders_cons (h : Bytes × Bytes) (hs : List (Bytes × Bytes)) :
    renderHeaders (h :: hs) = CRLF ++ headerLine h ++ renderHeaders hs := by
  simp [renderHeaders, headerLine, List.append_assoc]

theorem headerLine_ne_nil (h : Bytes × Bytes) : headerLine h ≠ [] := by
  simp [headerLine, colonSpace]

theorem headerLine_noCR (h : Bytes × Bytes) (hw : wellFormedHeader h = true) :
    ∀ b ∈ headerLine h, b ≠ 13 := by
  simp only [wellFormedHeader, Bool.and_eq_true, noCR_iff] at hw
  intro b hb
  simp only [headerLine, colonSpace, List.mem_append, List.mem_cons, List.not_mem_nil, or_false] at hb
  rcases hb with (hb | hb | hb) | hb
  · exact hw.1.2 b hb
  · subst hb; decide
  · subst hb; decide
  · exact hw.2 b hb

theorem partitionAt_headers (hs : List (Bytes × Bytes)) (body : Bytes)
    (hw : ∀ h ∈ hs, wellFormedHeader h = true) :
    partitionAt CRLFCRLF (renderHeaders hs ++ (CRLFCRLF ++ body)) = some (renderHeaders hs, body) := by
  induction hs with
  | nil => simpa [renderHeaders] using partitionAt_here CRLFCRLF body (by simp [CRLFCRLF])
  | cons h hs ih =>
    have ih' := ih (fun x hx => hw x (by simp [hx]))
    rw [renderHeaders_cons, List.append_assoc]
    rw [partitionAt_crlfcrlf_line _ _ (headerLine_ne_nil h) (headerLine_noCR h (hw h (by simp)))]
    simp [ih']

theorem partition_message (start : Bytes) (hs : List (Bytes × Bytes)) (body : Bytes)
    (hstart : ∀ b ∈ start, b ≠ 13) (hw : ∀ h ∈ hs, wellFormedHeader h = true) :
    partition CRLFCRLF (start ++ renderHeaders hs ++ CRLFCRLF ++ body) = (start ++ renderHeaders hs, body) := by
  have h1 := partitionAt_skip 13 [10, 13, 10] start (renderHeaders hs ++ (CRLFCRLF ++ body)) hstart
  have h2 := partitionAt_headers hs body hw
  simp only [partition, List.append_assoc]
  simp only [CRLFCRLF] at h1 h2 ⊢
  rw [h1, h2]
  simp

theorem partition_firstLine (start : Bytes) (hs : List (Bytes × Bytes))
    (hstart : ∀ b ∈ start, b ≠ 13) :
    partition CRLF (start ++ renderHeaders hs) = (start, (renderHeaders hs).drop 2) := by
  cases hs with
  | nil =>
    have := partitionAt_skip 13 [10] start [] hstart
    simp [partition, CRLF, renderHeaders, partitionAt] at this ⊢
    simp [this]
  | cons h hs =>
    have h1 := partitionAt_skip 13 [10] start (renderHeaders (h :: hs)) hstart
    have h2 := partitionAt_here CRLF (headerLine h ++ renderHeaders hs) (by simp [CRLF])
    rw [renderHeaders_cons, List.append_assoc] at h1 ⊢
    simp only [CRLF] at h1 h2 ⊢
    simp only [partition, h1, h2]
    simp

theorem splitCRLFGo_cons_ne (a : UInt8) (t cur : Bytes) (h : a ≠ 13) :
    splitCRLFGo (a :: t) cur = splitCRLFGo t (cur ++ [a]) := by
  cases t with
  | nil => simp [splitCRLFGo]
  | cons b r => simp [splitCRLFGo, h]

theorem splitCRLFGo_skip (l X cur : Bytes) (h : ∀ b ∈ l, b ≠ 13) :
    splitCRLFGo (l ++ X) cur = splitCRLFGo X (cur ++ l) := by
  induction l generalizing cur with
  | nil => simp
  | cons a l ih =>
    rw [List.cons_append, splitCRLFGo_cons_ne _ _ _ (h a (by simp)), ih _ (fun x hx => h x (by simp [hx]))]
    simp

theorem splitCRLFGo_line_end (l cur : Bytes) (h : ∀ b ∈ l, b ≠ 13) :
    splitCRLFGo l cur = [cur ++ l] := by
  simpa [splitCRLFGo] using splitCRLFGo_skip l [] cur h

theorem splitCRLFGo_line (l cur X : Bytes) (h : ∀ b ∈ l, b ≠ 13) :
    splitCRLFGo (l ++ CRLF ++ X) cur = (cur ++ l) :: splitCRLFGo X [] := by
  rw [List.append_assoc, splitCRLFGo_skip l _ cur h]
  simp [splitCRLFGo, CRLF]

theorem splitCRLF_headers (h : Bytes × Bytes) (hs : List (Bytes × Bytes))
    (hw : ∀ x ∈ h :: hs, wellFormedHeader x = true) :
    splitCRLFGo (headerLine h ++ renderHeaders hs) [] = (h :: hs).map headerLine := by
  induction hs generalizing h with
  | nil =>
    simp only [renderHeaders, List.flatMap_nil, List.append_nil, List.map_cons, List.map_nil]
    rw [splitCRLFGo_line_end _ _ (headerLine_noCR h (hw h (by simp)))]
    simp
  | cons h2 hs ih =>
    have e : headerLine h ++ renderHeaders (h2 :: hs)
        = headerLine h ++ CRLF ++ (headerLine h2 ++ renderHeaders hs) := by
      rw [renderHeaders_cons]; simp [List.append_assoc]
    rw [e, splitCRLFGo_line _ _ _ (headerLine_noCR h (hw h (by simp))),
      ih h2 (fun x hx => hw x (by simp [hx]))]
    simp

theorem splitCRLF_headerBlock (hs : List (Bytes × Bytes))
    (hw : ∀ x ∈ hs, wellFormedHeader x = true) :
    (splitCRLF ((renderHeaders hs).drop 2)).filter (fun l => !l.isEmpty) = hs.map headerLine := by
  cases hs with
  | nil => simp [renderHeaders, splitCRLF, splitCRLFGo]
  | cons h hs =>
    rw [renderHeaders_cons]
    simp only [CRLF, List.cons_append, List.nil_append, List.drop_succ_cons, List.drop_zero, splitCRLF]
    rw [splitCRLF_headers h hs hw]
    rw [List.filter_eq_self]
    intro l hl
    obtain ⟨x, _, rfl⟩ := List.mem_map.1 hl
    simpa using headerLine_ne_nil x

theorem containsSub_cons_false {sep : Bytes} {b : UInt8} {rest : Bytes}
    (h : containsSub sep (b :: rest) = false) :
    sep.isPrefixOf (b :: rest) = false ∧ containsSub sep rest = false := by
  simpa [containsSub] using h

theorem partitionAt_colonSpace (k v : Bytes) (h : containsSub colonSpace k = false) :
    partitionAt colonSpace (k ++ colonSpace ++ v) = some (k, v) := by
  induction k with
  | nil => simpa using partitionAt_here colonSpace v (by simp [colonSpace])
  | cons b k ih =>
    obtain ⟨h1, h2⟩ := containsSub_cons_false h
    have hp : colonSpace.isPrefixOf (b :: (k ++ colonSpace ++ v)) = false := by
      cases k with
      | nil =>
        simp only [colonSpace, List.isPrefixOf, List.nil_append, List.cons_append] at h1 ⊢
        simp
      | cons c k =>
        simp only [colonSpace, List.isPrefixOf, List.cons_append] at h1 ⊢
        simpa using h1
    rw [List.cons_append, List.cons_append, partitionAt_cons_ne _ _ _ hp, ih h2]
    simp

theorem partition_headerLine (h : Bytes × Bytes) (hw : wellFormedHeader h = true) :
    partition colonSpace (headerLine h) = h := by
  have : containsSub colonSpace h.1 = false := by
    simp only [wellFormedHeader, Bool.and_eq_true] at hw
    simpa using hw.1.1
  simp only [partition, headerLine]
  rw [partitionAt_colonSpace _ _ this]

theorem isToken_iff (t : Bytes) : isToken t = true ↔ t ≠ [] ∧ ∀ b ∈ t, isWs b = false := by
  simp [isToken, noWs]

theorem splitWsGo_tok (t rest cur : Bytes) (h : ∀ b ∈ t, isWs b = false) :
    splitWsGo (t ++ rest) cur = splitWsGo rest (cur ++ t) := by
  induction t generalizing cur with
  | nil => simp
  | cons a t ih =>
    have ha : isWs a = false := h a (by simp)
    have := ih (cur ++ [a]) (fun x hx => h x (by simp [hx]))
    simpa [splitWsGo, ha] using this

theorem splitWsGo_tokens (s cur : Bytes) (hc : ∀ b ∈ cur, isWs b = false) :
    ∀ t ∈ splitWsGo s cur, t ≠ [] ∧ ∀ b ∈ t, isWs b = false := by
  fun_induction splitWsGo s cur with
  | case1 => simp
  | case2 cur hne => simpa using ⟨by simpa using hne, hc⟩
  | case3 b rest cur _ _ ih => exact ih (by simp)
  | case4 b rest cur _ hne ih =>
    intro t ht
    rcases List.mem_cons.1 ht with rfl | ht
    · exact ⟨by simpa using hne, hc⟩
    · exact ih (by simp) t ht
  | case5 b rest cur hb ih =>
    refine ih fun x hx => ?_
    rcases List.mem_append.1 hx with hx | hx
    · exact hc x hx
    · simpa [List.mem_singleton.1 hx] using hb

theorem splitWsGo_token_space (t rest : Bytes) (ht : isToken t = true) :
    splitWsGo (t ++ 32 :: rest) [] = t :: splitWsGo rest [] := by
  obtain ⟨hne, hws⟩ := (isToken_iff t).1 ht
  have h32 : isWs 32 = true := by decide
  rw [splitWsGo_tok t _ [] hws]
  simp [splitWsGo, h32, hne]

theorem splitWsGo_token (t : Bytes) (ht : isToken t = true) : splitWsGo t [] = [t] := by
  obtain ⟨hne, hws⟩ := (isToken_iff t).1 ht
  simpa [splitWsGo, hne] using splitWsGo_tok t [] [] hws

theorem splitWs_three (a b c : Bytes) (ha : isToken a = true) (hb : isToken b = true)
    (hc : isToken c = true) : splitWs (a ++ 32 :: (b ++ 32 :: c)) = [a, b, c] := by
  rw [splitWs, splitWsGo_token_space a _ ha, splitWsGo_token_space b _ hb, splitWsGo_token c hc]

theorem rstrip_of_last_not_ws (s t : Bytes) (ht : t ≠ []) (h : ∀ b ∈ t, isWs b = false) :
    rstrip (s ++ t) = s ++ t := by
  obtain ⟨t', x, rfl⟩ := (List.eq_nil_or_concat t).resolve_left ht
  -- the last byte of `t` stops `dropWhile` on the reversed string at once
  have hx : ¬ isWs x = true := ne_true_of_eq_false (h x (by simp))
  rw [rstrip, List.concat_eq_append, ← List.append_assoc, List.reverse_append, List.reverse_singleton,
    List.singleton_append, List.dropWhile_cons_of_neg hx, ← List.reverse_concat, List.reverse_reverse]

theorem splitWsGo_allWs (w cur : Bytes) (h : ∀ b ∈ w, isWs b = true) :
    splitWsGo w cur = splitWsGo [] cur := by
  induction w generalizing cur with
  | nil => rfl
  | cons x w ih =>
    have ih' := fun c => ih c (fun b hb => h b (by simp [hb]))
    simp only [splitWsGo, h x (by simp), if_true, ih']
    split <;> simp [*]

theorem splitWsGo_append_ws (a w cur : Bytes) (hw : ∀ b ∈ w, isWs b = true) :
    splitWsGo (a ++ w) cur = splitWsGo a cur := by
  induction a generalizing cur with
  | nil => exact splitWsGo_allWs w cur hw
  | cons x a ih => simp only [List.cons_append, splitWsGo, ih]

theorem splitWs_rstrip (s : Bytes) : splitWs (rstrip s) = splitWs s := by
  have hs : s = rstrip s ++ (s.reverse.takeWhile isWs).reverse := by
    unfold rstrip
    rw [← List.reverse_append, List.takeWhile_append_dropWhile, List.reverse_reverse]
  unfold splitWs
  conv => rhs; rw [hs]
  exact (splitWsGo_append_ws _ _ [] fun b hb =>
    List.all_eq_true.1 List.all_takeWhile b (List.mem_reverse.1 hb)).symm

theorem upByte_ws (b : UInt8) : isWs b = true → upByte b = b := by
  revert b; apply forall_byte; decide +kernel

theorem startsWithHTTP_append_of (v rest : Bytes) (h : startsWithHTTP v = true) :
    startsWithHTTP (v ++ rest) = true := by
  unfold startsWithHTTP upper at *
  rw [List.isPrefixOf_iff_prefix] at *
  rw [List.map_append]
  exact List.IsPrefix.trans h (List.prefix_append _ _)

/-- `HTTP/` holds no space -/
theorem startsWithHTTP_of_append_space (m rest : Bytes)
    (h : startsWithHTTP (m ++ 32 :: rest) = true) : startsWithHTTP m = true := by
  unfold startsWithHTTP upper HTTPslash at *
  have h32 : upByte 32 = 32 := by decide
  match m with
  | [] | [a] | [a, b] | [a, b, c] | [a, b, c, d] => simp [List.isPrefixOf, h32] at h
  | a :: b :: c :: d :: e :: r =>
    simp only [List.cons_append, List.map_cons, List.isPrefixOf, Bool.and_eq_true] at h ⊢
    exact h

/-- bytes that `quote` can emit -/
def isQuoted (b : UInt8) : Bool := isUnreserved b || b == 37

theorem unquote_cons_ne (p : UInt8) (t : Bytes) (h : p ≠ 37) : unquote (p :: t) = p :: unquote t := by
  match t with
  | [] => simp [unquote]
  | [a] => simp [unquote]
  | a :: b :: r => simp [unquote, h]

theorem unquote_pct (a b : UInt8) (rest : Bytes) (ha : isHex a = true) (hb : isHex b = true) :
    unquote (37 :: a :: b :: rest) = (hexVal a * 16 + hexVal b) :: unquote rest := by
  simp [unquote, ha, hb]

theorem unreserved_ne_pct (b : UInt8) (h : isUnreserved b = true) : b ≠ 37 := by
  rintro rfl
  revert h; decide

theorem hexUpper_nibble : ∀ n : UInt8, n < 16 →
    isHex (hexUpper n) = true ∧ hexVal (hexUpper n) = n ∧ isUnreserved (hexUpper n) = true := by
  apply forall_byte; decide +kernel

theorem nibbles : ∀ b : UInt8, b / 16 < 16 ∧ b % 16 < 16 ∧ b / 16 * 16 + b % 16 = b := by
  apply forall_byte; decide +kernel

theorem quote_cons (b : UInt8) (s : Bytes) :
    quote (b :: s) = (if isUnreserved b then [b] else [37, hexUpper (b / 16), hexUpper (b % 16)]) ++ quote s := by
  simp [quote]

theorem unquote_quote' (s : Bytes) : unquote (quote s) = s := by
  induction s with
  | nil => simp [quote, unquote]
  | cons b s ih =>
    rw [quote_cons]
    by_cases hb : isUnreserved b = true
    · simp only [hb, if_true, List.cons_append, List.nil_append]
      rw [unquote_cons_ne _ _ (unreserved_ne_pct b hb), ih]
    · simp only [hb, Bool.false_eq_true, if_false, List.cons_append, List.nil_append]
      obtain ⟨hhi, hlo, hb⟩ := nibbles b
      obtain ⟨h1, v1, _⟩ := hexUpper_nibble _ hhi
      obtain ⟨h2, v2, _⟩ := hexUpper_nibble _ hlo
      rw [unquote_pct _ _ _ h1 h2, v1, v2, hb, ih]

theorem quote_bytes (s : Bytes) : ∀ b ∈ quote s, isQuoted b = true := by
  intro b hb
  obtain ⟨c, -, hb⟩ := List.mem_flatMap.1 hb
  have unres {x : UInt8} (h : isUnreserved x = true) : isQuoted x = true := by simp [isQuoted, h]
  split at hb
  · rename_i hc
    rw [List.mem_singleton.1 hb]; exact unres hc
  · obtain ⟨hhi, hlo, _⟩ := nibbles c
    simp only [List.mem_cons, List.not_mem_nil, or_false] at hb
    rcases hb with rfl | rfl | rfl
    · decide
    · exact unres (hexUpper_nibble _ hhi).2.2
    · exact unres (hexUpper_nibble _ hlo).2.2

theorem isQuoted_facts : ∀ b : UInt8, isQuoted b = true →
    b ≠ 43 ∧ b ≠ 38 ∧ b ≠ 61 ∧ b ≠ 35 ∧ b ≠ 63 ∧ b < 0x80 ∧ isWs b = false := by
  apply forall_byte; decide +kernel

theorem plusToSpace_quote (s : Bytes) : plusToSpace (quote s) = quote s := by
  unfold plusToSpace
  conv => rhs; rw [← List.map_id (quote s)]
  apply List.map_congr_left
  intro b hb
  have := (isQuoted_facts b (quote_bytes s b hb)).1
  simp [this]

theorem quote_ne_nil (s : Bytes) (h : s ≠ []) : quote s ≠ [] := by
  cases s with
  | nil => exact absurd rfl h
  | cons b s => rw [quote_cons]; split <;> simp

theorem unquoteField_quote (s : Bytes) : unquoteField (quote s) = s := by
  simp [unquoteField, plusToSpace_quote, unquote_quote']

theorem cutAt_skip (c : UInt8) (a r : Bytes) (h : ∀ b ∈ a, b ≠ c) :
    cutAt c (a ++ r) = (cutAt c r).map fun p => (a ++ p.1, p.2) := by
  induction a with
  | nil => simp
  | cons x a ih =>
    have hx : x ≠ c := h x (by simp)
    simp [cutAt, hx, ih (fun b hb => h b (by simp [hb])), Option.map_map, Function.comp_def]

theorem cutAt_append (c : UInt8) (a r : Bytes) (h : ∀ b ∈ a, b ≠ c) :
    cutAt c (a ++ c :: r) = some (a, r) := by
  simp [cutAt_skip c a _ h, cutAt]

theorem cutAt_none (c : UInt8) (a : Bytes) (h : ∀ b ∈ a, b ≠ c) : cutAt c a = none := by
  simpa [cutAt] using cutAt_skip c a [] h

theorem splitByteGo_skip (c : UInt8) (t X cur : Bytes) (h : ∀ b ∈ t, b ≠ c) :
    splitByteGo c (t ++ X) cur = splitByteGo c X (cur ++ t) := by
  induction t generalizing cur with
  | nil => simp
  | cons x t ih =>
    have hx : x ≠ c := h x (by simp)
    simp [splitByteGo, hx, ih _ (fun b hb => h b (by simp [hb]))]

theorem splitByteGo_end (c : UInt8) (t cur : Bytes) (h : ∀ b ∈ t, b ≠ c) :
    splitByteGo c t cur = [cur ++ t] := by
  simpa [splitByteGo] using splitByteGo_skip c t [] cur h

theorem splitByteGo_tok (c : UInt8) (t X cur : Bytes) (h : ∀ b ∈ t, b ≠ c) :
    splitByteGo c (t ++ c :: X) cur = (cur ++ t) :: splitByteGo c X [] := by
  simp [splitByteGo_skip c t _ cur h, splitByteGo]

theorem renderParam_bytes (p : Bytes × Bytes) : ∀ b ∈ renderParam p, isQuoted b = true ∨ b = 61 := by
  intro b hb
  simp only [renderParam, List.mem_append, List.mem_cons] at hb
  rcases hb with hb | rfl | hb
  · exact .inl (quote_bytes _ b hb)
  · exact .inr rfl
  · exact .inl (quote_bytes _ b hb)

theorem renderParam_no_amp (p : Bytes × Bytes) : ∀ b ∈ renderParam p, b ≠ 38 := by
  intro b hb
  rcases renderParam_bytes p b hb with h | rfl
  · exact (isQuoted_facts b h).2.1
  · decide

theorem renderQuery_cons_cons (p q : Bytes × Bytes) (ps : List (Bytes × Bytes)) :
    renderQuery (p :: q :: ps) = renderParam p ++ 38 :: renderQuery (q :: ps) := rfl

theorem splitByte_renderQuery (p : Bytes × Bytes) (ps : List (Bytes × Bytes)) :
    splitByte 38 (renderQuery (p :: ps)) = (p :: ps).map renderParam := by
  unfold splitByte
  induction ps generalizing p with
  | nil =>
    simp only [renderQuery, List.map_cons, List.map_nil]
    rw [splitByteGo_end _ _ _ (renderParam_no_amp p)]; simp
  | cons q ps ih =>
    rw [renderQuery_cons_cons, splitByteGo_tok _ _ _ _ (renderParam_no_amp p), ih q]
    simp

theorem qslField_renderParam (p : Bytes × Bytes) (hv : p.2 ≠ []) : qslField (renderParam p) = some p := by
  have hk : ∀ b ∈ quote p.1, b ≠ 61 := fun b hb => (isQuoted_facts b (quote_bytes _ b hb)).2.2.1
  have hne : renderParam p ≠ [] := by simp [renderParam]
  have hq : quote p.2 ≠ [] := quote_ne_nil _ hv
  unfold qslField
  rw [if_neg (by simpa using hne)]
  simp only [renderParam]
  rw [cutAt_append _ _ _ hk]
  simp only
  rw [if_neg (by simpa using hq), unquoteField_quote, unquoteField_quote]

theorem filterMap_qslField_rendered (ps : List (Bytes × Bytes)) (hv : ∀ p ∈ ps, p.2 ≠ []) :
    (ps.map renderParam).filterMap qslField = ps := by
  induction ps with
  | nil => rfl
  | cons p ps ih =>
    simp only [List.map_cons, List.filterMap_cons, qslField_renderParam p (hv p (by simp)),
      ih (fun x hx => hv x (by simp [hx]))]

theorem renderQuery_ne_nil (p : Bytes × Bytes) (ps : List (Bytes × Bytes)) : renderQuery (p :: ps) ≠ [] := by
  cases ps with
  | nil => simp [renderQuery, renderParam]
  | cons q ps => rw [renderQuery_cons_cons]; simp [renderParam]

theorem parseQsl_rendered (ps : List (Bytes × Bytes)) (hv : ∀ p ∈ ps, p.2 ≠ []) :
    parseQsl (renderQuery ps) = ps := by
  cases ps with
  | nil => simp [parseQsl, renderQuery]
  | cons p ps =>
    unfold parseQsl
    rw [if_neg (by simpa using renderQuery_ne_nil p ps), splitByte_renderQuery]
    exact filterMap_qslField_rendered _ hv

theorem isPathByte_facts (b : UInt8) (h : isPathByte b = true) :
    b < 0x80 ∧ isWs b = false ∧ b ≠ 35 ∧ b ≠ 63 := by
  simp only [isPathByte, Bool.and_eq_true, decide_eq_true_eq, Bool.not_eq_true', bne_iff_ne, ne_eq] at h
  exact ⟨h.1.1.1, h.1.1.2, h.2, h.1.2⟩

theorem notWs_safe (b : UInt8) (h : isWs b = false) : (!(b == 9 || b == 13 || b == 10)) = true := by
  have ws : isWs 9 = true ∧ isWs 13 = true ∧ isWs 10 = true := by decide
  simp only [Bool.not_eq_true', Bool.or_eq_false_iff, beq_eq_false_iff_ne]
  refine ⟨⟨?_, ?_⟩, ?_⟩
  · rintro rfl; rw [ws.1] at h; cases h
  · rintro rfl; rw [ws.2.1] at h; cases h
  · rintro rfl; rw [ws.2.2] at h; cases h

theorem renderQuery_bytes (ps : List (Bytes × Bytes)) :
    ∀ b ∈ renderQuery ps, isQuoted b = true ∨ b = 61 ∨ b = 38 := by
  have param (p : Bytes × Bytes) (b : UInt8) (hb : b ∈ renderParam p) : isQuoted b = true ∨ b = 61 ∨ b = 38 :=
    (renderParam_bytes p b hb).imp_right .inl
  fun_induction renderQuery ps with
  | case1 => simp
  | case2 p => exact param p
  | case3 p ps _ ih =>
    intro b hb
    rcases List.mem_append.1 hb with hb | hb
    · exact param p b hb
    · rcases List.mem_cons.1 hb with rfl | hb
      · exact .inr (.inr rfl)
      · exact ih b hb

theorem queryByte_facts (b : UInt8) (h : isQuoted b = true ∨ b = 61 ∨ b = 38) :
    b < 0x80 ∧ isWs b = false ∧ b ≠ 35 := by
  rcases h with h | rfl | rfl
  · have := isQuoted_facts b h; exact ⟨this.2.2.2.2.2.1, this.2.2.2.2.2.2, this.2.2.2.1⟩
  · decide
  · decide

theorem renderTarget_bytes (path : Bytes) (ps : List (Bytes × Bytes)) (hp : path.all isPathByte = true) :
    ∀ b ∈ renderTarget path ps, b < 0x80 ∧ isWs b = false ∧ b ≠ 35 := by
  have hpath : ∀ b ∈ path, b < 0x80 ∧ isWs b = false ∧ b ≠ 35 := by
    intro b hb
    have := isPathByte_facts b (List.all_eq_true.1 hp b hb)
    exact ⟨this.1, this.2.1, this.2.2.1⟩
  intro b hb
  unfold renderTarget at hb
  split at hb
  · exact hpath b hb
  · rcases List.mem_append.1 hb with hb | hb
    · exact hpath b hb
    · rcases List.mem_cons.1 hb with rfl | hb
      · decide
      · exact queryByte_facts b (renderQuery_bytes ps b hb)

theorem wellFormedPath_cases (path : Bytes) (hp : wellFormedPath path = true) :
    ∃ rest, path = 47 :: rest ∧ rest.head? ≠ some 47 ∧ path.all isPathByte = true := by
  unfold wellFormedPath at hp
  simp only [Bool.and_eq_true] at hp
  obtain ⟨⟨h1, h2⟩, h3⟩ := hp
  cases path with
  | nil => simp at h1
  | cons c rest =>
    have : c = 47 := by simpa using h1
    subst this
    exact ⟨rest, rfl, by simpa using h2, h3⟩

theorem splitScheme_slash (t : Bytes) : splitScheme (47 :: t) = ([], 47 :: t) := by
  unfold splitScheme
  have : cutAt 58 (47 :: t) = (cutAt 58 t).map fun p => (47 :: p.1, p.2) := by
    simp [cutAt]
  rw [this]
  cases cutAt 58 t with
  | none => rfl
  | some p =>
    obtain ⟨pre, post⟩ := p
    have : isAlpha 47 = false := by decide
    simp [this]

theorem partitionByte_none (c : UInt8) (s : Bytes) (h : ∀ b ∈ s, b ≠ c) : partitionByte c s = (s, []) := by
  simp [partitionByte, cutAt_none c s h]

theorem renderTarget_query (path : Bytes) (ps : List (Bytes × Bytes)) (hp : ∀ b ∈ path, b ≠ 63) :
    partitionByte 63 (renderTarget path ps) = (path, renderQuery ps) := by
  unfold renderTarget
  split
  · rename_i he
    have : ps = [] := by simpa using he
    subst this
    simpa [renderQuery] using partitionByte_none 63 path hp
  · simp [partitionByte, cutAt_append 63 path _ hp]

theorem urlsplit_plain (t : Bytes) (hnot : t.head? ≠ some 47)
    (hsafe : ∀ b ∈ (47 :: t : Bytes), b < 0x80 ∧ isWs b = false ∧ b ≠ 35) :
    urlsplit (asciiIgnore (47 :: t)) =
      .ok { scheme := [], netloc := [], path := (partitionByte 63 (47 :: t)).1,
            query := (partitionByte 63 (47 :: t)).2, fragment := [] } := by
  have h0 : asciiIgnore (47 :: t) = 47 :: t := List.filter_eq_self.2 fun b hb => by simpa using (hsafe b hb).1
  have h1 : removeUnsafe (lstripC0 (47 :: t)) = 47 :: t :=
    List.filter_eq_self.2 fun b hb => notWs_safe b (hsafe b hb).2.1
  have h3 : ((47 :: t).take 2 == [47, 47]) = false := by
    cases t with
    | nil => rfl
    | cons c t => simpa using hnot
  have h4 := partitionByte_none 35 _ fun b hb => (hsafe b hb).2.2
  rw [h0]
  unfold urlsplit
  simp only [h1, splitScheme_slash, h3, Bool.false_eq_true, if_false, h4]

theorem urlsplit_target (path : Bytes) (ps : List (Bytes × Bytes)) (hp : wellFormedPath path = true) :
    urlsplit (asciiIgnore (renderTarget path ps)) =
      .ok { scheme := [], netloc := [], path := path, query := renderQuery ps, fragment := [] } := by
  obtain ⟨rest, rfl, hrest, hall⟩ := wellFormedPath_cases path hp
  have hq : ∀ b ∈ (47 :: rest : Bytes), b ≠ 63 := fun b hb =>
    (isPathByte_facts b (List.all_eq_true.1 hall b hb)).2.2.2
  obtain ⟨more, hm, hhead⟩ : ∃ more, renderTarget (47 :: rest) ps = 47 :: (rest ++ more) ∧
      (rest ++ more).head? ≠ some 47 := by
    unfold renderTarget; split
    · exact ⟨[], by simp, by simpa using hrest⟩
    · refine ⟨63 :: renderQuery ps, by simp, ?_⟩
      cases rest with
      | nil => simp
      | cons c r => simpa using hrest
  have := urlsplit_plain (rest ++ more) hhead (hm ▸ renderTarget_bytes _ ps hall)
  rw [← hm, renderTarget_query _ ps hq] at this
  exact this

theorem isDigit_facts : ∀ b : UInt8, isDigit b = true →
    b < 0x80 ∧ b.toNat < 127 ∧ isDigitN b.toNat = true ∧ isWs b = false := by
  apply forall_byte; decide +kernel

theorem utf8Decode_ascii (s : Bytes) (h : ∀ b ∈ s, b < 0x80) : utf8Decode s = some (s.map (·.toNat)) := by
  induction s with
  | nil => simp [utf8Decode]
  | cons b s ih =>
    unfold utf8Decode
    simp [h b (by simp), ih (fun x hx => h x (by simp [hx]))]

theorem isDigitN_facts (c : Nat) (h : isDigitN c = true) :
    isAsciiSpaceN c = false ∧ c ≠ 43 ∧ c ≠ 45 ∧ c ≠ 95 ∧ isDigitOrUnderscoreN c = true ∧ c < 127 := by
  simp only [isDigitN, Bool.and_eq_true, decide_eq_true_eq] at h
  simp only [isAsciiSpaceN, isDigitOrUnderscoreN, isDigitN]
  refine ⟨?_, by omega, by omega, by omega, ?_, by omega⟩
  · simp; omega
  · simp; omega

theorem hasDoubleUnderscore_digits (s : List Nat) (h : ∀ c ∈ s, c ≠ 95) : hasDoubleUnderscore s = false := by
  fun_induction hasDoubleUnderscore s with
  | case1 t => exact absurd rfl (h 95 (by simp))
  | case2 a t _ ih => exact ih fun c hc => h c (by simp [hc])
  | case3 => rfl

theorem takeWhile_all {p : α → Bool} (l : List α) (h : ∀ x ∈ l, p x = true) : l.takeWhile p = l := by
  simpa using List.takeWhile_append_of_pos (l₂ := []) h

theorem dropWhile_all {p : α → Bool} (l : List α) (h : ∀ x ∈ l, p x = true) : l.dropWhile p = [] := by
  simpa using List.dropWhile_append_of_pos (l₂ := []) h

theorem parseDecimal_digits (s : List Nat) (hne : s ≠ []) (hd : ∀ c ∈ s, isDigitN c = true)
    (hlen : s.length ≤ maxStrDigits) : parseDecimal s = .ok (decimalValueN s : Int) := by
  obtain ⟨d, t, rfl⟩ := List.exists_cons_of_ne_nil hne
  have hd0 := isDigitN_facts d (hd d (by simp))
  have hall : ∀ c ∈ d :: t, isDigitOrUnderscoreN c = true := fun c hc => (isDigitN_facts c (hd c hc)).2.2.2.2.1
  have hne95 : ∀ c ∈ d :: t, c ≠ 95 := fun c hc => (isDigitN_facts c (hd c hc)).2.2.2.1
  have hlast : ((d :: t).getLast? == some 95) = false := by
    rw [beq_eq_false_iff_ne]
    exact fun hl => hne95 95 (List.mem_of_getLast? hl) rfl
  have hhead (x : Nat) (hx : d ≠ x) : (some d == some x) = false := by simpa using hx
  unfold parseDecimal parseDecimalBody
  simp only [List.dropWhile_cons_of_neg (ne_true_of_eq_false hd0.1), List.head?_cons, hhead 43 hd0.2.1,
    hhead 45 hd0.2.2.1, hhead 95 hd0.2.2.2.1, Bool.or_false, Bool.false_eq_true, if_false, takeWhile_all _ hall,
    dropWhile_all _ hall, List.filter_eq_self.2 fun c hc => bne_iff_ne.2 (hne95 c hc), hlast,
    hasDoubleUnderscore_digits _ hne95, List.isEmpty_cons, List.dropWhile_nil, List.isEmpty_nil, Bool.not_true]
  simp
  simpa using hlen

theorem decimalValueN_map (ds : Bytes) : decimalValueN (ds.map (·.toNat)) = decimalValue ds := by
  simp [decimalValueN, decimalValue, List.foldl_map]

theorem pyIntOfBytes_digits (ds : Bytes) (hne : ds ≠ []) (hd : ds.all isDigit = true)
    (hlen : ds.length ≤ maxStrDigits) : pyIntOfBytes ds = .ok (decimalValue ds : Int) := by
  have hd' := List.all_eq_true.1 hd
  have h1 := utf8Decode_ascii ds (fun b hb => (isDigit_facts b (hd' b hb)).1)
  have h2 : (ds.map (·.toNat)).map toAsciiDigitSpace = ds.map (·.toNat) := by
    rw [List.map_map]
    apply List.map_congr_left
    intro b hb
    simp [toAsciiDigitSpace, (isDigit_facts b (hd' b hb)).2.1]
  unfold pyIntOfBytes pyIntOfStr
  rw [h1]
  simp only [h2]
  rw [parseDecimal_digits _ (by simpa using hne) _ (by simpa using hlen), decimalValueN_map]
  intro c hc
  obtain ⟨b, hb, rfl⟩ := List.mem_map.1 hc
  exact (isDigit_facts b (hd' b hb)).2.2.1

theorem dictSet_keys (d : List (Bytes × Bytes)) (k v : Bytes) :
    (dictSet d k v).map Prod.fst = if k ∈ d.map Prod.fst then d.map Prod.fst else d.map Prod.fst ++ [k] := by
  fun_induction dictSet d k v with
  | case1 => simp
  | case2 k' v' rest v => simp
  | case3 k' v' rest k v hne ih =>
    have : ¬ k = k' := fun e => hne e.symm
    simp only [List.map_cons, ih, List.mem_cons, this, false_or]
    split <;> simp

theorem dictSet_lookup (d : List (Bytes × Bytes)) (k v q : Bytes) :
    (dictSet d k v).lookup q = if q == k then some v else d.lookup q := by
  induction d with
  | nil => cases hb : (q == k) <;> simp [dictSet, List.lookup_cons, hb]
  | cons p d ih =>
    obtain ⟨k', v'⟩ := p
    by_cases h : k' = k
    · subst h
      cases hb : (q == k') <;> simp [dictSet, List.lookup_cons, hb]
    · simp only [dictSet, h, if_false, List.lookup_cons, ih]
      cases hb : (q == k') <;> cases hc : (q == k) <;> simp
      have e1 : q = k' := by simpa using hb
      have e2 : q = k := by simpa using hc
      exact (h (e1.symm.trans e2)).elim

theorem dictSet_nodup (d : List (Bytes × Bytes)) (k v : Bytes) (h : (d.map Prod.fst).Nodup) :
    ((dictSet d k v).map Prod.fst).Nodup := by
  rw [dictSet_keys]
  split
  · exact h
  · rename_i hk
    rw [List.nodup_append]
    refine ⟨h, by simp, ?_⟩
    intro a ha b hb
    simp only [List.mem_singleton] at hb
    subst hb
    intro e; subst e; exact hk ha

theorem foldl_dictSet_nodup_keys (acc ps : List (Bytes × Bytes)) (h : (acc.map Prod.fst).Nodup) :
    ((ps.foldl (fun d p => dictSet d p.1 p.2) acc).map Prod.fst).Nodup := by
  induction ps generalizing acc with
  | nil => simpa using h
  | cons p ps ih => exact ih _ (dictSet_nodup acc p.1 p.2 h)

theorem foldl_dictSet_lookup (acc ps : List (Bytes × Bytes)) (q : Bytes) :
    (ps.foldl (fun d p => dictSet d p.1 p.2) acc).lookup q = (ps.reverse.lookup q).or (acc.lookup q) := by
  induction ps generalizing acc with
  | nil => simp
  | cons p ps ih =>
    obtain ⟨k, v⟩ := p
    simp only [List.foldl_cons, ih, dictSet_lookup, List.reverse_cons, List.lookup_append,
      List.lookup_singleton, Option.or_assoc]
    congr 1
    by_cases hq : q = k <;> simp [hq]

theorem foldl_dictSet_keys (acc ps : List (Bytes × Bytes)) :
    (ps.foldl (fun d p => dictSet d p.1 p.2) acc).map Prod.fst =
      acc.map Prod.fst ++ (firstKeys (ps.map Prod.fst)).filter (fun k => !(acc.map Prod.fst).contains k) := by
  induction ps generalizing acc with
  | nil => simp [firstKeys]
  | cons p ps ih =>
    obtain ⟨k, v⟩ := p
    rw [List.foldl_cons, ih, dictSet_keys, List.map_cons, firstKeys, List.filter_cons, List.filter_filter]
    by_cases hk : k ∈ acc.map Prod.fst
    · -- `k` is a key already: nothing is appended, and the filter `· != k` is implied by the other
      rw [if_pos hk, List.contains_iff_mem.2 hk, Bool.not_true, if_neg Bool.false_ne_true]
      congr 1
      apply List.filter_congr
      intro x _
      by_cases hx : x = k
      · subst hx; simp [hk]
      · simp [hx]
    · -- a new key goes to the end; later occurrences of it are then filtered as keys of the accumulator
      have hc : (acc.map Prod.fst).contains k = false := by simpa using hk
      rw [if_neg hk, hc, Bool.not_false, if_pos rfl, List.append_assoc, List.singleton_append]
      congr 2
      apply List.filter_congr
      intro x _
      by_cases hx : x = k
      · subst hx; simp
      · by_cases hxa : x ∈ List.map Prod.fst acc <;> simp [hx, hxa]

theorem dictSet_of_not_mem (d : List (Bytes × Bytes)) (k v : Bytes) (h : k ∉ d.map Prod.fst) :
    dictSet d k v = d ++ [(k, v)] := by
  fun_induction dictSet d k v with
  | case1 => rfl
  | case2 k' v' rest v => exact absurd List.mem_cons_self h
  | case3 k' v' rest k v _ ih => rw [ih fun hm => h (List.mem_cons_of_mem _ hm)]; rfl

theorem foldl_dictSet_nodup (acc ps : List (Bytes × Bytes))
    (h : ((acc ++ ps).map Prod.fst).Nodup) :
    ps.foldl (fun d p => dictSet d p.1 p.2) acc = acc ++ ps := by
  induction ps generalizing acc with
  | nil => simp
  | cons p ps ih =>
    have hk : p.1 ∉ acc.map Prod.fst := by
      simp only [List.map_append, List.map_cons, List.nodup_append, List.nodup_cons] at h
      intro hm
      exact (h.2.2 _ hm p.1 (by simp)) rfl
    simp only [List.foldl_cons]
    rw [dictSet_of_not_mem _ _ _ hk, ih]
    · simp
    · simpa using h

theorem dictOfList_nodup (ps : List (Bytes × Bytes)) (h : (ps.map Prod.fst).Nodup) :
    dictOfList ps = ps := by
  simpa [dictOfList] using foldl_dictSet_nodup [] ps (by simpa using h)

theorem partitionAt_eq_some {sep data a b : Bytes} (h : partitionAt sep data = some (a, b)) :
    data = a ++ sep ++ b := by
  fun_induction partitionAt sep data generalizing a with
  | case1 => cases h
  | case2 x rest hp =>
    obtain ⟨rfl, rfl⟩ := Prod.mk.inj (Option.some.inj h)
    obtain ⟨t, ht⟩ := List.isPrefixOf_iff_prefix.1 hp
    rw [← ht]; simp
  | case3 x rest _ ih =>
    obtain ⟨⟨a2, b2⟩, hr, he⟩ := Option.map_eq_some_iff.1 h
    obtain ⟨rfl, rfl⟩ := Prod.mk.inj he
    rw [ih hr]; simp

theorem partitionAt_first {sep : Bytes} (hsep : sep ≠ []) (data pre post : Bytes)
    (h : data = pre ++ sep ++ post) :
    ∃ a b, partitionAt sep data = some (a, b) ∧ a.length ≤ pre.length := by
  fun_induction partitionAt sep data generalizing pre with
  | case1 => simp [hsep] at h
  | case2 x rest hp => exact ⟨[], _, rfl, Nat.zero_le _⟩
  | case3 x rest hp ih =>
    cases pre with
    | nil => exact absurd (List.isPrefixOf_iff_prefix.2 ⟨post, by simpa using h.symm⟩) hp
    | cons y pre2 =>
      obtain ⟨a2, b2, h2, hl⟩ := ih pre2 (List.cons.inj h).2
      exact ⟨x :: a2, b2, by rw [h2]; rfl, Nat.succ_le_succ hl⟩

theorem partition_spec (sep data : Bytes) (hsep : sep ≠ []) :
    (∀ pre post, data = pre ++ sep ++ post →
        (∀ pre' post', data = pre' ++ sep ++ post' → pre.length ≤ pre'.length) →
        partition sep data = (pre, post)) ∧
    ((∀ pre post, data ≠ pre ++ sep ++ post) → partition sep data = (data, [])) := by
  constructor
  · intro pre post h hmin
    obtain ⟨a, b, hab, hl⟩ := partitionAt_first hsep data pre post h
    have hd := partitionAt_eq_some hab
    have hl2 := hmin a b hd
    have hlen : a.length = pre.length := by omega
    have : a ++ (sep ++ b) = pre ++ (sep ++ post) := by
      rw [← List.append_assoc, ← List.append_assoc, ← hd, ← h]
    obtain ⟨h1, h2⟩ := List.append_inj this hlen
    have h3 := List.append_cancel_left h2
    simp [partition, hab, h3, h1]
  · intro hno
    cases hp : partitionAt sep data with
    | none => simp [partition, hp]
    | some p =>
      obtain ⟨a, b⟩ := p
      exact absurd (partitionAt_eq_some hp) (hno a b)

theorem containsSub_iff_infix (sep s : Bytes) : containsSub sep s = true ↔ sep <:+: s := by
  induction s with
  | nil => simp [containsSub]
  | cons b rest ih =>
    simp only [containsSub, Bool.or_eq_true, ih, List.isPrefixOf_iff_prefix, List.infix_cons_iff]

theorem parseDecimalBody_error {neg : Bool} {s : List Nat} {e : PyExc}
    (h : parseDecimalBody neg s = .error e) : e = .valueError := by
  revert h
  fun_cases parseDecimalBody neg s <;> intro h <;> cases h <;> rfl

theorem pyIntOfBytes_error {b : Bytes} {e : PyExc} (h : pyIntOfBytes b = .error e) : e = .valueError := by
  unfold pyIntOfBytes at h
  split at h
  · injection h with h; exact h.symm
  · exact parseDecimalBody_error h

theorem checkBracketedHost_error {hst : Bytes} {e : PyExc} (h : checkBracketedHost hst = .error e) :
    e = .valueError := by
  unfold checkBracketedHost at h
  split at h
  · split at h
    · split at h
      · cases h
      · injection h with h; exact h.symm
    · injection h with h; exact h.symm
  · split at h
    · cases h
    · injection h with h; exact h.symm

theorem checkNetloc_error {n : Bytes} {e : PyExc} (h : checkNetloc n = .error e) : e = .valueError := by
  unfold checkNetloc at h
  simp only at h
  split at h
  · injection h with h; exact h.symm
  · split at h
    · exact checkBracketedHost_error h
    · cases h

theorem urlsplit_error {u : Bytes} {e : PyExc} (h : urlsplit u = .error e) : e = .valueError := by
  unfold urlsplit at h
  simp only at h
  split at h
  · rename_i e' heq
    split at heq
    · split at heq
      · rename_i e'' hc
        injection heq with heq; injection h with h
        rw [← h, ← heq]; exact checkNetloc_error hc
      · cases heq
    · cases heq
  · cases h

theorem parseRawHttp_parts {data : Bytes} {m : Msg} (h : parseRawHttp data = .ok m) :
    m.body = (partition CRLFCRLF data).2 ∧
      m.headers = parseHeaders (partition CRLF (partition CRLFCRLF data).1).2 := by
  unfold parseRawHttp at h
  simp only at h
  split at h
  · split at h
    · split at h
      · cases h
      · injection h with h; subst h; exact ⟨rfl, rfl⟩
    · cases h
  · split at h
    · split at h
      · cases h
      · injection h with h; subst h; exact ⟨rfl, rfl⟩
    · cases h

theorem token_noCR (t : Bytes) (h : isToken t = true) : ∀ b ∈ t, b ≠ 13 := by
  intro b hb e
  have := ((isToken_iff t).1 h).2 b hb
  subst e
  simp [isWs] at this

theorem startLine_noCR (a b c : Bytes) (ha : isToken a = true) (hb : isToken b = true)
    (hc : isToken c = true) : ∀ x ∈ a ++ 32 :: b ++ 32 :: c, x ≠ 13 := by
  intro x hx
  simp only [List.mem_append, List.mem_cons] at hx
  rcases hx with (hx | rfl | hx) | rfl | hx
  · exact token_noCR a ha x hx
  · decide
  · exact token_noCR b hb x hx
  · decide
  · exact token_noCR c hc x hx

theorem parseHeaders_rendered (hs : List (Bytes × Bytes)) (hw : WellFormedHeaders hs) :
    parseHeaders ((renderHeaders hs).drop 2) = hs := by
  unfold parseHeaders headerPairs
  rw [splitCRLF_headerBlock hs hw.each]
  rw [List.map_map]
  have : hs.map (partition colonSpace ∘ headerLine) = hs := by
    conv => rhs; rw [← List.map_id hs]
    apply List.map_congr_left
    intro h hh
    simpa using partition_headerLine h (hw.each h hh)
  rw [this]
  exact dictOfList_nodup hs hw.distinct

theorem rendered_parts (a b c : Bytes) (headers : List (Bytes × Bytes)) (body data : Bytes)
    (hd : data = a ++ 32 :: b ++ 32 :: c ++ renderHeaders headers ++ CRLFCRLF ++ body)
    (ha : isToken a = true) (hb : isToken b = true) (hc : isToken c = true) (hw : WellFormedHeaders headers) :
    firstLine data = a ++ 32 :: b ++ 32 :: c ∧ startTokens data = [a, b, c] ∧
      (partition CRLFCRLF data).2 = body ∧
      parseHeaders (partition CRLF (partition CRLFCRLF data).1).2 = headers := by
  subst hd
  have hstart := startLine_noCR a b c ha hb hc
  have hp := partition_message _ headers body hstart hw.each
  have hf := partition_firstLine _ headers hstart
  have e1 : firstLine (a ++ 32 :: b ++ 32 :: c ++ renderHeaders headers ++ CRLFCRLF ++ body) = a ++ 32 :: b ++ 32 :: c := by
    simp only [firstLine, hp, hf]
  refine ⟨e1, ?_, by rw [hp], by rw [hp, hf, parseHeaders_rendered headers hw]⟩
  unfold startTokens
  rw [e1, splitWs_rstrip, List.append_assoc]
  exact splitWs_three _ _ _ ha hb hc

theorem parseRawHttp_rendered_request (version method path : Bytes) (params headers : List (Bytes × Bytes))
    (body : Bytes) (h : WellFormedReq version method path params headers) :
    parseRawHttp (renderRequest version method path params headers body) =
      .ok (.request method path (dictOfList (parseQsl (renderQuery params))) headers body) := by
  obtain ⟨hv, hm, hnot, hpath, hkeys, hvals, hw⟩ := h
  obtain ⟨rest, hpe, _, hall⟩ := wellFormedPath_cases path hpath
  have httok : isToken (renderTarget path params) = true := by
    refine (isToken_iff _).2 ⟨?_, fun b hb => (renderTarget_bytes path params hall b hb).2.1⟩
    subst hpe
    unfold renderTarget; split <;> simp
  obtain ⟨e1, e2, e3, e4⟩ := rendered_parts method (renderTarget path params) version headers body
    (renderRequest version method path params headers body) rfl hm httok hv hw
  have e5 : startsWithHTTP (method ++ 32 :: renderTarget path params ++ 32 :: version) = false := by
    rw [Bool.eq_false_iff, List.append_assoc]
    exact fun hs => Bool.false_ne_true (hnot ▸ startsWithHTTP_of_append_space method _ hs)
  unfold parseRawHttp
  simp only [e1, e2, e3, e4, e5, Bool.false_eq_true, if_false, urlsplit_target path params hpath]

theorem isDigit_ofNat (d : Nat) (h : d < 10) :
    isDigit (UInt8.ofNat (48 + d)) = true ∧ (UInt8.ofNat (48 + d)).toNat - 48 = d := by
  have : ∀ d, d < 10 → isDigit (UInt8.ofNat (48 + d)) = true ∧ (UInt8.ofNat (48 + d)).toNat - 48 = d := by
    decide
  exact this d h

theorem natDigits_ne_nil (n : Nat) : natDigits n ≠ [] := by
  unfold natDigits; split <;> simp

theorem natDigits_all (n : Nat) : (natDigits n).all isDigit = true := by
  fun_induction natDigits n with
  | case1 n h => simpa using (isDigit_ofNat n h).1
  | case2 n h ih => simpa [ih] using (isDigit_ofNat (n % 10) (by omega)).1

theorem decimalValue_snoc (l : Bytes) (d : UInt8) :
    decimalValue (l ++ [d]) = decimalValue l * 10 + (d.toNat - 48) := by
  simp [decimalValue, List.foldl_append]

theorem decimalValue_natDigits (n : Nat) : decimalValue (natDigits n) = n := by
  fun_induction natDigits n with
  | case1 n h => simpa [decimalValue] using (isDigit_ofNat n h).2
  | case2 n h ih => rw [decimalValue_snoc, ih, (isDigit_ofNat (n % 10) (by omega)).2]; omega

theorem natDigits_length (k n : Nat) (hk : 0 < k) (h : n < 10 ^ k) : (natDigits n).length ≤ k := by
  fun_induction natDigits n generalizing k with
  | case1 n _ => exact hk
  | case2 n hn ih =>
    obtain ⟨k, rfl⟩ : ∃ j, k = j + 1 := ⟨k - 1, by omega⟩
    have hk' : 0 < k := by
      rcases Nat.eq_zero_or_pos k with rfl | h0
      · omega
      · exact h0
    have := ih k hk' (by rw [Nat.div_lt_iff_lt_mul (by decide)]; rwa [Nat.pow_succ] at h)
    simp; omega

end C16

import CsVerif.Model.C04Gen
import CsVerif.Lemmas.C04
import CsVerif.Props.C20Gen
import CsVerif.Lemmas.PyULib
import Mathlib.Tactic.SplitIfs
/-! Helper lemmas for Props/C04Gen.lean: the operations of `PyU` (run-time library of the untyped translator) against the
primitives of the C04 model, and the definitions of `Gen/PyC2T.lean` translated from `HttpDataTransform.__init__ / transform /
recover` against `C04.mkTransform / transform / recover`.  No property statements. -/
namespace C04Gen
open PyU C04

theorem pure_ok {α : Type} (a : α) : (pure a : Py α) = .ok a := rfl
theorem pureA_ok {α : Type} (a : α) : (pure a : PyA α) = .ok a := rfl
theorem errA_bind {α β : Type} (e : ExcA) (f : α → PyA β) : ((Except.error e : PyA α) >>= f) = .error e := rfl
theorem lift_err {α : Type} (e : PyExc) : (liftM (Except.error e : Py α) : PyA α) = .error (.py e) := rfl
theorem throwA {α : Type} (e : ExcA) : (throw e : PyA α) = .error e := rfl

/-! ### dict[bytes, bytes] -/

theorem dict_set_eq (d : Dict) (k v : Bytes) : d.set k v = assocSet d k v := by
  induction d with
  | nil => rfl
  | cons p rest ih => simp only [Dict.set, assocSet, ih]

theorem dict_get_eq (d : Dict) (k : Bytes) : d.get k = d.lookup k := by
  induction d with
  | nil => rfl
  | cons p rest ih =>
    obtain ⟨k', v'⟩ := p
    by_cases h : k' = k
    · simp [Dict.get, h]
    · have : (k == k') = false := by simpa using fun e => h e.symm
      simp only [Dict.get, List.lookup_cons, h, if_false, this, ih]

theorem keyEq_bytes_decide (a b : Bytes) : keyEq (.bytes a) (.bytes b) = decide (a = b) := by
  rw [keyEq_bytes, Bool.eq_iff_iff]; simp

theorem setItem_enc (d : Dict) (k v : Bytes) :
    setItem (encDict d) (.bytes k) (.bytes v) = .ok (encDict (d.set k v)) := by
  rw [dict_set_eq]; exact setItem_assoc V.bytes V.bytes hashable_bytes keyEq_bytes_decide d k v

theorem getItem_enc (d : Dict) (k : Bytes) :
    getItem (encDict d) (.bytes k) = match d.get k with | some v => .ok (.bytes v) | none => .error .keyError := by
  rw [encDict, getItem_dict _ _ _ (hashable_bytes k), findKey_assoc V.bytes V.bytes keyEq_bytes k d, dict_get_eq]
  cases d.lookup k <;> rfl

theorem mkDict_nil : mkDict [] = .ok (encDict []) := rfl

/-! ### bytes helpers -/

theorem partition_eq (sep d : Bytes) :
    C04.partition sep d = match splitAt? sep d with | some p => p | none => (d, []) := by
  induction d with
  | nil => rfl
  | cons c cs ih =>
    simp only [C04.partition, splitAt?]
    by_cases h : sep.isPrefixOf (c :: cs) = true
    · simp only [h, if_true]
    · simp only [h, Bool.false_eq_true, if_false, ih]
      cases splitAt? sep cs <;> rfl

theorem partition_bytes (sep d : Bytes) (h : sep ≠ []) :
    ∃ m, PyU.partition (.bytes d) (.bytes sep)
      = .ok (.tuple [.bytes (C04.partition sep d).1, m, .bytes (C04.partition sep d).2]) := by
  have hs : sep.isEmpty = false := by cases sep with | nil => exact absurd rfl h | cons _ _ => rfl
  simp only [PyU.partition, hs, Bool.false_eq_true, if_false, partition_eq]
  cases splitAt? sep d with
  | none => exact ⟨_, rfl⟩
  | some p => exact ⟨_, rfl⟩

theorem lowByte_eq (b : UInt8) : PyU.lowByte b = C04.lowerByte b := by
  simp only [PyU.lowByte, C04.lowerByte, UInt8.le_iff_toNat_le]; rfl

theorem upByte_eq (b : UInt8) : PyU.upByte b = C04.upperByte b := by
  simp only [PyU.upByte, C04.upperByte, UInt8.le_iff_toNat_le]; rfl

theorem lower_bytes (s : Bytes) : PyU.lower (.bytes s) = .ok (.bytes (C04.lower s)) := by
  simp only [PyU.lower, C04.lower, funext lowByte_eq]

theorem upper_bytes (s : Bytes) : PyU.upper (.bytes s) = .ok (.bytes (C04.upper s)) := by
  simp only [PyU.upper, C04.upper, funext upByte_eq]

theorem replicate_flatten {α : Type} (k : Nat) (x : α) : (List.replicate k [x]).flatten = List.replicate k x := by
  induction k with
  | zero => rfl
  | succ k ih => simp only [List.replicate_succ, List.flatten_cons, ih, List.singleton_append]

/-! ### the lifted typed translations of utils.py -/

theorem netbios_encode_bytes (d : Bytes) :
    Gen.PyC2T.netbios_encode (.bytes d) = (C20.netbiosEncode d 65).map .bytes := by
  simp only [Gen.PyC2T.netbios_encode, liftBytes1, C20Gen.gen_netbios_encode]

theorem netbios_decode_bytes (d : Bytes) :
    Gen.PyC2T.netbios_decode (.bytes d) = (C20.netbiosDecode d 65).map .bytes := by
  simp only [Gen.PyC2T.netbios_decode, liftBytes1, C20Gen.gen_netbios_decode]

theorem xor_bytes (d k : Bytes) : Gen.PyC2T.xor (.bytes d) (.bytes k) = .ok (.bytes (C20.xor d k)) := by
  simp only [Gen.PyC2T.xor, liftBytes2, C20Gen.gen_xor, Except.map]

theorem toLE4 (v : Nat) :
    C20.toLE 4 v = [UInt8.ofNat (v % 256), UInt8.ofNat (v / 256 % 256), UInt8.ofNat (v / 256 / 256 % 256),
      UInt8.ofNat (v / 256 / 256 / 256 % 256)] := rfl

theorem p32be_int (u : UInt32) : Gen.PyC2T.p32be (.int u.toNat) = .ok (.bytes (C04.p32be u)) := by
  have hlt : u.toNat < 4294967296 := u.toNat_lt
  simp only [Gen.PyC2T.p32be, liftIntBytes, asInt, C20Gen.gen_p32be, C20.pack, C20.toBytes, Bool.false_eq_true, if_false]
  rw [if_pos (by constructor <;> omega)]
  simp only [Except.map, C20.toBytesU, Int.toNat_natCast, toLE4, C04.p32be, List.reverse_cons, List.reverse_nil,
    List.nil_append, List.cons_append, Nat.div_div_eq_div_mul]

theorem unpack2_tuple (a b : V) : unpack2 (.tuple [a, b]) = .ok (a, b) := rfl
theorem unpack3_tuple (a b c : V) : unpack3 (.tuple [a, b, c]) = .ok (a, b, c) := rfl
theorem eq_str (a b : PyRt.Str) : PyU.eq (.str a) (.str b) = (a == b) := rfl

theorem map_bytesOf {f : Bytes → Step} {val : V} {st : Step} (h : (bytesOf val).map f = some st) :
    ∃ k, val = .bytes k ∧ f k = st := by
  cases val <;> simp only [bytesOf, Option.map_some, Option.map_none, Option.some.injEq, reduceCtorEq] at h
  exact ⟨_, rfl, h⟩

theorem stepOf_shape {v : V} {st : Step} (h : stepOf v = some st) :
    ∃ name val, v = .tuple [.str name, val] ∧ name.all (· < 128) = true := by
  unfold stepOf at h
  split at h
  · rename_i name val
    by_cases ha : name.all (· < 128) = true
    · exact ⟨name, val, rfl, ha⟩
    · simp [ha] at h
  · cases h

theorem getrandbitsX_int (rand : Rand) (t0 : Nat) :
    getrandbitsX rand (.int (t0 : Int)) (.int 32) = .ok (.int (rand t0).toNat) := by
  simp [getrandbitsX]

theorem next_int (t0 : Nat) : next (.int (t0 : Int)) = .int ((t0 + 1 : Nat) : Int) := by
  simp [next]

theorem add_bytes (a b : Bytes) : add (.bytes a) (.bytes b) = .ok (.bytes (a ++ b)) := rfl

/-! ### one iteration of the loop of `transform` -/

/-- the mask stream after `k` calls of `random.getrandbits` -/
def shift (rand : C04.Rand) (k : Nat) : C04.Rand := fun i => rand (i + k)

/-- the loop state of the translated `transform`: call counter, `uri`, `params`, `headers`, `body`, `data` -/
def encTSt (t0 : Nat) (s : C04.TSt) : V × V × V × V × V × V :=
  (.int t0, .bytes s.uri, encDict s.params, encDict s.headers, .bytes s.body, .bytes s.data)

/-- calls of `random.getrandbits` one step makes -/
def masks : Step → Nat
  | .enc .mask => 1
  | _ => 0

def encTRes (t0 : Nat) : R TSt → PyA (Ctl × (V × V × V × V × V × V))
  | .ok s' => .ok (.cont, encTSt t0 s')
  | .error e => .error (encExc e)

theorem isInstance_bytes (b : Bytes) : isInstance (.bytes b) [Ty.bytes] = true := rfl

theorem assert_bytes {α : Type} (k : Bytes) (a b : α) :
    (if (!isInstance (.bytes k) [Ty.bytes]) = true then a else b) = b := rfl

theorem argOf_spec {f : Arg → Step} {val : V} {st : Step} (h : (argOf val).map f = some st) :
    ∃ a, f a = st ∧ ((∃ b, val = .bytes b ∧ a = .bytes b) ∨
      (∃ n, a = .int n ∧ asInt val = some n ∧ isInstance val [Ty.int] = true ∧ isInstance val [Ty.bytes] = false ∧
        mul (.bytes [88]) val = .ok (.bytes (List.replicate n.toNat 88)))) := by
  obtain ⟨a, ha, rfl⟩ := Option.map_eq_some_iff.1 h
  refine ⟨a, rfl, ?_⟩
  cases val <;> simp only [argOf, asInt, Option.map_some, Option.map_none, Option.some.injEq, reduceCtorEq] at ha
  all_goals subst ha
  all_goals simp [isInstance, isInst1, asInt, mul]

theorem getAttr_c2 (cls : Cls) (c2 : C2Data) (hc : cls.fields = ["output", "metadata", "id"]) (f : Field) :
    getAttr (encC2 cls c2) (match f with | .output => "output" | .id => "id" | .metadata => "metadata")
      = .ok (encOB (c2.get f)) := by
  cases f <;> simp [getAttr, encC2, hc, lookupField, C2Data.get]

theorem eq_field (val : V) :
    PyU.eq val (.str (cps "output")) = (fieldOf val == some .output) ∧
    PyU.eq val (.str (cps "id")) = (fieldOf val == some .id) ∧
    PyU.eq val (.str (cps "metadata")) = (fieldOf val == some .metadata) := by
  cases val
  case str sv =>
    simp only [eq_str, fieldOf]
    by_cases h1 : sv = cps "output"
    · subst h1; decide +kernel
    by_cases h2 : sv = cps "id"
    · subst h2; decide +kernel
    by_cases h3 : sv = cps "metadata"
    · subst h3; decide +kernel
    simp [h1, h2, h3]
  all_goals exact ⟨rfl, rfl, rfl⟩

theorem fmtS_pair (val : V) (n : PyRt.Str) (h : reprOk val = true) : ∃ r, fmtS (.tuple [.str n, val]) = .ok r := by
  simp only [reprOk] at h
  cases hr : PyU.repr val with
  | error e => simp [hr, Except.toBool] at h
  | ok r =>
    refine ⟨40 :: (PyU.reprStr n ++ 44 :: 32 :: (r ++ [41])), ?_⟩
    simp [fmtS, PyU.repr, reprL, hr]

/-- `x or b""` for an optional `bytes` attribute `x` -/
theorem encOB_or_empty {α : Type} (k : V → α) (o : Option Bytes) :
    (if (!truthy (encOB o)) = true then k (.bytes []) else k (encOB o)) = k (.bytes (o.getD [])) := by
  cases o with
  | none => rfl
  | some b => cases b <;> rfl

section TransformLoop

local macro "loop_norm" hl:ident : tactic => `(tactic| (
  unfold Gen.PyC2T.transform_loop1
  simp only [encTSt, unpack2_tuple, lift_ok, okA_bind, $hl:ident]
  simp only [eq_str, lit]
  simp (config := {decide := true}) only [if_true, if_false, Bool.or_false, Bool.or_true, Bool.true_or]))

/-- The loop body and `stepOf` test the lowered step name against the same literals in the same order: the two cascades are
walked side by side, and the name itself is never needed. -/
theorem tstep_eq (rand : Rand) (cls : Cls) (hc : cls.fields = ["output", "metadata", "id"]) (c2 : C2Data)
    (v : V) (st : Step) (h : stepOf v = some st) (t0 : Nat) (s : TSt) (hs : s.rand = shift rand t0) :
    Gen.PyC2T.transform_loop1 b64encodeX urlsafeB64encodeX (getrandbitsX rand) (encC2 cls c2) v (encTSt t0 s)
      = encTRes (t0 + masks st) (tstep c2 st s) := by
  obtain ⟨name, val, rfl, ha⟩ := stepOf_shape h
  have hl := PyU.lower_str name ha
  simp only [stepOf, ha, ↓reduceIte] at h
  generalize name.map lowCp = n at h hl
  unfold Gen.PyC2T.transform_loop1
  -- the prelude runs at the head of the term (up to `lower` by unfolding alone); the branches are touched once chosen
  dsimp only [encTSt, unpack2_tuple]
  rw [lift_ok, okA_bind, hl, lift_ok, okA_bind]
  simp only [eq_str, lit, beq_iff_eq, Bool.or_eq_true]
  by_cases h1 : n = cps "append"
  · rw [if_pos h1] at h ⊢
    obtain ⟨a, rfl, ⟨b, rfl, rfl⟩ | ⟨k, rfl, hk, hi, hb, hm⟩⟩ := argOf_spec h
    · rfl
    · simp only [hi, if_true, hm, lift_ok, okA_bind, assert_bytes, add_bytes]
      rfl
  rw [if_neg h1] at h ⊢
  by_cases h2 : n = cps "prepend"
  · rw [if_pos h2] at h ⊢
    obtain ⟨a, rfl, ⟨b, rfl, rfl⟩ | ⟨k, rfl, hk, hi, hb, hm⟩⟩ := argOf_spec h
    · rfl
    · simp only [hi, if_true, hm, lift_ok, okA_bind, assert_bytes, add_bytes]
      rfl
  rw [if_neg h2] at h ⊢
  by_cases h3 : n = cps "base64"
  · rw [if_pos h3] at h ⊢; cases h; rfl
  rw [if_neg h3] at h ⊢
  by_cases h4 : n = cps "base64url"
  · rw [if_pos h4] at h ⊢; cases h; rfl
  rw [if_neg h4] at h ⊢
  by_cases h5 : n = cps "netbios"
  · rw [if_pos h5] at h ⊢; cases h
    simp only [netbios_encode_bytes, tstep, encStep]
    cases C20.netbiosEncode s.data 65 with
    | error e => rfl
    | ok e => simp only [Except.map, lift_ok, okA_bind, lower_bytes]; rfl
  rw [if_neg h5] at h ⊢
  by_cases h6 : n = cps "netbiosu"
  · rw [if_pos h6] at h ⊢; cases h
    simp only [netbios_encode_bytes, tstep, encStep]
    cases C20.netbiosEncode s.data 65 with
    | error e => rfl
    | ok e => simp only [Except.map, lift_ok, okA_bind, upper_bytes]; rfl
  rw [if_neg h6] at h ⊢
  by_cases h7 : n = cps "mask"
  · rw [if_pos h7] at h ⊢; cases h
    simp only [getrandbitsX_int, next_int, lift_ok, okA_bind, p32be_int, xor_bytes, add_bytes, pureA_ok, tstep, encStep, hs,
      shift, Except.map, encTRes, encTSt, Nat.zero_add, masks]
  rw [if_neg h7] at h ⊢
  by_cases h8 : n = cps "print"
  · rw [if_pos h8] at h ⊢; cases h; rfl
  rw [if_neg h8] at h ⊢
  by_cases h9 : n = cps "header"
  · rw [if_pos h9] at h ⊢
    obtain ⟨k, rfl, rfl⟩ := map_bytesOf h
    simp only [assert_bytes, setItem_enc, lift_ok, okA_bind]
    rfl
  rw [if_neg h9] at h ⊢
  by_cases h10 : n = cps "_header"
  · rw [if_pos h10] at h; rw [if_pos (Or.inl h10)]
    obtain ⟨k, rfl, rfl⟩ := map_bytesOf h
    obtain ⟨m, hm⟩ := partition_bytes [58, 32] k (by decide)
    simp only [assert_bytes, hm, unpack3_tuple, setItem_enc, lift_ok, okA_bind]
    rfl
  rw [if_neg h10] at h
  by_cases h11 : n = cps "_hostheader"
  · rw [if_pos h11] at h; rw [if_pos (Or.inr h11)]
    obtain ⟨k, rfl, rfl⟩ := map_bytesOf h
    obtain ⟨m, hm⟩ := partition_bytes [58, 32] k (by decide)
    simp only [assert_bytes, hm, unpack3_tuple, setItem_enc, lift_ok, okA_bind]
    rfl
  rw [if_neg h11] at h; rw [if_neg (not_or.2 ⟨h10, h11⟩)]
  by_cases h12 : n = cps "uri_append"
  · rw [if_pos h12] at h ⊢; cases h; rfl
  rw [if_neg h12] at h ⊢
  by_cases h13 : n = cps "parameter"
  · rw [if_pos h13] at h ⊢
    obtain ⟨k, rfl, rfl⟩ := map_bytesOf h
    simp only [assert_bytes, setItem_enc, lift_ok, okA_bind]
    rfl
  rw [if_neg h13] at h ⊢
  by_cases h14 : n = cps "_parameter"
  · rw [if_pos h14] at h ⊢
    obtain ⟨k, rfl, rfl⟩ := map_bytesOf h
    obtain ⟨m, hm⟩ := partition_bytes [61] k (by decide)
    simp only [assert_bytes, hm, unpack3_tuple, setItem_enc, lift_ok, okA_bind]
    rfl
  rw [if_neg h14] at h ⊢
  by_cases h15 : n = cps "build"
  · rw [if_pos h15] at h ⊢; cases h
    have g1 := getAttr_c2 cls c2 hc .output
    have g2 := getAttr_c2 cls c2 hc .id
    have g3 := getAttr_c2 cls c2 hc .metadata
    simp only at g1 g2 g3
    obtain ⟨e1, e2, e3⟩ := eq_field val
    simp only [g1, g2, g3, e1, e2, e3, lift_ok, okA_bind]
    cases fieldOf val with
    | none => rfl
    | some f =>
      let k (d : V) : PyA (Ctl × (V × V × V × V × V × V)) :=
        pure (Ctl.cont, V.int t0, V.bytes s.uri, encDict s.params, encDict s.headers, V.bytes s.body, d)
      cases f <;> simp (config := {decide := true}) only [↓reduceIte]
      · exact encOB_or_empty k c2.output
      · exact encOB_or_empty k c2.id
      · exact encOB_or_empty k c2.metadata
  rw [if_neg h15] at h ⊢
  by_cases hr : reprOk val = true
  · rw [if_pos hr] at h; cases h
    obtain ⟨r, hf⟩ := fmtS_pair val n hr
    simp only [hf, lift_ok, okA_bind, throwA, errA_bind]
    rfl
  · rw [if_neg hr] at h; cases h

end TransformLoop

theorem tstep_rand (rand : Rand) (c2 : C2Data) (st : Step) (t0 : Nat) (s s' : TSt) (hs : s.rand = shift rand t0)
    (h : tstep c2 st s = .ok s') : s'.rand = shift rand (t0 + masks st) := by
  cases st with
  | enc e =>
    cases e <;> simp only [tstep, encStep, Except.map, liftPy] at h
    case netbios => (cases hn : C20.netbiosEncode s.data 65 <;> simp [hn] at h); subst h; simpa [masks] using hs
    case netbiosu => (cases hn : C20.netbiosEncode s.data 65 <;> simp [hn] at h); subst h; simpa [masks] using hs
    case mask =>
      injection h with h; subst h
      simp only [masks, hs]
      funext i; show rand (i + 1 + t0) = rand (i + (t0 + 1)); rw [Nat.add_right_comm, Nat.add_assoc]
    all_goals (injection h with h; subst h; simpa [masks] using hs)
  | term t => cases t <;> simp only [tstep] at h <;> (injection h with h; subst h; simpa [masks] using hs)
  | static t => cases t <;> simp only [tstep] at h <;> (injection h with h; subst h; simpa [masks] using hs)
  | build f => cases f <;> simp only [tstep] at h <;> (injection h with h; subst h; simpa [masks] using hs)
  | unknown => simp [tstep] at h

/-! ### step lists -/

theorem stepsOf_nil : stepsOf [] = some [] := rfl

theorem stepsOf_cons {v : V} {vs : List V} {ss : List Step} (h : stepsOf (v :: vs) = some ss) :
    ∃ st ss', stepOf v = some st ∧ stepsOf vs = some ss' ∧ ss = st :: ss' := by
  simp only [stepsOf, List.mapM_cons, Option.pure_def, Option.bind_eq_bind, Option.bind_eq_some_iff, Option.some.injEq] at h
  obtain ⟨st, h1, ss', h2, rfl⟩ := h
  exact ⟨st, ss', h1, h2, rfl⟩

def encTFin (t1 : Nat) : R TSt → PyA (V × V × V × V × V × V)
  | .ok s' => .ok (encTSt t1 s')
  | .error e => .error (encExc e)

theorem runT_eq (rand : Rand) (cls : Cls) (hc : cls.fields = ["output", "metadata", "id"]) (c2 : C2Data) (vs : List V) :
    ∀ (ss : List Step), stepsOf vs = some ss → ∀ (t0 : Nat) (s : TSt), s.rand = shift rand t0 →
    ∃ t1, forList vs (Gen.PyC2T.transform_loop1 b64encodeX urlsafeB64encodeX (getrandbitsX rand) (encC2 cls c2)) (encTSt t0 s)
      = encTFin t1 (runT c2 ss s) := by
  induction vs with
  | nil =>
    intro ss h t0 s _
    cases h
    exact ⟨t0, rfl⟩
  | cons v vs ih =>
    intro ss h t0 s hs
    obtain ⟨st, ss', h1, h2, rfl⟩ := stepsOf_cons h
    have he := tstep_eq rand cls hc c2 v st h1 t0 s hs
    cases ht : tstep c2 st s with
    | error e =>
      refine ⟨t0, ?_⟩
      simp only [forList, he, ht, encTRes, runT, Except.bind, encTFin]
    | ok s' =>
      obtain ⟨t1, h3⟩ := ih ss' h2 (t0 + masks st) s' (tstep_rand rand c2 st t0 s s' hs ht)
      refine ⟨t1, ?_⟩
      simp only [forList, he, ht, encTRes, runT, Except.bind, h3]

/-! ### `transform` -/

theorem getAttr_req (a b c d e : V) :
    getAttr (.inst Gen.PyC2U.HttpRequest [a, b, c, d, e]) "uri" = .ok b ∧
    getAttr (.inst Gen.PyC2U.HttpRequest [a, b, c, d, e]) "params" = .ok c ∧
    getAttr (.inst Gen.PyC2U.HttpRequest [a, b, c, d, e]) "headers" = .ok d ∧
    getAttr (.inst Gen.PyC2U.HttpRequest [a, b, c, d, e]) "body" = .ok e := by
  simp [getAttr, Gen.PyC2U.HttpRequest, lookupField]

theorem replace_req (a b c d e x y z w : V) :
    replace (.inst Gen.PyC2U.HttpRequest [a, b, c, d, e]) [("body", x), ("params", y), ("uri", z), ("headers", w)]
      = .ok (.inst Gen.PyC2U.HttpRequest [a, z, y, w, x]) := rfl

theorem getAttr_tsteps (tvs rvs : List V) : getAttr (encT tvs rvs) "tsteps" = .ok (.list tvs) := by
  simp [getAttr, encT, Gen.PyC2T.HttpDataTransform, lookupField]

theorem getAttr_rsteps (tvs rvs : List V) : getAttr (encT tvs rvs) "rsteps" = .ok (.list rvs) := by
  simp [getAttr, encT, Gen.PyC2T.HttpDataTransform, lookupField]

theorem iterList_list (l : List V) : iterList (.list l) = .ok l := rfl

theorem transform_req (rand : Rand) (cls : Cls) (hc : cls.fields = ["output", "metadata", "id"]) (tvs rvs : List V)
    (t : Transform) (h : stepsOf tvs = some t.tsteps) (c2 : C2Data) (r : Req) :
    (do
      let t4 ← (liftM (getAttr (encReq r) "uri") : PyA V)
      let t5 ← (liftM (getAttr (encReq r) "params") : PyA V)
      let t6 ← (liftM (getAttr (encReq r) "headers") : PyA V)
      let t7 ← (liftM (getAttr (encReq r) "body") : PyA V)
      let t8 ← (liftM (getAttr (encT tvs rvs) "tsteps") : PyA V)
      let t9 ← (liftM (iterList t8) : PyA (List V))
      let t43 ← forList t9 (Gen.PyC2T.transform_loop1 b64encodeX urlsafeB64encodeX (getrandbitsX rand) (encC2 cls c2))
        (V.int 0, t4, t5, t6, t7, V.bytes [])
      let t44 ← (liftM (replace (encReq r) [("body", t43.2.2.2.2.1), ("params", t43.2.2.1), ("uri", t43.2.1), ("headers", t43.2.2.2.1)]) : PyA V)
      pure t44) = encR encReq ((runT c2 t.tsteps (TSt.init r rand)).map (TSt.toReq r)) := by
  obtain ⟨t1, hl⟩ := runT_eq rand cls hc c2 tvs t.tsteps h 0 (TSt.init r rand) rfl
  have hinit : (V.int 0, V.bytes r.uri, encDict r.params, encDict r.headers, V.bytes r.body, V.bytes [])
      = encTSt 0 (TSt.init r rand) := rfl
  obtain ⟨g1, g2, g3, g4⟩ := getAttr_req (.bytes r.method) (.bytes r.uri) (encDict r.params) (encDict r.headers) (.bytes r.body)
  simp only [encReq, g1, g2, g3, g4, getAttr_tsteps, iterList_list, lift_ok, okA_bind, hinit, hl]
  cases runT c2 t.tsteps (TSt.init r rand) with
  | error e => rfl
  | ok s' =>
    simp only [encTFin, encTSt, okA_bind, replace_req, lift_ok, Except.map, encR, encReq, TSt.toReq]

theorem gen_transform_proof (rand : Rand) (cls : Cls) (hc : cls.fields = ["output", "metadata", "id"]) (tvs rvs : List V)
    (t : Transform) (h : stepsOf tvs = some t.tsteps) (c2 : C2Data) (req : Option Req) :
    Gen.PyC2T.transform b64encodeX urlsafeB64encodeX (getrandbitsX rand) (encT tvs rvs) (encC2 cls c2) (encOptReq req)
      = encR encReq (C04.transform t rand c2 req) := by
  unfold Gen.PyC2T.transform
  cases req with
  | none =>
    have := transform_req rand cls hc tvs rvs t h c2 emptyReq
    simp only [encReq, emptyReq, encDict, List.map_nil] at this
    simp only [encOptReq, truthy, Bool.not_false, if_true, mkDict_nil, lift_ok, okA_bind, encDict, List.map_nil]
    simp only [C04.transform, Option.getD, emptyReq]
    exact this
  | some r =>
    have := transform_req rand cls hc tvs rvs t h c2 r
    have ht : truthy (encReq r) = true := rfl
    simp only [encOptReq, ht, Bool.not_true, Bool.false_eq_true, if_false]
    simp only [C04.transform, Option.getD]
    exact this

/-! ### slices -/

theorem slice_from (d : Bytes) (v : V) (n : Int) (h : asInt v = some n) :
    PyU.slice (.bytes d) v .none = .ok (.bytes (pySliceFrom d n)) := by
  cases v <;> simp only [asInt, Option.some.injEq, reduceCtorEq] at h
  all_goals subst h
  all_goals simp [PyU.slice, bound, asInt, PyRt.slice_from, pure_ok]

theorem slice_from4 (d : Bytes) : PyU.slice (.bytes d) (.int 4) .none = .ok (.bytes (d.drop 4)) := PyU.slice_from_nat d 4
theorem slice_to4 (d : Bytes) : PyU.slice (.bytes d) .none (.int 4) = .ok (.bytes (d.take 4)) := PyU.slice_to_nat d 4

theorem sub_len (d : Bytes) (v : V) (n : Int) (h : asInt v = some n) :
    PyU.sub (.int d.length) v = .ok (.int ((d.length : Int) - n)) := by
  have h0 : asInt (.int (d.length : Int)) = some (d.length : Int) := rfl
  simp only [PyU.sub, ints2, h0, h, Except.map]

/-! ### one iteration of the loop of `recover` -/

/-- the loop state of the translated `recover`: `build_metadata`, `build_output`, `build_id`, `data` -/
def encRSt (s : RSt) : V × V × V × V := (encOB s.metadata, encOB s.output, encOB s.id, .bytes s.data)

def encRRes : R RSt → PyA (Ctl × (V × V × V × V))
  | .ok s' => .ok (.cont, encRSt s')
  | .error e => .error (encExc e)

theorem len_bytes (d : Bytes) : len (.bytes d) = .ok (.int d.length) := rfl

theorem isInstance_int (n : Int) : isInstance (.int n) [Ty.int] = true := rfl

theorem getAttr_resp (a b c d e : V) :
    getAttr (.inst Gen.PyC2U.HttpResponse [a, b, c, d, e]) "headers" = .ok b ∧
    getAttr (.inst Gen.PyC2U.HttpResponse [a, b, c, d, e]) "body" = .ok d := by
  simp [getAttr, Gen.PyC2U.HttpResponse, lookupField]

theorem isRequest_resp (a b c d e : V) :
    isInstance (.inst Gen.PyC2U.HttpResponse [a, b, c, d, e]) [Ty.cls Gen.PyC2U.HttpRequest] = false := rfl

theorem contains_static (n : PyRt.Str) :
    contains (V.tuple [V.str (cps "_header"), V.str (cps "_hostheader"), V.str (cps "_parameter")]) (V.str n)
      = .ok (n == cps "_header" || n == cps "_hostheader" || n == cps "_parameter") := by
  simp [contains, eq_str, Bool.or_assoc]

section RecoverLoop

local macro "loop_norm" hl:ident : tactic => `(tactic| (
  unfold Gen.PyC2T.recover_loop1
  simp only [encRSt, unpack2_tuple, lift_ok, okA_bind, $hl:ident]
  simp only [eq_str, lit]
  simp (config := {decide := true}) only [if_true, if_false, Bool.or_false, Bool.or_true, Bool.true_or]))

/-- As `tstep_eq`; this loop tests `uri_append` before `header` and the statics last, so the names `stepOf` tests earlier
are ruled out by comparing the literals. -/
theorem rstep_eq (sv rv qv : V) (http : Http) (v : V) (st : Step) (h : stepOf v = some st) (s : RSt) :
    Gen.PyC2T.recover_loop1 b64decodeX urlsafeB64decodeX (encHttp sv rv qv http) v (encRSt s)
      = encRRes (rstep http st s) := by
  obtain ⟨name, val, rfl, ha⟩ := stepOf_shape h
  have hl := PyU.lower_str name ha
  simp only [stepOf, ha, ↓reduceIte] at h
  generalize name.map lowCp = n at h hl
  unfold Gen.PyC2T.recover_loop1
  dsimp only [encRSt, unpack2_tuple]
  rw [lift_ok, okA_bind, hl, lift_ok, okA_bind]
  simp only [eq_str, lit, beq_iff_eq, Bool.or_eq_true, contains_static, lift_ok, okA_bind]
  have ne : ∀ {a b : PyRt.Str}, n = a → a ≠ b → ¬n = b := fun h1 h2 e => h2 (h1.symm.trans e)
  by_cases h1 : n = cps "append"
  · rw [if_pos h1] at h ⊢
    obtain ⟨a, rfl, ⟨b, rfl, rfl⟩ | ⟨k, rfl, hk, hi, hb, -⟩⟩ := argOf_spec h
    · simp only [isInstance_bytes, if_true, len_bytes, lift_ok, okA_bind, isInstance_int, Bool.not_true, Bool.false_eq_true,
        if_false, sub_len s.data (.int b.length) b.length rfl, slice_to]
      rfl
    · simp only [hb, hi, Bool.false_eq_true, if_false, Bool.not_true, len_bytes, lift_ok, okA_bind, sub_len s.data val k hk, slice_to]
      rfl
  rw [if_neg h1] at h ⊢
  by_cases h2 : n = cps "prepend"
  · rw [if_pos h2] at h ⊢
    obtain ⟨a, rfl, ⟨b, rfl, rfl⟩ | ⟨k, rfl, hk, hi, hb, -⟩⟩ := argOf_spec h
    · simp only [isInstance_bytes, if_true, len_bytes, lift_ok, okA_bind, isInstance_int, Bool.not_true, Bool.false_eq_true,
        if_false, slice_from s.data (.int b.length) b.length rfl]
      rfl
    · simp only [hb, hi, Bool.false_eq_true, if_false, Bool.not_true, lift_ok, okA_bind, slice_from s.data val k hk]
      rfl
  rw [if_neg h2] at h ⊢
  by_cases h3 : n = cps "base64"
  · rw [if_pos h3] at h ⊢; cases h
    simp only [add_bytes, b64decodeX, bytesPy, lift_ok, okA_bind, rstep, decStep]
    cases C04.b64decode (s.data ++ [61, 61]) <;> rfl
  rw [if_neg h3] at h ⊢
  by_cases h4 : n = cps "base64url"
  · rw [if_pos h4] at h ⊢; cases h
    simp only [add_bytes, urlsafeB64decodeX, bytesPy, lift_ok, okA_bind, rstep, decStep]
    cases C04.urlsafeB64decode (s.data ++ [61, 61]) <;> rfl
  rw [if_neg h4] at h ⊢
  by_cases h5 : n = cps "netbios"
  · rw [if_pos h5] at h ⊢; cases h
    simp only [upper_bytes, netbios_decode_bytes, lift_ok, okA_bind, rstep, decStep]
    cases C20.netbiosDecode (C04.upper s.data) 65 <;> rfl
  rw [if_neg h5] at h ⊢
  by_cases h6 : n = cps "netbiosu"
  · rw [if_pos h6] at h ⊢; cases h
    simp only [netbios_decode_bytes, rstep, decStep]
    cases C20.netbiosDecode s.data 65 <;> rfl
  rw [if_neg h6] at h ⊢
  by_cases h7 : n = cps "mask"
  · rw [if_pos h7] at h ⊢; cases h
    simp only [slice_from4, slice_to4, xor_bytes, lift_ok, okA_bind]
    rfl
  rw [if_neg h7] at h ⊢
  by_cases h8 : n = cps "print"
  · rw [if_pos h8] at h ⊢; cases h
    cases http with
    | request r => simp only [encHttp, encReq, (getAttr_req _ _ _ _ _).2.2.2, lift_ok, okA_bind]; rfl
    | response hd b => simp only [encHttp, (getAttr_resp _ _ _ _ _).2, lift_ok, okA_bind]; rfl
  rw [if_neg h8] at h ⊢
  by_cases h9 : n = cps "header"
  · rw [if_pos h9] at h ⊢; rw [if_neg (ne h9 (by decide +kernel))]
    obtain ⟨k, rfl, rfl⟩ := map_bytesOf h
    simp only [assert_bytes, rstep, fetch]
    cases http with
    | request r =>
      simp only [encHttp, encReq, (getAttr_req _ _ _ _ _).2.2.1, lift_ok, okA_bind, getItem_enc]
      cases Dict.get r.headers k <;> rfl
    | response hd b =>
      simp only [encHttp, (getAttr_resp _ _ _ _ _).1, lift_ok, okA_bind, getItem_enc]
      cases Dict.get hd k <;> rfl
  rw [if_neg h9] at h ⊢
  by_cases h12 : n = cps "uri_append"
  · rw [if_pos h12] at h ⊢; rw [if_neg (ne h12 (by decide +kernel)), if_neg (ne h12 (by decide +kernel))] at h; cases h
    cases http with
    | request r => simp only [encHttp, encReq, (getAttr_req _ _ _ _ _).1, lift_ok, okA_bind]; rfl
    | response hd b => simp only [encHttp, isRequest_resp, Bool.not_false, if_true, throwA, errA_bind]; rfl
  rw [if_neg h12] at h ⊢
  by_cases h13 : n = cps "parameter"
  · rw [if_pos h13] at h ⊢; rw [if_neg (ne h13 (by decide +kernel)), if_neg (ne h13 (by decide +kernel))] at h
    obtain ⟨k, rfl, rfl⟩ := map_bytesOf h
    simp only [assert_bytes, rstep, fetch]
    cases http with
    | request r =>
      simp only [encHttp, encReq, (getAttr_req _ _ _ _ _).2.1, lift_ok, okA_bind, getItem_enc]
      cases Dict.get r.params k <;> rfl
    | response hd b => simp only [encHttp, isRequest_resp, Bool.not_false, if_true, throwA, errA_bind]; rfl
  rw [if_neg h13] at h ⊢
  by_cases h15 : n = cps "build"
  · rw [if_pos h15] at h ⊢
    rw [if_neg (ne h15 (by decide +kernel)), if_neg (ne h15 (by decide +kernel)), if_neg (ne h15 (by decide +kernel))] at h; cases h
    obtain ⟨e1, e2, e3⟩ := eq_field val
    simp only [e1, e2, e3]
    cases fieldOf val with
    | none => rfl
    | some f => cases f <;> rfl
  rw [if_neg h15] at h ⊢
  by_cases h10 : n = cps "_header"
  · rw [if_pos h10] at h; rw [if_pos (Or.inl (Or.inl h10))]
    obtain ⟨k, rfl, rfl⟩ := map_bytesOf h; rfl
  rw [if_neg h10] at h
  by_cases h11 : n = cps "_hostheader"
  · rw [if_pos h11] at h; rw [if_pos (Or.inl (Or.inr h11))]
    obtain ⟨k, rfl, rfl⟩ := map_bytesOf h; rfl
  rw [if_neg h11] at h
  by_cases h14 : n = cps "_parameter"
  · rw [if_pos h14] at h; rw [if_pos (Or.inr h14)]
    obtain ⟨k, rfl, rfl⟩ := map_bytesOf h; rfl
  rw [if_neg h14] at h; rw [if_neg (not_or.2 ⟨not_or.2 ⟨h10, h11⟩, h14⟩)]
  by_cases hr : reprOk val = true
  · rw [if_pos hr] at h; cases h
    obtain ⟨r, hf⟩ := fmtS_pair val n hr
    simp only [hf, lift_ok, okA_bind, throwA, errA_bind]
    rfl
  · rw [if_neg hr] at h; cases h

end RecoverLoop

/-! ### `recover` -/

def encRFin : R RSt → PyA (V × V × V × V)
  | .ok s' => .ok (encRSt s')
  | .error e => .error (encExc e)

theorem runR_eq (sv rv qv : V) (http : Http) (vs : List V) :
    ∀ (ss : List Step), stepsOf vs = some ss → ∀ (s : RSt),
    forList vs (Gen.PyC2T.recover_loop1 b64decodeX urlsafeB64decodeX (encHttp sv rv qv http)) (encRSt s)
      = encRFin (runR http ss s) := by
  induction vs with
  | nil =>
    intro ss h s
    cases h
    rfl
  | cons v vs ih =>
    intro ss h s
    obtain ⟨st, ss', h1, h2, rfl⟩ := stepsOf_cons h
    have he := rstep_eq sv rv qv http v st h1 s
    cases ht : rstep http st s with
    | error e => simp only [forList, he, ht, encRRes, runR, Except.bind, encRFin]
    | ok s' => simp only [forList, he, ht, encRRes, runR, Except.bind, ih ss' h2 s']

theorem gen_recover_proof (sv rv qv : V) (tvs rvs : List V) (t : Transform) (h : stepsOf rvs = some t.rsteps) (http : Http) :
    Gen.PyC2T.recover b64decodeX urlsafeB64decodeX (encT tvs rvs) (encHttp sv rv qv http)
      = encR (encC2 (resultCls http)) (C04.recover t http) := by
  have hinit : (V.none, V.none, V.none, V.bytes []) = encRSt ⟨[], none, none, none⟩ := rfl
  have hl := runR_eq sv rv qv http rvs t.rsteps h ⟨[], none, none, none⟩
  have i1 : isInstance (encHttp sv rv qv http) [Ty.cls Gen.PyC2U.HttpRequest, Ty.cls Gen.PyC2U.HttpResponse] = true := by
    cases http <;> rfl
  unfold Gen.PyC2T.recover
  simp only [i1, Bool.not_true, Bool.false_eq_true, if_false, getAttr_rsteps, iterList_list, lift_ok, okA_bind, hinit, hl,
    C04.recover]
  cases http <;> cases runR _ t.rsteps ⟨[], none, none, none⟩ <;> rfl

/-- a round trip of the model carried over to the translated definitions (`msg r`: the message made of the request) -/
theorem gen_roundtrip (tvs rvs : List V) (t : Transform) (h1 : stepsOf tvs = some t.tsteps) (h2 : stepsOf rvs = some t.rsteps)
    (cls : Cls) (hc : cls.fields = ["output", "metadata", "id"]) (c2 : C2Data) (rand : Rand) (req : Option Req)
    (status reason request : V) (msg : Req → Http) (out : C2Data)
    (hp : (C04.transform t rand c2 req).bind (fun r => C04.recover t (msg r)) = .ok out) :
    ∃ r, transformG rand (encT tvs rvs) (encC2 cls c2) (encOptReq req) = .ok (encReq r) ∧
      recoverG (encT tvs rvs) (encHttp status reason request (msg r)) = .ok (encC2 (resultCls (msg r)) out) := by
  cases ht : C04.transform t rand c2 req with
  | error e => rw [ht] at hp; cases hp
  | ok r =>
    rw [ht] at hp
    refine ⟨r, ?_, ?_⟩
    · rw [transformG, gen_transform_proof rand cls hc tvs rvs t h1 c2 req, ht]; rfl
    · rw [recoverG, gen_recover_proof status reason request tvs rvs t h2 (msg r), show C04.recover t (msg r) = .ok out from hp]; rfl

/-! ### the constructor -/

theorem stepsOf_iff (vs : List V) (ss : List Step) : stepsOf vs = some ss ↔ vs.map stepOf = ss.map some := by
  induction vs generalizing ss with
  | nil => cases ss <;> simp [stepsOf]
  | cons v vs ih =>
    constructor
    · intro h
      obtain ⟨st, ss', h1, h2, rfl⟩ := stepsOf_cons h
      simp only [List.map_cons, h1, (ih ss').1 h2]
    · intro h
      cases ss with
      | nil => simp at h
      | cons st ss' =>
        simp only [List.map_cons, List.cons.injEq] at h
        have h2 := (ih ss').2 h.2
        simp only [stepsOf] at h2 ⊢
        simp [List.mapM_cons, h.1, h2]

theorem stepOf_BUILD (b : V) : stepOf (.tuple [lit "BUILD", b]) = some (.build (fieldOf b)) := by
  have h1 : (cps "BUILD").all (· < 128) = true := by decide
  have h2 : (cps "BUILD").map lowCp = cps "build" := by decide
  simp only [stepOf, lit, h1, ↓reduceIte, h2]
  simp (config := {decide := true}) only [↓reduceIte]

theorem stepsOf_mkLists (vs : List V) (ss : List Step) (h : stepsOf vs = some ss) (rev : Bool) (build : V) :
    stepsOf (mkLists vs rev build).1 = some (mkTransform ss rev (buildOf build)).tsteps ∧
    stepsOf (mkLists vs rev build).2 = some (mkTransform ss rev (buildOf build)).rsteps := by
  rw [stepsOf_iff] at h
  simp only [stepsOf_iff, mkLists, mkTransform, buildOf]
  cases rev <;> cases hb : isNone build <;>
    simp [h, stepOf_BUILD, List.map_reverse]

theorem insert0 (l : List V) (x : V) : PyU.insert (.list l) (.int 0) x = .ok (.list (x :: l)) := by
  simp [PyU.insert, asInt, PyRt.clampIdx]

theorem init_of_iterList (steps : V) (vs : List V) (h : iterList steps = .ok vs) (reverse build : V) :
    Gen.PyC2T.http_data_transform_init steps reverse build
      = .ok (encT (mkLists vs (truthy reverse) build).1 (mkLists vs (truthy reverse) build).2) := by
  simp only [Gen.PyC2T.http_data_transform_init, listOf, h, Except.map, PyU.ok_bind, sliceRev, mkLists, encT]
  cases truthy reverse <;> cases isNone build <;> simp [insert0, PyU.append, pure_ok]

theorem gen_http_data_transform_init_proof (vs : List V) (reverse build : V) :
    Gen.PyC2T.http_data_transform_init (.list vs) reverse build
      = .ok (encT (mkLists vs (truthy reverse) build).1 (mkLists vs (truthy reverse) build).2) :=
  init_of_iterList (.list vs) vs rfl reverse build

end C04Gen

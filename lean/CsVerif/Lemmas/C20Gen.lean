import CsVerif.Gen.PyUtils
import CsVerif.Lemmas.C20
import CsVerif.Lemmas.PyULib
/-! `PyRt` operations and the translated `pack`, `xor`, NetBIOS loops against the C20 model. -/
namespace C20Gen
open PyRt

theorem fromLE_eq (d : Bytes) : PyRt.fromLE d = C20.fromLE d := by
  induction d with
  | nil => rfl
  | cons b bs ih => simp only [PyRt.fromLE, C20.fromLE, ih]

theorem toLE_eq (n v : Nat) : PyRt.toLE n v = C20.toLE n v := by
  induction n generalizing v with
  | zero => rfl
  | succ n ih => simp only [PyRt.toLE, C20.toLE, ih]

theorem bytesOfInts_eq (l : List Int) : PyRt.bytesOfInts l = C20.bytesOfInts l := by
  induction l with
  | nil => rfl
  | cons v vs ih => simp only [PyRt.bytesOfInts, C20.bytesOfInts, ih]

theorem slice_noBound_eq {α : Type} (xs : List α) (size : Option Int) :
    slice xs noBound size = pySliceTo xs size := by
  cases size with
  | none => exact PyRt.slice_all xs
  | some i => exact PyRt.slice_to xs i

theorem slice_noBound_int {α : Type} (xs : List α) (i : Int) :
    slice xs noBound i = pySliceTo xs (some i) := slice_noBound_eq xs (some i)

theorem s_little : s "little" = [108,105,116,116,108,101] := by decide
theorem s_big : s "big" = [98,105,103] := by decide
theorem little_ne_big : s "little" ≠ s "big" := by decide

/-- the byteorder strings -/
def orderStr : C20.Order → Str
  | .little => s "little"
  | .big => s "big"

theorem orderLittle_orderStr (o : C20.Order) : orderLittle (orderStr o) = .ok (o == .little) := by
  cases o
  · simp [orderLittle, orderStr]
  · simp [orderLittle, orderStr, Ne.symm little_ne_big]

theorem orderLittle_bad (order : Str) (h : order ≠ s "little" ∧ order ≠ s "big") :
    orderLittle order = .error .valueError := by
  simp [orderLittle, h.1, h.2]

theorem intFromBytes_eq (d : Bytes) (o : C20.Order) (sg : Bool) :
    intFromBytes d (orderStr o) sg = .ok (C20.fromBytes o sg d) := by
  unfold intFromBytes
  rw [orderLittle_orderStr]
  cases o <;> simp [C20.fromBytes, C20.fromBytesU, fromLE_eq]

theorem intFromBytes_bad (d : Bytes) (order : Str) (sg : Bool) (h : order ≠ s "little" ∧ order ≠ s "big") :
    intFromBytes d order sg = .error .valueError := by
  unfold intFromBytes
  rw [orderLittle_bad order h]

theorem intToBytes_eq (n : Int) (k : Nat) (o : C20.Order) (sg : Bool) :
    intToBytes n (k : Int) (orderStr o) sg = C20.toBytes o sg k n := by
  have hp (u : Nat) : (if (o == C20.Order.little) = true then toLE k u else (toLE k u).reverse) = C20.toBytesU o k u := by
    cases o <;> simp [C20.toBytesU, toLE_eq]
  have hu : (if n < 0 then (n + ((256 ^ k : Nat) : Int)).toNat else n.toNat)
      = if n ≥ 0 then n.toNat else (n + ((256 ^ k : Nat) : Int)).toNat := by
    by_cases h : n < 0
    · rw [if_pos h, if_neg (by omega)]
    · rw [if_neg h, if_pos (by omega)]
  unfold intToBytes
  rw [if_neg (by omega), orderLittle_orderStr]
  simp only [Int.toNat_natCast, hp, hu]
  unfold C20.toBytes
  have flip {α : Type} (P : Prop) [Decidable P] (a b : α) :
      (if (!decide P) = true then a else b) = if P then b else a := by
    by_cases h : P <;> simp [h]
  cases sg
  · simp only [Bool.false_eq_true, if_false, flip]
    by_cases h : 0 ≤ n ∧ n < ((256 ^ k : Nat) : Int)
    · rw [if_pos h, if_pos h, if_pos h.1]
    · rw [if_neg h, if_neg h]
  · simp only [if_true]
    rcases Nat.eq_zero_or_pos k with rfl | hk
    · -- width 0: only `0` and `-1` fit, both as the empty string
      have h0 (u : Nat) : C20.toBytesU o 0 u = [] := by cases o <;> rfl
      have hr : (-((256 ^ 0 / 2 : Nat) : Int) ≤ n ∧ n < ((256 ^ 0 : Nat) : Int) - ((256 ^ 0 / 2 : Nat) : Int)) ↔ n = 0 := by
        simp; omega
      simp only [if_true, true_and, h0, hr, flip]
      by_cases h1 : n = -1 <;> simp [h1]
    · have hev := C20.pow256_even k hk
      have hr : (-((256 ^ k / 2 : Nat) : Int) ≤ n ∧ n < ((256 ^ k / 2 : Nat) : Int)) ↔
          (-((256 ^ k / 2 : Nat) : Int) ≤ n ∧ n < ((256 ^ k : Nat) : Int) - ((256 ^ k / 2 : Nat) : Int)) := by omega
      simp only [show k ≠ 0 by omega, if_false, false_and, hr, flip]

theorem intToBytes_neg (n k : Int) (hk : k < 0) (order : Str) (sg : Bool) :
    intToBytes n k order sg = .error .valueError := by
  unfold intToBytes; rw [if_pos hk]

theorem intToBytes_bad (n k : Int) (order : Str) (sg : Bool) (h : order ≠ s "little" ∧ order ≠ s "big") :
    intToBytes n k order sg = .error .valueError := by
  unfold intToBytes; rw [orderLittle_bad order h]; split <;> rfl

theorem bitLength_eq (n : Int) : PyRt.bitLength n = ((C20.bitLength n : Nat) : Int) := by
  unfold PyRt.bitLength C20.bitLength
  by_cases h : n = 0
  · subst h; simp
  · have : n.natAbs ≠ 0 := by omega
    simp [h, this]

theorem pack_eq (n : Int) (size : Option Nat) (o : C20.Order) (signed : Bool) :
    Gen.PyUtils.pack n (size.map Int.ofNat) (orderStr o) signed = C20.pack n size o signed := by
  unfold Gen.PyUtils.pack C20.pack
  cases size with
  | none =>
    simp only [Option.map_none, add, bitLength_eq, pure_bind]
    have : (((C20.bitLength n : Nat) : Int) + 7) / 8 = (((C20.bitLength n + 7) / 8 : Nat) : Int) := by omega
    rw [this, intToBytes_eq]
  | some k =>
    simp only [Option.map_some, pure_bind, Int.ofNat_eq_natCast]
    rw [intToBytes_eq]

theorem foldl_add_cast (l : List Nat) (a : Int) :
    (l.map fun (c : Nat) => (c : Int)).foldl (· + ·) a = a + ((l.sum : Nat) : Int) := by
  induction l generalizing a with
  | nil => simp
  | cons x xs ih => simp only [List.map_cons, List.foldl_cons, ih, List.sum_cons]; omega

theorem isAlnum_eq (c : Nat) : PyRt.isAlnum c = C20.isAlnum c := rfl

/-- the translation matches `/` and `\n` by pattern, the model compares with `==` -/
theorem matchX64_eq (t : Str) : PyRt.matchStagerX64 t = C20.matchX64Shape t := by
  unfold PyRt.matchStagerX64
  split
  · rfl
  · exact (Bool.and_true _).symm
  · rename_i h5 h6
    unfold C20.matchX64Shape
    split
    · rename_i s a b c d
      have hs : (s == 47) = false := beq_eq_false_iff_ne.mpr fun e => h5 a b c d (e ▸ rfl)
      rw [hs]; rfl
    · rename_i s a b c d nl
      by_cases hn : nl = 10
      · have hs : (s == 47) = false := beq_eq_false_iff_ne.mpr fun e => h6 a b c d (e ▸ hn ▸ rfl)
        rw [hs]; rfl
      · rw [beq_eq_false_iff_ne.mpr hn, Bool.and_false]
    · rfl

theorem hi_nibble : ∀ m, m < 256 → (m &&& 240) / 16 = m / 16 := by decide +kernel
theorem lo_nibble (m : Nat) : (m &&& 15) = m % 16 := Nat.and_two_pow_sub_one_eq_mod m 4

/-- from any accumulator; the translated function starts at `[]` -/
theorem encode_loop (data : Bytes) (off : Int) (acc : List Int) :
    (forIn (m := Except PyExc) (iter (bytearray data)) acc fun c __s =>
        pure (ForInStep.yield (__s ++ [add (band c 240 / 16) off] ++ [add (band c 15) off])))
      = .ok (acc ++ C20.nbEncodeInts data off) := by
  induction data generalizing acc with
  | nil => simp [iter, bytearray, C20.nbEncodeInts]; rfl
  | cons x xs ih =>
    simp only [iter, bytearray, List.map_cons, List.forIn_cons, pure_bind] at ih ⊢
    rw [ih]
    have hx := x.toNat_lt
    have h1 : band (x.toNat : Int) 240 = ((x.toNat &&& 240 : Nat) : Int) := band_natCast _ 240
    have h2 : band (x.toNat : Int) 15 = ((x.toNat &&& 15 : Nat) : Int) := band_natCast _ 15
    rw [h1, h2, lo_nibble]
    have h3 : ((x.toNat &&& 240 : Nat) : Int) / 16 = ((x.toNat / 16 : Nat) : Int) := by
      rw [← hi_nibble _ hx]; rfl
    rw [h3]
    simp [C20.nbEncodeInts, add]

theorem add_int (a b : Int) : add a b = a + b := rfl

theorem getItem_ok (d : Bytes) (idx : Int) (i : Nat) (hi : idx = (i : Int)) (h : i < d.length) :
    getItem d idx = .ok ((d[i].toNat : Nat) : Int) := by
  subst hi
  have hn : normIdx d.length (i : Int) = .ok i := by
    unfold normIdx
    have hj : (if (i : Int) < 0 then (i : Int) + (d.length : Nat) else (i : Int)) = (i : Int) := if_neg (by omega)
    simp only [hj]
    rw [if_pos ⟨by omega, by omega⟩]; simp
  simp only [getItem, hn]
  simp [Except.map, List.getD_eq_getElem?_getD, h]

theorem getItem_oob (d : Bytes) (idx : Int) (h : (d.length : Int) ≤ idx) :
    getItem d idx = .error .indexError := by
  have hn : normIdx d.length idx = .error .indexError := by
    unfold normIdx
    have hj : (if idx < 0 then idx + (d.length : Nat) else idx) = idx := if_neg (by omega)
    simp only [hj]
    rw [if_neg (by omega)]
  simp only [getItem, hn]
  rfl

theorem getItem_append (pre rest : Bytes) (idx : Int) (i : Nat) (hi : idx = ((pre.length + i : Nat) : Int))
    (h : i < rest.length) : getItem (pre ++ rest) idx = .ok ((rest[i].toNat : Nat) : Int) := by
  rw [getItem_ok (pre ++ rest) idx (pre.length + i) hi (by rw [List.length_append]; omega),
    List.getElem_append_right (Nat.le_add_right _ _)]
  simp only [Nat.add_sub_cancel_left]

/-- The loop indexes into the whole string: after `j` rounds `pre` is the `2 * j` bytes consumed; the function is `pre = []`. -/
theorem decode_loop (rest : Bytes) (off : Int) : ∀ (pre : Bytes) (j : Nat) (acc : List Int), pre.length = 2 * j →
    (forIn (m := Except PyExc) ((List.range' j ((rest.length + 1) / 2)).map fun (k : Nat) => (0 : Int) + 2 * (k : Int)) acc
      fun (i : Int) (__s : List Int) => do
        let t1 ← getItem (pre ++ rest) i
        let t2 ← getItem (pre ++ rest) (add i (1 : Int))
        pure (ForInStep.yield (__s ++ [add ((t1 - off) * 16) (t2 - off)])))
      = (C20.nbDecodeInts rest off).map (acc ++ ·) := by
  fun_induction C20.nbDecodeInts rest off with
  | case1 off => intro pre j acc _; simp [Except.map]; rfl
  | case2 x off =>
    intro pre j acc hp
    simp only [List.length_cons, List.length_nil, Nat.zero_add, Nat.reduceAdd, Nat.reduceDiv, List.range'_one,
      List.map_cons, List.map_nil, List.forIn_cons]
    rw [getItem_append pre [x] _ 0 (by omega) (by simp),
      getItem_oob (pre ++ [x]) _ (by simp only [add_int, List.length_append, List.length_cons, List.length_nil]; omega)]
    rfl
  | case3 a b rest off ih =>
    intro pre j acc hp
    have hm : ((a :: b :: rest).length + 1) / 2 = (rest.length + 1) / 2 + 1 := by simp only [List.length_cons]; omega
    rw [hm, List.range'_succ]
    simp only [List.map_cons, List.forIn_cons]
    rw [getItem_append pre (a :: b :: rest) _ 0 (by omega) (by simp),
      getItem_append pre (a :: b :: rest) _ 1 (by simp only [add_int]; omega) (by simp)]
    have hpre : pre ++ a :: b :: rest = (pre ++ [a, b]) ++ rest := by simp
    simp only [ok_bind, pure_bind]
    rw [hpre, ih (pre ++ [a, b]) (j + 1) _ (by simp; omega)]
    cases C20.nbDecodeInts rest off <;> simp [Except.map, add]

theorem range3_zero_two (n : Nat) :
    range3 0 (n : Int) 2 = (List.range' 0 ((n + 1) / 2)).map fun (k : Nat) => (0 : Int) + 2 * (k : Int) := by
  unfold range3
  have : (((n : Int) - 0 + 2 - 1) / 2).toNat = (n + 1) / 2 := by omega
  rw [this, List.range_eq_range']

theorem sum_bytes_zero (l : Bytes) : ∀ a : Int, 0 ≤ a →
    (l.foldl (fun acc x => acc + (x.toNat : Int)) a = 0 ↔ (a = 0 ∧ l.all (· == 0) = true)) := by
  induction l with
  | nil => intro a _; simp
  | cons x xs ih =>
    intro a ha
    simp only [List.foldl_cons, List.all_cons, Bool.and_eq_true, beq_iff_eq]
    rw [ih _ (by omega)]
    have : x = 0 ↔ x.toNat = 0 := by
      constructor
      · rintro rfl; rfl
      · intro h; exact UInt8.toNat_inj.mp h
    rw [this]
    constructor
    · rintro ⟨h1, h2⟩; exact ⟨by omega, by omega, h2⟩
    · rintro ⟨h1, h2, h3⟩; exact ⟨by omega, h3⟩

theorem sum_eq_zero (key : Bytes) : (sum key == (0 : Int)) = key.all (· == 0) := by
  rw [Bool.eq_iff_iff, beq_iff_eq]
  have := sum_bytes_zero key 0 (by omega)
  simpa [sum] using this

theorem fdiv_natCast (a b : Nat) : Int.fdiv (a : Int) (b : Int) = ((a / b : Nat) : Int) := by
  rw [Int.fdiv_eq_ediv_of_nonneg _ (by omega)]; rfl

theorem tile_eq (key : Bytes) (n : Nat) :
    slice (if key.length < n then mul key (add ((n / key.length : Nat) : Int) (1 : Int)) else key) noBound (n : Int)
      = C20.tile key n := by
  rw [slice_noBound_int]
  unfold C20.tile
  simp only [pySliceTo, mul, add_int]
  rw [if_pos (by omega)]
  have : ∀ m : Nat, ((m : Int) + 1).toNat = m + 1 := fun m => by omega
  simp only [this, Int.toNat_natCast]

theorem fromLE_xor_lt (a b : Bytes) (h : b.length = a.length) :
    C20.fromLE a ^^^ C20.fromLE b < 256 ^ a.length := by
  have ha := C20.fromLE_lt a
  have hb := C20.fromLE_lt b
  rw [h] at hb
  have e : (256 : Nat) ^ a.length = 2 ^ (8 * a.length) := by
    rw [Nat.pow_mul]
  rw [e] at ha hb ⊢
  exact Nat.xor_lt_two_pow ha hb

theorem xor_tail (data k : Bytes) (hk : k.length = data.length) :
    (do
      let t2 ← intFromBytes data (s "little") false
      let t3 ← intFromBytes k (s "little") false
      intToBytes (bxor t2 t3) (len data) (s "little") false)
    = .ok (C20.toLE data.length (C20.fromLE data ^^^ C20.fromLE k)) := by
  have e1 := intFromBytes_eq data .little false
  have e2 := intFromBytes_eq k .little false
  have e3 := intToBytes_eq (bxor (C20.fromLE data : Int) (C20.fromLE k : Int)) data.length .little false
  simp only [orderStr] at e1 e2 e3
  rw [e1, e2]
  simp only [ok_bind, C20.fromBytes, C20.fromBytesU, Bool.false_eq_true, false_and, if_false]
  rw [show (len data : Int) = ((data.length : Nat) : Int) from rfl, e3, bxor_natCast]
  have hlt := fromLE_xor_lt data k hk
  simp only [C20.toBytes, Bool.false_eq_true, if_false, C20.toBytesU]
  rw [if_pos ⟨by omega, by omega⟩]
  simp

theorem xor_eq_xorBig (data key : Bytes) : Gen.PyUtils.xor data key = .ok (C20.xorBig data key) := by
  unfold Gen.PyUtils.xor C20.xorBig
  simp only []
  rw [sum_eq_zero]
  by_cases hz : key.all (· == 0) = true
  · rw [if_pos hz, if_pos hz]; rfl
  · rw [if_neg hz, if_neg hz]
    have hk : key ≠ [] := by rintro rfl; simp at hz
    have hl : 0 < key.length := List.length_pos_iff.mpr hk
    have hlen := C20.tile_length key data.length hk
    have ht := tile_eq key data.length
    have hd : decide ((len key : Int) < len data) = decide (key.length < data.length) := by
      simp only [len, decide_eq_decide]; omega
    rw [hd]
    by_cases hlt : key.length < data.length
    · have hf : floordiv (len data) (len key) = .ok ((data.length / key.length : Nat) : Int) := by
        simp only [floordiv, len]
        rw [if_neg (by omega), fdiv_natCast]
      rw [if_pos hlt] at ht
      rw [if_pos (decide_eq_true hlt), hf, ok_bind, show (len data : Int) = ((data.length : Nat) : Int) from rfl, ht]
      exact xor_tail data _ hlen
    · rw [if_neg hlt] at ht
      rw [if_neg (by simpa using hlt), show (len data : Int) = ((data.length : Nat) : Int) from rfl, ht]
      exact xor_tail data _ hlen

end C20Gen

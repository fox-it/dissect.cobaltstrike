import CsVerif.Model.C14
/-! C14 lemmas: the reachable-state invariant `Inv`, and `step_spec`: every operation keeps `Inv` and returns what the pure
function `specObs` says. -/
namespace C14

theorem getElem?_app {h : Heap} {a : Addr} {x : List Step} (e : Heap) (hx : h[a]? = some x) :
    (h ++ e)[a]? = some x := by
  have hlt : a < h.length := by
    rcases Nat.lt_or_ge a h.length with hl | hl
    · exact hl
    · rw [List.getElem?_eq_none hl] at hx; cases hx
  rw [List.getElem?_append_left hlt]; exact hx

theorem getElem?_lt {h : Heap} {a : Addr} {x : List Step} (hx : h[a]? = some x) : a < h.length := by
  rcases Nat.lt_or_ge a h.length with hl | hl
  · exact hl
  · rw [List.getElem?_eq_none hl] at hx; cases hx

theorem derefVal_ext {h : Heap} {v : Val} {d : PVal} (e : Heap) (hd : derefVal h v = some d) :
    derefVal (h ++ e) v = some d := by
  cases v with
  | scalar i => exact hd
  | ref a =>
    obtain ⟨x, hx, hxd⟩ := Option.map_eq_some_iff.mp hd
    exact Option.map_eq_some_iff.mpr ⟨x, getElem?_app e hx, hxd⟩

theorem derefMap_cons_eq_some {h : Heap} {p : Key × Val} {r : Mapping} {d : DMapping} :
    derefMap h (p :: r) = some d ↔
      ∃ dv dr, derefVal h p.2 = some dv ∧ derefMap h r = some dr ∧ d = (p.1, dv) :: dr := by
  obtain ⟨k, v⟩ := p
  constructor
  · intro hd
    unfold derefMap at hd
    split at hd
    · rename_i dv dr hv hr
      cases hd
      exact ⟨dv, dr, hv, hr, rfl⟩
    · cases hd
  · rintro ⟨dv, dr, hv, hr, rfl⟩
    unfold derefMap
    rw [hv, hr]

theorem derefT_eq_some {h : Heap} {t : Transform} {p : DTransform} :
    derefT h t = some p ↔ h[t.tsteps]? = some p.1 ∧ h[t.rsteps]? = some p.2 := by
  constructor
  · intro hd
    unfold derefT at hd
    split at hd
    · rename_i a b h1 h2
      cases hd
      exact ⟨h1, h2⟩
    · cases hd
  · rintro ⟨h1, h2⟩
    unfold derefT
    rw [h1, h2]

theorem derefD_eq_some {h : Heap} {d : Decoder} {dd : DDecoder} :
    derefD h d = some dd ↔
      derefT h d.submit = some dd.1 ∧ derefT h d.get = some dd.2.1 ∧ derefT h d.response = some dd.2.2 := by
  constructor
  · intro hd
    unfold derefD at hd
    split at hd
    · rename_i a b c h1 h2 h3
      cases hd
      exact ⟨h1, h2, h3⟩
    · cases hd
  · rintro ⟨h1, h2, h3⟩
    unfold derefD
    rw [h1, h2, h3]

theorem derefMap_ext {h : Heap} {m : Mapping} {d : DMapping} (e : Heap) (hd : derefMap h m = some d) :
    derefMap (h ++ e) m = some d := by
  induction m generalizing d with
  | nil => exact hd
  | cons p r ih =>
    obtain ⟨dv, dr, hv, hr, rfl⟩ := derefMap_cons_eq_some.1 hd
    exact derefMap_cons_eq_some.2 ⟨dv, dr, derefVal_ext e hv, ih hr, rfl⟩

theorem derefCells_ext {h : Heap} {m : List Addr} {d : List (List Step)} (e : Heap) (hd : derefCells h m = some d) :
    derefCells (h ++ e) m = some d := by
  induction m generalizing d with
  | nil => exact hd
  | cons a r ih =>
    unfold derefCells at hd ⊢
    split at hd
    · rename_i x dr hv hr
      rw [getElem?_app e hv, ih hr]; exact hd
    · cases hd

theorem derefT_ext {h : Heap} {t : Transform} {d : DTransform} (e : Heap) (hd : derefT h t = some d) :
    derefT (h ++ e) t = some d := by
  obtain ⟨h1, h2⟩ := derefT_eq_some.1 hd
  exact derefT_eq_some.2 ⟨getElem?_app e h1, getElem?_app e h2⟩

theorem derefT_lt {h : Heap} {t : Transform} {d : DTransform} (hd : derefT h t = some d) :
    ∀ a ∈ t.refs, a < h.length := by
  obtain ⟨h1, h2⟩ := derefT_eq_some.1 hd
  intro a ha
  simp only [Transform.refs, List.mem_cons, List.not_mem_nil, or_false] at ha
  rcases ha with rfl | rfl
  · exact getElem?_lt h1
  · exact getElem?_lt h2

theorem derefD_ext {h : Heap} {t : Decoder} {d : DDecoder} (e : Heap) (hd : derefD h t = some d) :
    derefD (h ++ e) t = some d := by
  obtain ⟨h1, h2, h3⟩ := derefD_eq_some.1 hd
  exact derefD_eq_some.2 ⟨derefT_ext e h1, derefT_ext e h2, derefT_ext e h3⟩

theorem derefD_lt {h : Heap} {t : Decoder} {d : DDecoder} (hd : derefD h t = some d) :
    ∀ a ∈ t.refs, a < h.length := by
  obtain ⟨h1, h2, h3⟩ := derefD_eq_some.1 hd
  intro a ha
  simp only [Decoder.refs, List.mem_append] at ha
  rcases ha with (ha | ha) | ha
  · exact derefT_lt h1 a ha
  · exact derefT_lt h2 a ha
  · exact derefT_lt h3 a ha

theorem mem_refsOf_cons {k : Key} {v : Val} {r : Mapping} {a : Addr} :
    a ∈ refsOf ((k, v) :: r) ↔ v = .ref a ∨ a ∈ refsOf r := by
  cases v with
  | scalar i => simp [refsOf]
  | ref b => simp [refsOf, eq_comm]

theorem derefMap_lt {h : Heap} {m : Mapping} {d : DMapping} (hd : derefMap h m = some d) :
    ∀ a ∈ refsOf m, a < h.length := by
  induction m generalizing d with
  | nil => intro a ha; cases ha
  | cons p r ih =>
    obtain ⟨dv, dr, hv, hr, rfl⟩ := derefMap_cons_eq_some.1 hd
    obtain ⟨k, v⟩ := p
    intro a ha
    rcases mem_refsOf_cons.1 ha with rfl | ha
    · obtain ⟨x, hx, _⟩ := Option.map_eq_some_iff.mp hv
      exact getElem?_lt hx
    · exact ih hr a ha

theorem derefMap_dictSet {h : Heap} {m : Mapping} {d : DMapping} {v : Val} {dv : PVal} (k : Key)
    (hm : derefMap h m = some d) (hv : derefVal h v = some dv) :
    derefMap h (dictSet m k v) = some (dictSet d k dv) := by
  induction m generalizing d with
  | nil => cases hm; exact derefMap_cons_eq_some.2 ⟨dv, [], hv, rfl, rfl⟩
  | cons p r ih =>
    obtain ⟨dv', dr, hv', hr, rfl⟩ := derefMap_cons_eq_some.1 hm
    obtain ⟨k', v'⟩ := p
    simp only [dictSet]
    by_cases hk : k' = k
    · rw [if_pos hk, if_pos hk]; exact derefMap_cons_eq_some.2 ⟨dv, dr, hv, hr, rfl⟩
    · rw [if_neg hk, if_neg hk]; exact derefMap_cons_eq_some.2 ⟨dv', _, hv', ih hr, rfl⟩

theorem refsOf_dictSet {m : Mapping} {k : Key} {v : Val} {a : Addr} (ha : a ∈ refsOf (dictSet m k v)) :
    a ∈ refsOf m ∨ v = .ref a := by
  induction m with
  | nil =>
    rcases mem_refsOf_cons.1 ha with h | h
    · exact Or.inr h
    · cases h
  | cons p r ih =>
    obtain ⟨k', v'⟩ := p
    simp only [dictSet] at ha
    split at ha
    · rcases mem_refsOf_cons.1 ha with h | h
      · exact Or.inr h
      · exact Or.inl (mem_refsOf_cons.2 (Or.inr h))
    · rcases mem_refsOf_cons.1 ha with h | h
      · exact Or.inl (mem_refsOf_cons.2 (Or.inl h))
      · exact (ih h).imp (fun h => mem_refsOf_cons.2 (Or.inr h)) id

theorem mkVal_spec (h : Heap) (s : Setting) (p q : Bool) :
    ∃ e, (mkVal h s p q).1 = h ++ e ∧ derefVal (h ++ e) (mkVal h s p q).2 = some (deepVal s p q) ∧
      ∀ a, (mkVal h s p q).2 = .ref a → h.length ≤ a := by
  unfold mkVal deepVal
  cases p with
  | true =>
    cases hs : s.pretty with
    | scalar i => exact ⟨[], by simp [derefVal]⟩
    | list xs => exact ⟨[xs], by simp [derefVal]⟩
  | false =>
    cases q <;> exact ⟨[], by simp [derefVal]⟩

theorem settingsMapFrom_spec (k : KeyKind) (p q : Bool) (tuple : List Setting) :
    ∀ (h : Heap) (acc : Mapping) (accD : DMapping), derefMap h acc = some accD →
    ∃ e, (settingsMapFrom k p q h acc tuple).1 = h ++ e ∧
      derefMap (h ++ e) (settingsMapFrom k p q h acc tuple).2 = some (deepMapFrom k p q accD tuple) ∧
      ∀ a ∈ refsOf (settingsMapFrom k p q h acc tuple).2, a ∈ refsOf acc ∨ h.length ≤ a := by
  induction tuple with
  | nil =>
    intro h acc accD hacc
    exact ⟨[], by simp [settingsMapFrom], by simp [settingsMapFrom, deepMapFrom, hacc], fun a ha => Or.inl (by simpa [settingsMapFrom] using ha)⟩
  | cons s rest ih =>
    intro h acc accD hacc
    obtain ⟨e1, he1, hv1, hfresh⟩ := mkVal_spec h s p q
    have hacc1 : derefMap (h ++ e1) (dictSet acc (keyOf k s) (mkVal h s p q).2)
        = some (dictSet accD (keyOf k s) (deepVal s p q)) :=
      derefMap_dictSet _ (derefMap_ext e1 hacc) hv1
    obtain ⟨e2, he2, hd2, hr2⟩ := ih (h ++ e1) _ _ hacc1
    refine ⟨e1 ++ e2, ?_, ?_, ?_⟩
    · simp only [settingsMapFrom, he1, he2, List.append_assoc]
    · simp only [settingsMapFrom, deepMapFrom, he1]
      rw [← List.append_assoc]; exact hd2
    · intro a ha
      simp only [settingsMapFrom, he1] at ha
      rcases hr2 a ha with h1 | h1
      · rcases refsOf_dictSet h1 with h2 | h2
        · left; exact h2
        · right; exact hfresh a h2
      · right; simp at h1; omega

theorem settingsMap_spec (h : Heap) (tuple : List Setting) (k : KeyKind) (p q : Bool) :
    ∃ e, (settingsMap h tuple k p q).1 = h ++ e ∧
      derefMap (h ++ e) (settingsMap h tuple k p q).2 = some (pureMap tuple k p q) ∧
      ∀ a ∈ refsOf (settingsMap h tuple k p q).2, h.length ≤ a := by
  obtain ⟨e, h1, h2, h3⟩ := settingsMapFrom_spec k p q tuple h [] [] rfl
  refine ⟨e, h1, h2, ?_⟩
  intro a ha
  rcases h3 a ha with h4 | h4
  · simp [refsOf] at h4
  · exact h4

theorem dictGet?_deref {h : Heap} {m : Mapping} {d : DMapping} (k : Key) (hm : derefMap h m = some d) :
    (∀ v, dictGet? m k = some v → ∃ dv, derefVal h v = some dv ∧ dictGet? d k = some dv) ∧
    (dictGet? m k = none → dictGet? d k = none) := by
  induction m generalizing d with
  | nil => cases hm; exact ⟨fun v hv => (nomatch hv), fun _ => rfl⟩
  | cons p r ih =>
    obtain ⟨dv', dr, hv', hr, rfl⟩ := derefMap_cons_eq_some.1 hm
    obtain ⟨k', v'⟩ := p
    simp only [dictGet?]
    by_cases hk : k' = k
    · rw [if_pos hk, if_pos hk]
      exact ⟨fun v hv => by cases hv; exact ⟨dv', hv', rfl⟩, fun hn => nomatch hn⟩
    · rw [if_neg hk, if_neg hk]; exact ih hr

def specTransform (xs : List Step) (rev : Bool) (b : Option Step) : DTransform :=
  match b with
  | none => (if rev then xs.reverse else xs, if rev then xs else xs.reverse)
  | some b => (b :: (if rev then xs.reverse else xs), (if rev then xs else xs.reverse) ++ [b])

theorem heapModify_append (h e : Heap) (i : Nat) (f : List Step → List Step) :
    heapModify (h ++ e) (h.length + i) f = h ++ heapModify e i f := by
  induction h with
  | nil => simp
  | cons z r ih => simp [heapModify, Nat.add_right_comm, ih]

theorem get_app0 (h : Heap) (x y : List Step) : (h ++ [x, y])[h.length]? = some x := by
  simp

theorem get_app1 (h : Heap) (x y : List Step) : (h ++ [x, y])[h.length + 1]? = some y := by
  simp

theorem mkTransform_copies {h : Heap} {a : Addr} {xs : List Step} (rev : Bool) (b : Option Step)
    (hx : h[a]? = some xs) :
    ∃ x y t, mkTransform true h a rev b = some (h ++ [x, y], t) ∧
      derefT (h ++ [x, y]) t = some (specTransform xs rev b) ∧
      h.length ≤ t.tsteps ∧ h.length ≤ t.rsteps := by
  have h0 := fun (x y : List Step) f => heapModify_append h [x, y] 0 f
  have h1 := fun (x y : List Step) f => heapModify_append h [x, y] 1 f
  simp only [Nat.add_zero] at h0
  unfold mkTransform
  simp only [hx, if_true, List.length_append, List.length_cons, List.length_nil, List.append_assoc,
    List.cons_append, List.nil_append]
  cases rev <;> cases b <;>
    simp only [specTransform, h0, h1, heapModify, Bool.false_eq_true, if_false, if_true,
      Option.some.injEq, Prod.mk.injEq, List.cons.injEq, and_true, List.append_cancel_left_eq] <;>
    exact ⟨_, _, _, ⟨⟨rfl, rfl⟩, rfl⟩, by simp [derefT]⟩

def specT (dm : DMapping) (name : String) (rev : Bool) (b : Option Step) : Except PyExc DTransform :=
  match getName? dm name with
  | none => .error .keyError
  | some (.scalar _) => .error .typeError
  | some (.list xs) => .ok (specTransform xs rev b)

def specC2 (c : Config) : Except PyExc DDecoder :=
  if !c.pubkeyOk then .error .valueError
  else if c.trial then .error .valueError
  else
    let dm := pureView c .settings
    if !(hasName dm "SETTING_SUBMITURI" && hasName dm "SETTING_C2_VERB_POST" && hasName dm "SETTING_C2_VERB_GET") then
      .error .keyError
    else
      match specT dm "SETTING_C2_POSTREQ" false none with
      | .error e => .error e
      | .ok ts =>
        match specT dm "SETTING_C2_REQUEST" false none with
        | .error e => .error e
        | .ok tg =>
          match specT dm "SETTING_C2_RECOVER" true (some buildOutput) with
          | .error e => .error e
          | .ok tr => .ok (ts, tg, tr)

def listsOf : DMapping → List (List Step)
  | [] => []
  | (_, .scalar _) :: r => listsOf r
  | (_, .list xs) :: r => xs :: listsOf r

def pickD (d : DDecoder) : Which → DTransform
  | .submit => d.1
  | .get => d.2.1
  | .response => d.2.2

def specClient (c : Config) (ok : Bool) : DRes :=
  if !ok then .exc .valueError
  else if !c.protoHttp then .exc .valueError
  else
    match specC2 c with
    | .error e => .exc e
    | .ok d =>
      if !c.hasDomains then .exc .indexError
      else
        let dm := pureView c .settings
        if !(hasName dm "SETTING_SLEEPTIME" && hasName dm "SETTING_JITTER" && hasName dm "SETTING_USERAGENT"
             && hasName dm "SETTING_HOST_HEADER") then .exc .keyError
        else .decoder d

def specSteps (c : Config) (nDec d : Nat) (w : Which) (recover : Bool) : DRes :=
  if d < nDec then
    match specC2 c with
    | .ok dd => .steps (if recover then (pickD dd w).2 else (pickD dd w).1)
    | .error _ => .dangling
  else .noDecoder

/-- what every operation returns, as a function of the immutable configuration only (and, for transform/recover, of
whether the decoder exists) -/
def specObs (c : Config) (nDec : Nat) : Op → DRes
  | .viewAccess v => .mapping (pureView c v)
  | .settingsMap k p q => .mapping (pureMap c.tuple k p q)
  | .mkC2Http k =>
    if k = .noKey then .exc .valueError
    else match specC2 c with
      | .ok d => .decoder d
      | .error e => .exc e
  | .clientDryRun ok => specClient c ok
  | .mkProfile => .profile (listsOf (pureView c .settingsByIndex))
  | .transform d w => specSteps c nDec d w false
  | .recover d w => specSteps c nDec d w true
  | .recoverWire _ _ => .unit   -- not a function of the configuration alone: see `wire_result_local` / `decoders_independent`
  | .propsRaw => .unit
  | .propsPretty => .unit
  | .mutateAttempt _ => .exc .typeError
  | .snapshotAll => .snap (View.all.map (pureView c))

/-- holds of every state the code as it is (`copies = true`) can reach; `sep` and `disj` are the alias-freedom of `Props/C14.lean` -/
structure Inv (c : Config) (s : State) : Prop where
  /-- a cached view has the contents of the pure view -/
  views : ∀ v m, s.getCache v = some m → derefMap s.heap m = some (pureView c v)
  /-- every decoder holds the step lists `specC2` computes -/
  decs : ∀ d ∈ s.decoders, ∃ dd, specC2 c = .ok dd ∧ derefD s.heap d = some dd
  /-- list objects handed to callers exist -/
  exts : ∀ cells ∈ s.externals, ∀ a ∈ cells, a < s.heap.length
  /-- nothing handed out shares a list object with a cached view -/
  sep : ∀ a ∈ extRefs s, a ∉ cfgRefs s
  /-- two different cached views share no list object -/
  disj : ∀ v v' m m', v ≠ v' → s.getCache v = some m → s.getCache v' = some m' →
    ∀ a ∈ refsOf m, a ∉ refsOf m'

theorem Inv.init (c : Config) : Inv c State.init := by
  constructor
  · intro v m h; cases v <;> simp [State.init, State.getCache] at h
  · intro d h; simp [State.init] at h
  · intro cells h; simp [State.init] at h
  · intro a h; simp [State.init, extRefs] at h
  · intro v v' m m' _ h; cases v <;> simp [State.init, State.getCache] at h

theorem mem_cfgRefs {s : State} {a : Addr} :
    a ∈ cfgRefs s ↔ ∃ v m, s.getCache v = some m ∧ a ∈ refsOf m := by
  simp only [cfgRefs, List.mem_flatMap]
  constructor
  · rintro ⟨v, _, hv⟩
    cases hm : s.getCache v with
    | none => simp [hm] at hv
    | some m => exact ⟨v, m, hm, by simpa [hm] using hv⟩
  · rintro ⟨v, m, hm, ha⟩
    exact ⟨v, by cases v <;> simp [View.all], by simpa [hm] using ha⟩

theorem Inv.cfg_lt {c : Config} {s : State} (hi : Inv c s) : ∀ a ∈ cfgRefs s, a < s.heap.length := by
  intro a ha
  obtain ⟨v, m, hm, ha⟩ := mem_cfgRefs.1 ha
  exact derefMap_lt (hi.views v m hm) a ha

theorem Inv.ext_lt {c : Config} {s : State} (hi : Inv c s) : ∀ a ∈ extRefs s, a < s.heap.length := by
  intro a ha
  simp only [extRefs, List.mem_append, List.mem_flatMap, List.mem_flatten] at ha
  rcases ha with ⟨d, hd, ha⟩ | ⟨cells, hc, ha⟩
  · obtain ⟨dd, _, hdd⟩ := hi.decs d hd
    exact derefD_lt hdd a ha
  · exact hi.exts cells hc a ha

theorem Inv.extend {c : Config} {s : State} (hi : Inv c s) (e : Heap) :
    Inv c { s with heap := s.heap ++ e } := by
  constructor
  · intro v m h
    have : s.getCache v = some m := by cases v <;> simpa [State.getCache] using h
    exact derefMap_ext e (hi.views v m this)
  · intro d hd
    obtain ⟨dd, h1, h2⟩ := hi.decs d hd
    exact ⟨dd, h1, derefD_ext e h2⟩
  · intro cells hc a ha
    have h1 : a < s.heap.length := hi.exts cells hc a ha
    show a < (s.heap ++ e).length
    rw [List.length_append]; exact Nat.lt_of_lt_of_le h1 (Nat.le_add_right _ _)
  · exact hi.sep
  · exact hi.disj

theorem getCache_setCache (s : State) (v v' : View) (h : Heap) (m : Mapping) :
    (s.setCache v h m).getCache v' = if v' = v then some m else s.getCache v' := by
  cases v <;> cases v' <;> simp [State.setCache, State.getCache]

theorem setCache_heap (s : State) (v : View) (h : Heap) (m : Mapping) : (s.setCache v h m).heap = h := by
  cases v <;> rfl
theorem setCache_decoders (s : State) (v : View) (h : Heap) (m : Mapping) :
    (s.setCache v h m).decoders = s.decoders := by
  cases v <;> rfl
theorem setCache_externals (s : State) (v : View) (h : Heap) (m : Mapping) :
    (s.setCache v h m).externals = s.externals := by
  cases v <;> rfl

theorem Inv.setCache {c : Config} {s : State} (hi : Inv c s) (v : View) (e : Heap) (m : Mapping)
    (hnone : s.getCache v = none)
    (hd : derefMap (s.heap ++ e) m = some (pureView c v))
    (hfresh : ∀ a ∈ refsOf m, s.heap.length ≤ a) :
    Inv c (s.setCache v (s.heap ++ e) m) := by
  have old_lt : ∀ v' m', s.getCache v' = some m' → ∀ a ∈ refsOf m', a < s.heap.length :=
    fun v' m' h' => derefMap_lt (hi.views v' m' h')
  constructor
  · intro v' m' h
    rw [getCache_setCache] at h
    rw [setCache_heap]
    split at h
    · rename_i hv; cases h; subst hv; exact hd
    · exact derefMap_ext e (hi.views v' m' h)
  · intro d hd'
    rw [setCache_decoders] at hd'
    rw [setCache_heap]
    exact (hi.extend e).decs d hd'
  · intro cells hc
    rw [setCache_externals] at hc
    rw [setCache_heap]
    exact (hi.extend e).exts cells hc
  · intro a ha hcfg
    have hae : a ∈ extRefs s := by
      simpa [extRefs, setCache_decoders, setCache_externals] using ha
    obtain ⟨v', m', hm', ham'⟩ := mem_cfgRefs.1 hcfg
    rw [getCache_setCache] at hm'
    split at hm'
    · cases hm'; exact absurd (hi.ext_lt a hae) (Nat.not_lt.2 (hfresh a ham'))
    · exact hi.sep a hae (mem_cfgRefs.2 ⟨v', m', hm', ham'⟩)
  · intro v1 v2 m1 m2 hne h1 h2 a ha1 ha2
    rw [getCache_setCache] at h1 h2
    split at h1
    · rename_i hv1
      cases h1
      rw [if_neg (fun hh => hne (hv1.trans hh.symm))] at h2
      exact absurd (old_lt v2 m2 h2 a ha2) (Nat.not_lt.2 (hfresh a ha1))
    · split at h2
      · cases h2; exact absurd (old_lt v1 m1 h1 a ha1) (Nat.not_lt.2 (hfresh a ha2))
      · exact hi.disj v1 v2 m1 m2 hne h1 h2 a ha1 ha2

/-- the heap of `t` extends the heap of `s`; caches of `s` are kept; decoders/externals equal -/
structure Grows (s t : State) : Prop where
  heap : ∃ e, t.heap = s.heap ++ e
  decoders : t.decoders = s.decoders
  externals : t.externals = s.externals

theorem Grows.refl (s : State) : Grows s s := ⟨⟨[], by simp⟩, rfl, rfl⟩

theorem Grows.trans {a b c : State} (h1 : Grows a b) (h2 : Grows b c) : Grows a c := by
  obtain ⟨e1, he1⟩ := h1.heap
  obtain ⟨e2, he2⟩ := h2.heap
  exact ⟨⟨e1 ++ e2, by rw [he2, he1, List.append_assoc]⟩, h2.decoders.trans h1.decoders,
    h2.externals.trans h1.externals⟩

theorem Grows.derefMap {s t : State} (g : Grows s t) {m : Mapping} {d : DMapping}
    (hm : derefMap s.heap m = some d) : derefMap t.heap m = some d := by
  obtain ⟨e, he⟩ := g.heap
  rw [he]; exact derefMap_ext e hm

theorem Grows.derefD {s t : State} (g : Grows s t) {d : Decoder} {dd : DDecoder}
    (hd : derefD s.heap d = some dd) : derefD t.heap d = some dd := by
  obtain ⟨e, he⟩ := g.heap
  rw [he]; exact derefD_ext e hd

theorem viewAccess_spec {c : Config} {s : State} (hi : Inv c s) (v : View) :
    Inv c (viewAccess c s v).1 ∧ Grows s (viewAccess c s v).1 ∧
    derefMap (viewAccess c s v).1.heap (viewAccess c s v).2 = some (pureView c v) ∧
    (viewAccess c s v).1.getCache v = some (viewAccess c s v).2 := by
  unfold viewAccess
  cases hc : s.getCache v with
  | some m => exact ⟨hi, Grows.refl s, hi.views v m hc, hc⟩
  | none =>
    obtain ⟨e, h1, h2, h3⟩ := settingsMap_spec s.heap c.tuple v.kind v.pretty true
    simp only [h1]
    refine ⟨hi.setCache v e _ hc h2 h3, ⟨⟨e, setCache_heap ..⟩, setCache_decoders .., setCache_externals ..⟩, ?_, ?_⟩
    · rw [setCache_heap]; exact h2
    · rw [getCache_setCache]; simp

theorem getName?_deref {h : Heap} {m : Mapping} {d : DMapping} (name : String) (hm : derefMap h m = some d) :
    (∀ v, getName? m name = some v → ∃ dv, derefVal h v = some dv ∧ getName? d name = some dv) ∧
    (getName? m name = none → getName? d name = none) := by
  unfold getName?
  cases nameConst name with
  | none => simp
  | some k => exact dictGet?_deref _ hm

theorem hasName_deref {h : Heap} {m : Mapping} {d : DMapping} (name : String) (hm : derefMap h m = some d) :
    hasName m name = hasName d name := by
  unfold hasName
  cases nameConst name with
  | none => rfl
  | some k =>
    have := dictGet?_deref (⟨.name, k⟩ : Key) hm
    cases hg : dictGet? m ⟨.name, k⟩ with
    | none => simp [hg, this.2 hg]
    | some v =>
      obtain ⟨dv, _, h2⟩ := this.1 v hg
      simp [hg, h2]

theorem mkTFrom_spec {c : Config} {s : State} {m : Mapping} {dm : DMapping} (hi : Inv c s) (name : String) (rev : Bool)
    (b : Option Step) (hm : derefMap s.heap m = some dm) :
    (∃ e, mkTFrom true s m name rev b = (s, .error (.exc e)) ∧ specT dm name rev b = .error e) ∨
    (∃ x y t xs, mkTFrom true s m name rev b = ({ s with heap := s.heap ++ [x, y] }, .ok t) ∧
      specT dm name rev b = .ok (specTransform xs rev b) ∧
      derefT (s.heap ++ [x, y]) t = some (specTransform xs rev b) ∧
      s.heap.length ≤ t.tsteps ∧ s.heap.length ≤ t.rsteps ∧
      Inv c { s with heap := s.heap ++ [x, y] } ∧ derefMap (s.heap ++ [x, y]) m = some dm) := by
  have hg := getName?_deref name hm
  unfold mkTFrom specT
  cases hn : getName? m name with
  | none => exact Or.inl ⟨.keyError, rfl, by simp [hg.2 hn]⟩
  | some v =>
    obtain ⟨dv, h1, h2⟩ := hg.1 v hn
    cases v with
    | scalar i => cases h1; exact Or.inl ⟨.typeError, rfl, by simp [h2]⟩
    | ref a =>
      obtain ⟨xs, hx, rfl⟩ := Option.map_eq_some_iff.mp h1
      obtain ⟨x, y, t, e1, e2, e3, e4⟩ := mkTransform_copies rev b hx
      exact Or.inr ⟨x, y, t, xs, by simp [e1], by simp [h2], e2, e3, e4, hi.extend _, derefMap_ext _ hm⟩

theorem Inv.addDecoder {c : Config} {s : State} (hi : Inv c s) (d : Decoder) (dd : DDecoder)
    (h1 : specC2 c = .ok dd) (h2 : derefD s.heap d = some dd) (h3 : ∀ a ∈ d.refs, a ∉ cfgRefs s) :
    Inv c { s with decoders := s.decoders ++ [d] } := by
  constructor
  · exact hi.views
  · intro d' hd'
    simp only [List.mem_append, List.mem_singleton] at hd'
    rcases hd' with hd' | rfl
    · exact hi.decs d' hd'
    · exact ⟨dd, h1, h2⟩
  · exact hi.exts
  · intro a ha
    simp only [extRefs, List.flatMap_append, List.flatMap_cons, List.flatMap_nil, List.append_nil,
      List.mem_append] at ha
    rcases ha with (ha | ha) | ha
    · exact hi.sep a (by simp only [extRefs, List.mem_append]; exact Or.inl ha)
    · exact h3 a ha
    · exact hi.sep a (by simp only [extRefs, List.mem_append]; exact Or.inr ha)
  · exact hi.disj

theorem Inv.addExternal {c : Config} {s : State} (hi : Inv c s) (cells : List Addr)
    (h1 : ∀ a ∈ cells, a < s.heap.length) (h3 : ∀ a ∈ cells, a ∉ cfgRefs s) :
    Inv c { s with externals := s.externals ++ [cells] } := by
  constructor
  · exact hi.views
  · exact hi.decs
  · intro cs hc a ha
    simp only [List.mem_append, List.mem_singleton] at hc
    rcases hc with hc | rfl
    · exact hi.exts cs hc a ha
    · exact h1 a ha
  · intro a ha
    simp only [extRefs, List.flatten_append, List.flatten_cons, List.flatten_nil, List.append_nil,
      List.mem_append] at ha
    rcases ha with ha | ha | ha
    · exact hi.sep a (by simp only [extRefs, List.mem_append]; exact Or.inl ha)
    · exact hi.sep a (by simp only [extRefs, List.mem_append]; exact Or.inr ha)
    · exact h3 a ha
  · exact hi.disj

theorem c2http_spec {c : Config} {s : State} (hi : Inv c s) (k : KeyVariant) (ks0 : KeyState) (hk : k ≠ .noKey)
    {s' : State} {res : Except Res Decoder} (hr : c2http true c s k ks0 = (s', res)) :
    Inv c s' ∧
    match (generalizing := false) res with
    | .ok d => ∃ dd, specC2 c = .ok dd ∧ derefD s'.heap d = some dd ∧ s'.decoders = s.decoders ++ [d] ∧ d.ks = ks0
    | .error e => ∃ x, specC2 c = .error x ∧ e = .exc x ∧ s'.decoders = s.decoders := by
  obtain ⟨rfl, rfl⟩ : s' = (c2http true c s k ks0).1 ∧ res = (c2http true c s k ks0).2 := by rw [hr]; exact ⟨rfl, rfl⟩
  clear hr
  obtain ⟨hi1, hg1, -, -⟩ := viewAccess_spec hi .rawSettings
  obtain ⟨hi2, hg2, hm2, -⟩ := viewAccess_spec hi1 .settings
  have hdec2 : (viewAccess c (viewAccess c s .rawSettings).1 .settings).1.decoders = s.decoders :=
    hg2.decoders.trans hg1.decoders
  unfold c2http specC2
  simp only [hk, if_false]
  cases hp : c.pubkeyOk with
  | false => exact ⟨hi1, by simp [hg1.decoders]⟩
  | true =>
    cases ht : c.trial with
    | true => exact ⟨hi1, by simp [hg1.decoders]⟩
    | false =>
      simp only [Bool.not_true, Bool.false_eq_true, if_false]
      simp only [hasName_deref _ hm2]
      generalize hs2 : (viewAccess c (viewAccess c s .rawSettings).1 .settings).1 = s2 at *
      generalize (viewAccess c (viewAccess c s .rawSettings).1 .settings).2 = m at *
      split
      · exact ⟨hi2, by simp [hdec2]⟩
      · rename_i hn
        -- three stages: each stops with the exception `specT` predicts or appends two cells and hands `Inv` on (`mkTFrom_spec`);
        -- the bounds `b1 … b3'` (new cells lie beyond the heap of the views) give the decoder's separation from the configuration
        rcases mkTFrom_spec hi2 "SETTING_C2_POSTREQ" false none hm2 with ⟨e, he1, he2⟩ | ⟨x1, y1, t1, xs1, e1, sp1, d1, b1, b1', hi3, hm3⟩
        · simp only [he1, he2]; exact ⟨hi2, by simp [hdec2]⟩
        · simp only [e1, sp1]
          rcases mkTFrom_spec hi3 "SETTING_C2_REQUEST" false none hm3 with ⟨e, he1, he2⟩ | ⟨x2, y2, t2, xs2, e2, sp2, d2, b2, b2', hi4, hm4⟩
          · simp only [he1, he2]; exact ⟨hi3, by simp [hdec2]⟩
          · simp only [e2, sp2]
            rcases mkTFrom_spec hi4 "SETTING_C2_RECOVER" true (some buildOutput) hm4 with ⟨e, he1, he2⟩ | ⟨x3, y3, t3, xs3, e3, sp3, d3, b3, b3', hI5, -⟩
            · simp only [he1, he2]; exact ⟨hi4, by simp [hdec2]⟩
            · simp only [e3, sp3]
              have hD : derefD (s2.heap ++ [x1, y1] ++ [x2, y2] ++ [x3, y3]) ⟨t1, t2, t3, ks0⟩ =
                  some (specTransform xs1 false none, specTransform xs2 false none,
                    specTransform xs3 true (some buildOutput)) :=
                derefD_eq_some.2 ⟨derefT_ext [x3, y3] (derefT_ext [x2, y2] d1), derefT_ext [x3, y3] d2, d3⟩
              have hlt := hi2.cfg_lt
              simp only [List.length_append, List.length_cons, List.length_nil] at b2 b2' b3 b3'
              refine ⟨hI5.addDecoder ⟨t1, t2, t3, ks0⟩ _ (by unfold specC2; simp [hp, ht, hn, sp1, sp2, sp3]) hD ?_, ?_⟩
              · intro a ha hcfg
                have h1 : a < s2.heap.length := hlt a hcfg
                simp only [Decoder.refs, Transform.refs, List.mem_append, List.mem_cons, List.not_mem_nil,
                  or_false] at ha
                rcases ha with ((rfl | rfl) | rfl | rfl) | rfl | rfl <;>
                  exact absurd h1 (Nat.not_lt.2 (by omega))
              · refine ⟨_, rfl, hD, ?_⟩
                simp [hdec2]

theorem copyLists_spec (m : Mapping) : ∀ (h : Heap) (dm : DMapping), derefMap h m = some dm →
    ∃ e cells, copyLists h m = some (h ++ e, cells) ∧ derefCells (h ++ e) cells = some (listsOf dm) ∧
      ∀ a ∈ cells, h.length ≤ a ∧ a < (h ++ e).length := by
  induction m with
  | nil => intro h dm hm; cases hm; exact ⟨[], [], by simp [copyLists], rfl, fun a ha => nomatch ha⟩
  | cons p r ih =>
    intro h dm hm
    obtain ⟨dv, dr, hv, hr, rfl⟩ := derefMap_cons_eq_some.1 hm
    obtain ⟨k, v⟩ := p
    cases v with
    | scalar i =>
      cases hv
      obtain ⟨e, cells, h1, h2, h3⟩ := ih h dr hr
      exact ⟨e, cells, by simp only [copyLists, h1], h2, h3⟩
    | ref a =>
      obtain ⟨xs, hx, rfl⟩ := Option.map_eq_some_iff.mp hv
      obtain ⟨e, cells, h1, h2, h3⟩ := ih (h ++ [xs]) dr (derefMap_ext [xs] hr)
      rw [List.append_assoc] at h1 h2 h3
      refine ⟨[xs] ++ e, h.length :: cells, by simp only [copyLists, hx, h1], ?_, ?_⟩
      · have hget : (h ++ ([xs] ++ e))[h.length]? = some xs := by simp
        simp only [derefCells, listsOf, h2, hget]
      · intro b hb
        rcases List.mem_cons.mp hb with rfl | hb
        · simp
        · have := h3 b hb
          rw [List.length_append] at this
          exact ⟨by omega, (h3 b hb).2⟩

theorem deepRes_mapping {h : Heap} {m : Mapping} {d : DMapping} (hm : derefMap h m = some d) :
    deepRes h (.mapping m) = .mapping d := by simp [deepRes, hm]

theorem settingsMap_state {c : Config} {s : State} (hi : Inv c s) (k : KeyKind) (p q : Bool) :
    Inv c { s with heap := (settingsMap s.heap c.tuple k p q).1,
                   externals := s.externals ++ [refsOf (settingsMap s.heap c.tuple k p q).2] } ∧
    derefMap (settingsMap s.heap c.tuple k p q).1 (settingsMap s.heap c.tuple k p q).2 = some (pureMap c.tuple k p q) := by
  obtain ⟨e, h1, h2, h3⟩ := settingsMap_spec s.heap c.tuple k p q
  rw [h1]
  refine ⟨?_, h2⟩
  have hI := (hi.extend e).addExternal (refsOf (settingsMap s.heap c.tuple k p q).2)
    (fun a ha => derefMap_lt h2 a ha)
    (fun a ha hcfg => absurd (hi.cfg_lt a hcfg) (Nat.not_lt.2 (h3 a ha)))
  exact hI

theorem step_mutate {c : Config} {s : State} (hi : Inv c s) (t : MutTarget) :
    Inv c (step true c s (.mutateAttempt t)).1 ∧ (step true c s (.mutateAttempt t)).2 = .exc .typeError ∧
    (step true c s (.mutateAttempt t)).1.decoders = s.decoders := by
  cases t with
  | view v =>
    obtain ⟨h1, h2, -, -⟩ := viewAccess_spec hi v
    exact ⟨h1, rfl, h2.decoders⟩
  | fresh k p q => exact ⟨(settingsMap_state hi k p q).1, rfl, rfl⟩

theorem step_mkC2Http_state (copies : Bool) (c : Config) (s : State) (k : KeyVariant) :
    (step copies c s (.mkC2Http k)).1 = (c2http copies c s k (initKeyState k)).1 := by
  simp only [step]
  rcases c2http copies c s k (initKeyState k) with ⟨s', _ | _⟩ <;> rfl

theorem step_mkC2Http {c : Config} {s : State} (hi : Inv c s) (k : KeyVariant) :
    Inv c (step true c s (.mkC2Http k)).1 ∧ obs true c s (.mkC2Http k) = specObs c s.decoders.length (.mkC2Http k) ∧
    ∃ extra, (step true c s (.mkC2Http k)).1.decoders = s.decoders ++ extra := by
  by_cases hk : k = .noKey
  · subst hk
    exact ⟨hi, rfl, [], by simp [step, c2http]⟩
  · simp only [obs, step, specObs, hk, if_false]
    rcases hr : c2http true c s k (initKeyState k) with ⟨s', e | d⟩
    · obtain ⟨h1, x, e1, rfl, e3⟩ := c2http_spec hi k _ hk hr
      exact ⟨h1, by simp [deepRes, e1], [], by simp [e3]⟩
    · obtain ⟨h1, dd, e1, e2, e3, -⟩ := c2http_spec hi k _ hk hr
      exact ⟨h1, by simp [deepRes, e1, e2], [d], e3⟩

theorem step_client {c : Config} {s : State} (hi : Inv c s) (ok : Bool) :
    Inv c (step true c s (.clientDryRun ok)).1 ∧
    obs true c s (.clientDryRun ok) = specClient c ok ∧
    ∃ extra, (step true c s (.clientDryRun ok)).1.decoders = s.decoders ++ extra := by
  simp only [obs, step]
  unfold clientRun specClient
  cases ok with
  | false => exact ⟨hi, rfl, [], by simp⟩
  | true =>
    simp only [Bool.not_true, Bool.false_eq_true, if_false]
    obtain ⟨hi1, hg1, -, -⟩ := viewAccess_spec hi .rawSettings
    cases hp : c.protoHttp with
    | false => exact ⟨hi1, rfl, [], by
        show (viewAccess c s .rawSettings).1.decoders = s.decoders ++ []
        rw [hg1.decoders]; simp⟩
    | true =>
      simp only [Bool.not_true, Bool.false_eq_true, if_false]
      rcases hr : c2http true c (viewAccess c s .rawSettings).1 .aesHmac ⟨false, .foreign, false⟩ with ⟨s2, e | d⟩
      · obtain ⟨h1, x, e1, rfl, e3⟩ := c2http_spec hi1 _ _ (by decide) hr
        exact ⟨h1, by simp [deepRes, e1], [], by simp [e3, hg1.decoders]⟩
      · obtain ⟨h1, dd, e1, e2, e3, -⟩ := c2http_spec hi1 _ _ (by decide) hr
        simp only [e1]
        cases hd : c.hasDomains with
        | false => exact ⟨h1, by simp [deepRes], [d], by simp [e3, hg1.decoders]⟩
        | true =>
          simp only [Bool.not_true, Bool.false_eq_true, if_false]
          obtain ⟨hi3, hg3, hm3, -⟩ := viewAccess_spec h1 .settings
          simp only [hasName_deref _ hm3]
          have hlen : ∃ extra, (viewAccess c s2 .settings).1.decoders = s.decoders ++ extra :=
            ⟨[d], by rw [hg3.decoders, e3, hg1.decoders]⟩
          split
          · exact ⟨hi3, by simp [deepRes], hlen⟩
          · refine ⟨hi3, ?_, hlen⟩
            simp only [deepRes]
            rw [hg3.derefD e2]

theorem step_profile {c : Config} {s : State} (hi : Inv c s) :
    Inv c (step true c s .mkProfile).1 ∧
    obs true c s .mkProfile = .profile (listsOf (pureView c .settingsByIndex)) ∧
    (step true c s .mkProfile).1.decoders = s.decoders := by
  simp only [obs, step]
  unfold profileRun
  dsimp only
  obtain ⟨hi1, hg1, hm1, -⟩ := viewAccess_spec hi .settingsByIndex
  generalize (viewAccess c s .settingsByIndex).2 = m at *
  -- the optional `config.uris` access
  have key : ∀ b : Bool, ∃ s2, (if b then (viewAccess c (viewAccess c s .settingsByIndex).1 .rawSettings).1
        else (viewAccess c s .settingsByIndex).1) = s2 ∧ Inv c s2 ∧ Grows (viewAccess c s .settingsByIndex).1 s2 := by
    intro b
    cases b with
    | false => exact ⟨_, rfl, hi1, Grows.refl _⟩
    | true =>
      obtain ⟨hi2, hg2, -, -⟩ := viewAccess_spec hi1 .rawSettings
      exact ⟨_, rfl, hi2, hg2⟩
  obtain ⟨s2, hs2, hi2, hg2⟩ := key (hasConst m "SETTING_DOMAINS")
  simp only [hs2]
  obtain ⟨e, cells, c1, c2, c3⟩ := copyLists_spec m s2.heap _ (hg2.derefMap hm1)
  simp only [c1]
  refine ⟨?_, by simp [deepRes, c2], ?_⟩
  · exact (hi2.extend e).addExternal cells (fun a ha => (c3 a ha).2)
      (fun a ha hcfg => absurd (hi2.cfg_lt a hcfg) (Nat.not_lt.2 (c3 a ha).1))
  · exact hg2.decoders.trans hg1.decoders

theorem derefD_pick {h : Heap} {d : Decoder} {dd : DDecoder} (hd : derefD h d = some dd) (w : Which) :
    h[(d.pick w).tsteps]? = some (pickD dd w).1 ∧ h[(d.pick w).rsteps]? = some (pickD dd w).2 := by
  obtain ⟨h1, h2, h3⟩ := derefD_eq_some.1 hd
  cases w with
  | submit => exact derefT_eq_some.1 h1
  | get => exact derefT_eq_some.1 h2
  | response => exact derefT_eq_some.1 h3

theorem readSteps_spec {c : Config} {s : State} (hi : Inv c s) (d : Nat) (w : Which) (rc : Bool) :
    deepRes s.heap (readSteps s d w rc) = specSteps c s.decoders.length d w rc := by
  unfold readSteps specSteps
  by_cases hd : d < s.decoders.length
  · have hget : s.decoders[d]? = some s.decoders[d] := List.getElem?_eq_getElem hd
    obtain ⟨dd, e1, e2⟩ := hi.decs _ (List.getElem_mem hd)
    have hp := derefD_pick e2 w
    simp only [hget, hd, if_true, e1]
    cases rc with
    | false => simp [hp.1, deepRes]
    | true => simp [hp.2, deepRes]
  · have hget : s.decoders[d]? = none := List.getElem?_eq_none (Nat.le_of_not_lt hd)
    simp [hd, deepRes]

theorem step_snapshot {c : Config} {s : State} (hi : Inv c s) :
    Inv c (step true c s .snapshotAll).1 ∧
    obs true c s .snapshotAll = .snap (View.all.map (pureView c)) ∧
    (step true c s .snapshotAll).1.decoders = s.decoders := by
  simp only [obs, step]
  unfold snapshotRun
  obtain ⟨i1, g1, m1, -⟩ := viewAccess_spec hi .settings
  obtain ⟨i2, g2, m2, -⟩ := viewAccess_spec i1 .settingsByIndex
  obtain ⟨i3, g3, m3, -⟩ := viewAccess_spec i2 .rawSettings
  obtain ⟨i4, g4, m4, -⟩ := viewAccess_spec i3 .rawSettingsByIndex
  refine ⟨i4, ?_, (((g1.trans g2).trans g3).trans g4).decoders⟩
  simp [deepRes, derefMaps, ((g2.trans g3).trans g4).derefMap m1, (g3.trans g4).derefMap m2, g4.derefMap m3, m4, View.all]

theorem setKs_length (ds : List Decoder) (i : Nat) (f : KeyState → KeyState) : (setKs ds i f).length = ds.length := by
  induction ds generalizing i with
  | nil => rfl
  | cons d r ih => cases i <;> simp [setKs, ih]

theorem setKs_refs (ds : List Decoder) (i : Nat) (f : KeyState → KeyState) :
    (setKs ds i f).flatMap Decoder.refs = ds.flatMap Decoder.refs := by
  induction ds generalizing i with
  | nil => rfl
  | cons d r ih =>
    cases i with
    | zero => simp [setKs, Decoder.refs]
    | succ i => simp [setKs, ih]

theorem setKs_mem {ds : List Decoder} {i : Nat} {f : KeyState → KeyState} {d' : Decoder} (h : d' ∈ setKs ds i f) :
    ∃ d ∈ ds, d'.submit = d.submit ∧ d'.get = d.get ∧ d'.response = d.response := by
  induction ds generalizing i with
  | nil => simp [setKs] at h
  | cons d r ih =>
    cases i with
    | zero =>
      simp only [setKs, List.mem_cons] at h
      rcases h with rfl | h
      · exact ⟨d, by simp, rfl, rfl, rfl⟩
      · exact ⟨d', by simp [h], rfl, rfl, rfl⟩
    | succ i =>
      simp only [setKs, List.mem_cons] at h
      rcases h with rfl | h
      · exact ⟨d', by simp, rfl, rfl, rfl⟩
      · obtain ⟨d0, h0, h1⟩ := ih h
        exact ⟨d0, by simp [h0], h1⟩

theorem setKs_get (ds : List Decoder) (i j : Nat) (f : KeyState → KeyState) :
    ((setKs ds i f)[j]?).map Decoder.ks = (ds[j]?).map (fun d => if j = i then f d.ks else d.ks) := by
  induction ds generalizing i j with
  | nil => simp [setKs]
  | cons d r ih =>
    cases i with
    | zero => cases j <;> simp [setKs]
    | succ i =>
      cases j with
      | zero => simp [setKs]
      | succ j => simp [setKs, ih]

theorem derefD_congr {h : Heap} {d d' : Decoder} (h1 : d'.submit = d.submit) (h2 : d'.get = d.get)
    (h3 : d'.response = d.response) : derefD h d' = derefD h d := by
  simp [derefD, h1, h2, h3]

theorem Inv.setKs {c : Config} {s : State} (hi : Inv c s) (i : Nat) (f : KeyState → KeyState) :
    Inv c { s with decoders := setKs s.decoders i f } := by
  constructor
  · exact hi.views
  · intro d' hd'
    obtain ⟨d, hd, h1, h2, h3⟩ := setKs_mem hd'
    obtain ⟨dd, e1, e2⟩ := hi.decs d hd
    exact ⟨dd, e1, by rw [derefD_congr h1 h2 h3]; exact e2⟩
  · exact hi.exts
  · intro a ha
    have : a ∈ extRefs s := by
      simp only [extRefs, setKs_refs] at ha ⊢; exact ha
    exact hi.sep a this
  · exact hi.disj

theorem step_spec {c : Config} {s : State} (hi : Inv c s) (op : Op) :
    Inv c (step true c s op).1 ∧
    (op.isWire = false → obs true c s op = specObs c s.decoders.length op) ∧
    (op.isWire = false → ∃ extra, (step true c s op).1.decoders = s.decoders ++ extra) := by
  have same : ∀ {l l' : List Decoder}, l' = l → ∃ extra, l' = l ++ extra := fun h => ⟨[], by rw [h, List.append_nil]⟩
  cases op with
  | viewAccess v =>
    obtain ⟨h1, h2, h3, -⟩ := viewAccess_spec hi v
    exact ⟨h1, fun _ => deepRes_mapping h3, fun _ => same h2.decoders⟩
  | settingsMap k p q =>
    obtain ⟨h1, h2⟩ := settingsMap_state hi k p q
    exact ⟨h1, fun _ => deepRes_mapping h2, fun _ => same rfl⟩
  | mkC2Http k =>
    obtain ⟨h1, h2, h3⟩ := step_mkC2Http hi k
    exact ⟨h1, fun _ => h2, fun _ => h3⟩
  | clientDryRun ok =>
    obtain ⟨h1, h2, h3⟩ := step_client hi ok
    exact ⟨h1, fun _ => h2, fun _ => h3⟩
  | mkProfile =>
    obtain ⟨h1, h2, h3⟩ := step_profile hi
    exact ⟨h1, fun _ => h2, fun _ => same h3⟩
  | transform d w => exact ⟨hi, fun _ => readSteps_spec hi d w false, fun _ => same rfl⟩
  | recover d w => exact ⟨hi, fun _ => readSteps_spec hi d w true, fun _ => same rfl⟩
  | recoverWire d w =>
    refine ⟨?_, fun h => (nomatch h), fun h => (nomatch h)⟩
    simp only [step]
    cases s.decoders[d]? with
    | none => exact hi
    | some dec => exact hi.setKs d _
  | propsRaw =>
    obtain ⟨h1, h2, -, -⟩ := viewAccess_spec hi .rawSettings
    exact ⟨h1, fun _ => rfl, fun _ => same h2.decoders⟩
  | propsPretty =>
    obtain ⟨h1, h2, -, -⟩ := viewAccess_spec hi .settings
    exact ⟨h1, fun _ => rfl, fun _ => same h2.decoders⟩
  | mutateAttempt t =>
    obtain ⟨h1, h2, h3⟩ := step_mutate hi t
    exact ⟨h1, fun _ => by simp only [obs, h2, deepRes, specObs], fun _ => same h3⟩
  | snapshotAll =>
    obtain ⟨h1, h2, h3⟩ := step_snapshot hi
    exact ⟨h1, fun _ => h2, fun _ => same h3⟩

/-- the `iter_recover_http` calls made on decoder `j` in a history -/
def ownWires (j : Nat) : List Op → List Wire
  | [] => []
  | .recoverWire d w :: rest => if j = d then w :: ownWires j rest else ownWires j rest
  | _ :: rest => ownWires j rest

theorem step_ks {c : Config} {s : State} (hi : Inv c s) (op : Op) (j : Nat) (hj : j < s.decoders.length) :
    ((step true c s op).1.decoders[j]?).map Decoder.ks =
      (s.decoders[j]?).map (fun d => (ownWires j [op]).foldl wireStep d.ks) ∧
    j < (step true c s op).1.decoders.length := by
  by_cases hw : op.isWire = true
  · cases op <;> simp [Op.isWire] at hw
    rename_i d w
    simp only [step]
    cases hd : s.decoders[d]? with
    | none =>
      have hdj : j ≠ d := by
        intro h; subst h
        rw [List.getElem?_eq_getElem hj] at hd; cases hd
      exact ⟨by simp [ownWires, hdj], hj⟩
    | some dec =>
      refine ⟨?_, by simpa [setKs_length] using hj⟩
      show ((setKs s.decoders d fun ks => wireStep ks w)[j]?).map Decoder.ks = _
      rw [setKs_get]
      simp only [ownWires]
      split <;> rfl
  · have hw' : op.isWire = false := by simpa using hw
    obtain ⟨extra, he⟩ := (step_spec hi op).2.2 hw'
    rw [he]
    refine ⟨?_, by simp; omega⟩
    rw [List.getElem?_append_left hj]
    have : ownWires j [op] = [] := by
      cases op <;> simp [Op.isWire] at hw' <;> rfl
    simp [this]

theorem ownWires_cons (j : Nat) (op : Op) (rest : List Op) :
    ownWires j (op :: rest) = ownWires j [op] ++ ownWires j rest := by
  cases op <;> simp [ownWires]
  split <;> simp

theorem run_ks {c : Config} (ops : List Op) : ∀ {s : State}, Inv c s → ∀ j, j < s.decoders.length →
    ((runState true c s ops).decoders[j]?).map Decoder.ks =
      (s.decoders[j]?).map (fun d => (ownWires j ops).foldl wireStep d.ks) := by
  induction ops with
  | nil => intro s _ j _; simp [runState, ownWires]
  | cons op rest ih =>
    intro s hi j hj
    obtain ⟨h1, h2⟩ := step_ks hi op j hj
    have := ih (step_spec hi op).1 j h2
    simp only [runState, List.foldl_cons] at this ⊢
    have e : ∀ (x : Option Decoder) (g : KeyState → KeyState),
        x.map (fun d => g d.ks) = (x.map Decoder.ks).map g := by
      intro x g; cases x <;> rfl
    rw [this, e _ (fun ks => (ownWires j rest).foldl wireStep ks), h1, ownWires_cons j op rest]
    cases s.decoders[j]? with
    | none => rfl
    | some d => simp [List.foldl_append]

theorem run_inv {c : Config} (ops : List Op) : ∀ {s : State}, Inv c s → Inv c (runState true c s ops) := by
  induction ops with
  | nil => intro s hi; exact hi
  | cons op rest ih => intro s hi; exact ih (step_spec hi op).1

theorem reachable_inv (c : Config) (ops : List Op) : Inv c (runState true c State.init ops) :=
  run_inv ops (Inv.init c)

theorem snapshot_of_inv {c : Config} {s : State} (hi : Inv c s) :
    snapshot c s = View.all.map (fun v => some (pureView c v)) := by
  unfold snapshot obsView
  apply List.map_congr_left
  intro v _
  exact (viewAccess_spec hi v).2.2.1

theorem specObs_decoderFree (c : Config) (n : Nat) (op : Op) (h : op.decoderFree = true) :
    specObs c n op = specObs c 0 op := by
  cases op <;> simp [Op.decoderFree] at h <;> rfl

theorem isWire_of_decoderFree (op : Op) (h : op.decoderFree = true) : op.isWire = false := by
  cases op <;> simp [Op.decoderFree] at h <;> rfl
end C14

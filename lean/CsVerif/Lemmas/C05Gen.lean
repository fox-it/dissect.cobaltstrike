import CsVerif.Gen.PyC2
import CsVerif.Lemmas.C05
import CsVerif.Lemmas.C20Gen
import CsVerif.Lemmas.PyULib
/-! Helper lemmas for Props/C05Gen.lean and Lemmas/C07Gen.lean: the translated decryption side and key derivation of `Gen/PyC2.lean`
against `Model/C05.lean`, with the packet record spelled out. -/
namespace C05Gen
open PyRt

theorem slice_to_16 {α : Type} (xs : List α) : slice xs noBound (16 : Int) = xs.take 16 :=
  slice_to_nat xs 16

theorem slice_from_16 {α : Type} (xs : List α) : slice xs (16 : Int) noBound = xs.drop 16 :=
  slice_from_nat xs 16

/-- `bytes([b]) * k` (`k ≤ 0`: empty) -/
theorem mul_byte (b : UInt8) (k : Int) : mul ([b] : Bytes) k = List.replicate k.toNat b := by
  simp only [mul]
  induction k.toNat with
  | zero => rfl
  | succ n ih => simp [List.replicate_succ, ih]

theorem decrypt_data_eq (c : C05.Crypto) (data : Bytes) (ak : Option Bytes) (iv : Bytes) :
    Gen.PyC2.decrypt_data c.aesCbcDec data ak iv = C05.decryptData c data ak iv := by
  unfold Gen.PyC2.decrypt_data
  cases ak with
  | none => rfl
  | some k =>
    simp only [pure_bind, aesApply]
    rfl

theorem raise_for_signature_eq (c : C05.Crypto) (ct sig hk : Bytes) :
    Gen.PyC2.EncryptedPacket_raise_for_signature c.hmacSha256 ⟨ct, sig⟩ hk = C05.raiseForSignature c ⟨ct, sig⟩ hk := by
  unfold Gen.PyC2.EncryptedPacket_raise_for_signature C05.raiseForSignature C05.raiseForSignatureT
  simp only [slice_to_16]
  by_cases h : C05.mac16 c hk ct = sig
  · have h' : (c.hmacSha256 hk ct).take 16 = sig := h
    simp [h, h']
    rfl
  · have h' : ¬ (c.hmacSha256 hk ct).take 16 = sig := h
    simp [h, h']
    rfl

theorem decrypt_packet_eq (c : C05.Crypto) (ct sig : Bytes) (ak hk : Option Bytes) (iv : Bytes) (verify : Bool) :
    Gen.PyC2.decrypt_packet c.hmacSha256 c.aesCbcDec ⟨ct, sig⟩ ak hk iv verify
      = C05.decryptPacket c ⟨ct, sig⟩ ak hk iv verify := by
  unfold Gen.PyC2.decrypt_packet
  cases verify with
  | false =>
    simp only [Bool.false_eq_true, ↓reduceIte, decrypt_data_eq]
    rfl
  | true =>
    simp only [↓reduceIte, decrypt_data_eq, raise_for_signature_eq]
    unfold C05.decryptPacket C05.decryptPacketT
    simp only [↓reduceIte]
    cases hk with
    | none => rfl
    | some k =>
      cases k with
      | nil => rfl
      | cons b bs =>
        have ht : truthy (b :: bs) = true := rfl
        simp only [ht, ↓reduceIte, pure_bind]
        unfold C05.raiseForSignature
        cases hr : (C05.raiseForSignatureT c ⟨ct, sig⟩ (b :: bs)) with
        | mk r log =>
          cases r with
          | error e => rfl
          | ok u =>
            simp only [ok_bind, C05.decryptData]

theorem p32be_eq (n : Int) (sg : Bool) : Gen.PyUtils.p32be n sg = C20.pack n (some 4) .big sg :=
  C20Gen.pack_eq n (some 4) .big sg

theorem derive_eq (sha256 : Bytes → Bytes) (r : Bytes) :
    Gen.PyC2.derive_aes_hmac_keys sha256 r = .ok ((sha256 r).take 16, (sha256 r).drop 16) := by
  unfold Gen.PyC2.derive_aes_hmac_keys
  simp only [slice_to_16, slice_from_16]
  rfl

end C05Gen

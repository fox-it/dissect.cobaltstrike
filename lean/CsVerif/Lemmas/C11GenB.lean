import CsVerif.Lemmas.C11Gen
/-! Helper lemmas for Props/C11Gen.lean, second part: the block-builder methods of `Gen/PyC2Dict.lean` (translated from `ConfigBlock`,
`C2Profile.set_option`, `DataTransformBlock`, `from_execute_list`, `from_beacon_gate_option_strings`) against the nodes the model
appends (`C11.optNode`, `globalOptNode`, `pairNodes`, `enableNode`, `dtForest`, `execForest`, `gateForest`, `buildCalls`). -/
namespace C11Gen
open PyU
-- one `simp only` list often serves all cases of a split, so not every name is used in every case

def V2sSpec (f : V → Py V) : Prop := ∀ v : C11.PyVal, f (encPyVal v) = .ok (.str (C11.valueToString v))

theorem replaceGo_eq (old new : C10.Text) : ∀ (s : C10.Text) (k : Nat), PyU.replaceGo old new s k = C11.replaceGo old new s k
  | [], k => by simp [PyU.replaceGo, C11.replaceGo]
  | c :: cs, k + 1 => by simp only [PyU.replaceGo, C11.replaceGo, replaceGo_eq old new cs k]
  | c :: cs, 0 => by
    simp only [PyU.replaceGo, C11.replaceGo, replaceGo_eq old new cs (old.length - 1), replaceGo_eq old new cs 0]

theorem value_to_string_str (s : C10.Text) : Gen.PyC2Prof.value_to_string (.str s) = .ok (.str (C11.valueToStringStr s)) := by
  have h1 : PyU.lit "\"" = .str [34] := by decide +kernel
  have h2 : PyU.lit "\\\"" = .str [92, 34] := by decide +kernel
  have h3 : PyU.lit "\\'" = .str [92, 39] := by decide +kernel
  have h4 : PyU.lit "'" = .str [39] := by decide +kernel
  have h5 : PyU.cps "\"" = [34] := by decide +kernel
  simp only [Gen.PyC2Prof.value_to_string, PyU.isInstance, List.any, PyU.isInst1, Bool.or_false, Bool.false_eq_true, ↓reduceIte, h1, h2,
    h3, h4, h5, PyU.strReplace, PyU.ok_bind, PyU.fmt, beq_self_eq_true, PyU.replaceL, List.isEmpty_cons, replaceGo_eq,
    C11.valueToStringStr, C11.strReplace]
  rfl

theorem v2sG_spec : V2sSpec v2sG := by
  intro v
  cases v with
  | str s => exact value_to_string_str s
  | bytes b =>
    simp only [v2sG, encPyVal, C12Gen.gen_value_to_string_proof, C12Gen.latin, C11.valueToString]


/-- `mk kids` is an object whose attribute `tree` is the Lark tree with the label `lbl` and the children `kids` -/
structure Holder (lbl : V) (mk : List V → V) : Prop where
  get : ∀ k, PyU.getAttr (mk k) "tree" = .ok (treeV lbl k)
  set : ∀ k k', PyU.setAttrObj (mk k) "tree" (treeV lbl k') = .ok (mk k')

theorem holder_block (lbl : V) : Holder lbl (blockV lbl) := ⟨fun _ => rfl, fun _ _ => rfl⟩
theorem holder_profile (lbl c h : V) : Holder lbl (fun k => profileV (treeV lbl k) c h) := ⟨fun _ => rfl, fun _ _ => rfl⟩

theorem getAttr_children (l : V) (k : List V) : PyU.getAttr (treeV l k) "children" = .ok (.list k) := rfl
theorem setAttr_children (l : V) (k k' : List V) : PyU.setAttrObj (treeV l k) "children" (.list k') = .ok (treeV l k') := rfl

/-- appending one node to `self.tree.children` -/
theorem append_child {lbl : V} {mk : List V → V} (h : Holder lbl mk) (kids : List V) (x : V) :
    (do let t1 ← PyU.getAttr (mk kids) "tree"
        let t2 ← PyU.getAttr t1 "children"
        let t3 ← PyU.append t2 x
        let t4 ← PyU.setAttrObj t1 "children" t3
        PyU.setAttrObj (mk kids) "tree" t4) = .ok (mk (kids ++ [x])) := by
  simp only [h.get, PyU.ok_bind, getAttr_children, append_list, setAttr_children, h.set]

theorem append_child_bind {lbl : V} {mk : List V → V} (h : Holder lbl mk) (kids : List V) (x : V) {α : Type} (k : V → Py α) :
    (do let t1 ← PyU.getAttr (mk kids) "tree"
        let t2 ← PyU.getAttr t1 "children"
        let t3 ← PyU.append t2 x
        let t4 ← PyU.setAttrObj t1 "children" t3
        let t5 ← PyU.setAttrObj (mk kids) "tree" t4
        k t5) = k (mk (kids ++ [x])) := by
  simp only [h.get, PyU.ok_bind, getAttr_children, append_list, setAttr_children, h.set]

theorem gen_set_option_proof {lbl : V} {mk : List V → V} (h : Holder lbl mk) (f : V → Py V) (hf : V2sSpec f)
    (kids : List V) (name : V) (v : C11.PyVal) :
    Gen.PyC2Dict.ConfigBlock_set_option f (mk kids) name (encPyVal v)
      = .ok (.tuple [.none, mk (kids ++ [optNodeV name (C11.valueToString v)])]) := by
  simp only [Gen.PyC2Dict.ConfigBlock_set_option, hf v, PyU.ok_bind, append_child_bind h, pure, Except.pure]
  rfl


theorem gen_profile_set_option_proof {lbl : V} {mk : List V → V} (h : Holder lbl mk) (f : V → Py V) (hf : V2sSpec f)
    (kids : List V) (name : V) (v : C11.PyVal) :
    Gen.PyC2Dict.C2Profile_set_option f (mk kids) name (encPyVal v)
      = .ok (.tuple [.none, mk (kids ++ [globalOptNodeV name (C11.valueToString v)])]) := by
  simp only [Gen.PyC2Dict.C2Profile_set_option, hf v, PyU.ok_bind, append_child_bind h, pure, Except.pure]
  rfl

theorem gen_enable_proof {lbl : V} {mk : List V → V} (h : Holder lbl mk) (kids : List V) (name value : V) :
    Gen.PyC2Dict.ConfigBlock__enable (mk kids) name value = .ok (.tuple [.none, mk (kids ++ [enableNodeV name])]) := by
  simp only [Gen.PyC2Dict.ConfigBlock__enable, append_child_bind h, pure, Except.pure]
  rfl

/-- the children of the argument block are attached under the new label (the list is COPIED here; the real code shares it) -/
theorem gen_set_config_block_proof {lbl : V} {mk : List V → V} (h : Holder lbl mk) (kids : List V) (name : V)
    (blk : V) (bl : V) (bkids : List V) (hb : PyU.getAttr blk "tree" = .ok (treeV bl bkids)) :
    Gen.PyC2Dict.ConfigBlock_set_config_block (mk kids) name blk = .ok (.tuple [.none, mk (kids ++ [treeV name bkids])]) := by
  simp only [Gen.PyC2Dict.ConfigBlock_set_config_block, PyU.ok_bind, h.get, getAttr_children, hb, append_list, setAttr_children, h.set,
    pure, Except.pure]
  rfl

theorem truthy_list (l : List V) : PyU.truthy (.list l) = !l.isEmpty := rfl

theorem gen_set_non_empty_config_block_proof {lbl : V} {mk : List V → V} (h : Holder lbl mk) (kids : List V) (name : V)
    (blk : V) (bl : V) (bkids : List V) (hb : PyU.getAttr blk "tree" = .ok (treeV bl bkids)) :
    Gen.PyC2Dict.ConfigBlock_set_non_empty_config_block (mk kids) name blk
      = .ok (.tuple [.none, mk (if bkids.isEmpty then kids else kids ++ [treeV name bkids])]) := by
  simp only [Gen.PyC2Dict.ConfigBlock_set_non_empty_config_block, PyU.ok_bind, hb, getAttr_children, truthy_list,
    gen_set_config_block_proof h kids name blk bl bkids hb]
  cases bkids with
  | nil => rfl
  | cons x xs => rfl

/-! #### `_pair`, `_header`, `_parameter` -/
def pairNodesV (lbl : V) : List (C11.PyVal × C11.PyVal) → List V
  | [] => []
  | (a, b) :: ps => pairNodeV lbl (C11.valueToString a) (C11.valueToString b) :: pairNodesV lbl ps

theorem unpack2_pair (a b : V) : PyU.unpack2 (.tuple [a, b]) = .ok (a, b) := rfl

theorem pair_loop {lbl : V} {mk : List V → V} (h : Holder lbl mk) (f : V → Py V) (hf : V2sSpec f) (name : V) :
    ∀ (ps : List (C11.PyVal × C11.PyVal)) (kids : List V),
    PyU.forList (ps.map fun p => V.tuple [encPyVal p.1, encPyVal p.2]) (Gen.PyC2Dict._pair_loop1 f name) (mk kids)
      = .ok (mk (kids ++ pairNodesV name ps))
  | [], kids => by simp [PyU.forList, pairNodesV]
  | (a, b) :: ps, kids => by
    have ih := pair_loop h f hf name ps (kids ++ [pairNodeV name (C11.valueToString a) (C11.valueToString b)])
    simp only [List.map_cons, PyU.forList, Gen.PyC2Dict._pair_loop1, unpack2_pair, PyU.ok_bind, hf a, hf b,
      append_child_bind h, pure, Except.pure]
    simp only [pairNodesV, List.append_assoc, List.singleton_append] at ih ⊢
    exact ih

theorem gen_pair_proof {lbl : V} {mk : List V → V} (h : Holder lbl mk) (f : V → Py V) (hf : V2sSpec f)
    (kids : List V) (name : V) (ps : List (C11.PyVal × C11.PyVal)) :
    Gen.PyC2Dict.ConfigBlock__pair f (mk kids) name (encPairs ps) = .ok (.tuple [.none, mk (kids ++ pairNodesV name ps)]) := by
  simp only [Gen.PyC2Dict.ConfigBlock__pair, encPairs, PyU.iterList, PyU.ok_bind, pair_loop h f hf name ps kids, pure, Except.pure]

/-- `_header` and `_parameter` are `_pair` with the label written in: the same term up to that argument -/
theorem header_eq_pair (f : V → Py V) (self name v : V) :
    Gen.PyC2Dict.ConfigBlock__header f self name v = Gen.PyC2Dict.ConfigBlock__pair f self (PyU.lit "header") v := rfl

theorem parameter_eq_pair (f : V → Py V) (self name v : V) :
    Gen.PyC2Dict.ConfigBlock__parameter f self name v = Gen.PyC2Dict.ConfigBlock__pair f self (PyU.lit "parameter") v := rfl

theorem gen_header_proof {lbl : V} {mk : List V → V} (h : Holder lbl mk) (f : V → Py V) (hf : V2sSpec f)
    (kids : List V) (name : V) (ps : List (C11.PyVal × C11.PyVal)) :
    Gen.PyC2Dict.ConfigBlock__header f (mk kids) name (encPairs ps)
      = .ok (.tuple [.none, mk (kids ++ pairNodesV (PyU.lit "header") ps)]) :=
  (header_eq_pair f _ name _).trans (gen_pair_proof h f hf kids _ ps)

theorem gen_parameter_proof {lbl : V} {mk : List V → V} (h : Holder lbl mk) (f : V → Py V) (hf : V2sSpec f)
    (kids : List V) (name : V) (ps : List (C11.PyVal × C11.PyVal)) :
    Gen.PyC2Dict.ConfigBlock__parameter f (mk kids) name (encPairs ps)
      = .ok (.tuple [.none, mk (kids ++ pairNodesV (PyU.lit "parameter") ps)]) :=
  (parameter_eq_pair f _ name _).trans (gen_pair_proof h f hf kids _ ps)


theorem lit_string : PyU.lit "string" = .str C11.nmString := by decide +kernel
theorem lit_option : PyU.lit "option" = .str C11.nmOption := by decide +kernel
theorem lit_OPTION : PyU.lit "OPTION" = .str C11.nmOPTION := by decide +kernel
theorem lit_header : PyU.lit "header" = .str C11.nmHeader := by decide +kernel
theorem lit_parameter : PyU.lit "parameter" = .str C11.nmParameter := by decide +kernel

theorem absChild_tree (G : C10.Table) (name : C10.Text) (kids : List V) :
    absChild G (treeV (.str name) kids) = (absKids G kids).map fun ks => fun r => C10.Forest.node (C11.nameId G name) ks r := by
  simp only [treeV, absChild, Gen.PyC2Dict.TreeCls, beq_self_eq_true, ↓reduceIte, absTreeParts, absListV]
  cases absKids G kids <;> rfl

theorem absChild_token (G : C10.Table) (ty s : C10.Text) :
    absChild G (tokenV (.str ty) (.str s)) = some fun r => C10.Forest.leaf (C11.nameId G ty) s r := by
  simp [tokenV, C12Gen.tokenV, absChild, Gen.PyC2Dict.TreeCls, Gen.PyC2Prof.Token]

theorem absKids_cons (G : C10.Table) (x : V) (xs : List V) :
    absKids G (x :: xs) = (match absChild G x, absKids G xs with
      | some f, some r => some (f r)
      | _, _ => none) := by
  cases hx : absChild G x <;> cases hr : absKids G xs <;> simp [absKids, hx, hr]

theorem absKids_nil (G : C10.Table) : absKids G [] = some .nil := by simp only [absKids]

theorem absChild_strNode (G : C10.Table) (v : C11.PyVal) :
    absChild G (strNodeV (C11.valueToString v)) = some (C11.strNode G v) := by
  simp only [strNodeV, lit_string, strName_eq, absChild_tree, absKids_cons, absChild_token, absKids_nil, Option.map_some]
  rfl

theorem abs_optNode (G : C10.Table) (name : C10.Text) (v : C11.PyVal) :
    absKids G [optNodeV (.str name) (C11.valueToString v)] = some (C11.optNode G name v) := by
  simp only [optNodeV, absKids_cons, absChild_tree, absChild_strNode, absKids_nil, Option.map_some, C11.optNode]

theorem abs_globalOptNode (G : C10.Table) (name : C10.Text) (v : C11.PyVal) :
    absKids G [globalOptNodeV (.str name) (C11.valueToString v)] = some (C11.globalOptNode G name v) := by
  simp only [globalOptNodeV, lit_option, lit_OPTION, absKids_cons, absChild_tree, absChild_token, absChild_strNode, absKids_nil,
    Option.map_some, C11.globalOptNode]

theorem abs_enableNode (G : C10.Table) (name : C10.Text) : absKids G [enableNodeV (.str name)] = some (C11.enableNode G name) := by
  simp only [enableNodeV, absKids_cons, absChild_tree, absKids_nil, Option.map_some, C11.enableNode]

theorem abs_pairNodes (G : C10.Table) (name : C10.Text) : ∀ ps : List (C11.PyVal × C11.PyVal),
    absKids G (pairNodesV (.str name) ps) = some (C11.pairNodes G name ps)
  | [] => by simp only [pairNodesV, absKids_nil, C11.pairNodes]
  | (a, b) :: ps => by
    simp only [pairNodesV, pairNodeV, absKids_cons, absChild_tree, absChild_strNode, absKids_nil, Option.map_some, abs_pairNodes G name ps,
      C11.pairNodes]

theorem abs_blockNode (G : C10.Table) (name : C10.Text) (bkids : List V) :
    absKids G [treeV (.str name) bkids] = (absKids G bkids).map fun ks => C10.Forest.node (C11.nameId G name) ks .nil := by
  simp only [absKids_cons, absChild_tree, absKids_nil]
  cases absKids G bkids <;> rfl

theorem absChild_prefix (G : C10.Table) (x : V) (f : C10.Forest → C10.Forest) (h : absChild G x = some f) (a b : C10.Forest) :
    f (C11.Forest.append a b) = C11.Forest.append (f a) b := by
  cases x with
  | inst c vals =>
    simp only [absChild] at h
    split at h
    · split at h
      · cases h; rfl
      · cases h
    · split at h
      · split at h
        · cases h; rfl
        · cases h
      · cases h
  | _ => simp [absChild] at h

theorem absKids_append (G : C10.Table) : ∀ (a b : List V),
    absKids G (a ++ b) = (match absKids G a, absKids G b with
      | some x, some y => some (C11.Forest.append x y)
      | _, _ => none)
  | [], b => by
    simp only [List.nil_append, absKids_nil]
    cases absKids G b <;> rfl
  | x :: xs, b => by
    have ih := absKids_append G xs b
    simp only [List.cons_append, absKids_cons, ih]
    cases hx : absChild G x <;> cases absKids G xs <;> cases absKids G b <;> simp
    exact absChild_prefix G x _ hx _ _



/-! ### DataTransformBlock -/
def dtV (sk tk : List V) : V := .inst Gen.PyC2Dict.DataTransformBlockCls [.list sk, .list tk]

theorem dt_getSteps (sk tk : List V) : PyU.getAttr (dtV sk tk) "steps" = .ok (.list sk) := rfl
theorem dt_getTerm (sk tk : List V) : PyU.getAttr (dtV sk tk) "termination" = .ok (.list tk) := rfl
theorem dt_setSteps (sk tk sk' : List V) : PyU.setAttrObj (dtV sk tk) "steps" (.list sk') = .ok (dtV sk' tk) := rfl
theorem dt_setTerm (sk tk tk' : List V) : PyU.setAttrObj (dtV sk tk) "termination" (.list tk') = .ok (dtV sk tk') := rfl

/-- what `add_step` / `add_termination` append: `Tree(option, [])` or `Tree(option, [string value])` -/
def stepNodeV (name : V) (v : Option C11.PyVal) : V :=
  treeV name (match v with
    | some x => [strNodeV (C11.valueToString x)]
    | none => [])

def encOptVal : Option C11.PyVal → V
  | none => .none
  | some x => encPyVal x

theorem isNone_enc (x : C11.PyVal) : PyU.isNone (encPyVal x) = false := by cases x <;> rfl

theorem gen_add_step_proof (f : V → Py V) (hf : V2sSpec f) (sk tk : List V) (name : V) (v : Option C11.PyVal) :
    Gen.PyC2Dict.DataTransformBlock_add_step f (dtV sk tk) name (encOptVal v)
      = .ok (.tuple [.none, dtV (sk ++ [stepNodeV name v]) tk]) := by
  cases v with
  | none =>
    simp only [Gen.PyC2Dict.DataTransformBlock_add_step, encOptVal, PyU.isNone, Bool.not_true, Bool.false_eq_true, ↓reduceIte, dt_getSteps,
      PyU.ok_bind, append_list, dt_setSteps, pure, Except.pure, stepNodeV]
    rfl
  | some x =>
    simp only [Gen.PyC2Dict.DataTransformBlock_add_step, encOptVal, isNone_enc, Bool.not_false, ↓reduceIte, hf x, PyU.ok_bind,
      append_list, dt_getSteps, dt_setSteps, pure, Except.pure, stepNodeV, List.nil_append]
    rfl

theorem gen_add_termination_proof (f : V → Py V) (hf : V2sSpec f) (sk tk : List V) (name : V) (v : Option C11.PyVal) :
    Gen.PyC2Dict.DataTransformBlock_add_termination f (dtV sk tk) name (encOptVal v)
      = .ok (.tuple [.none, dtV sk (tk ++ [stepNodeV name v])]) := by
  cases v with
  | none =>
    simp only [Gen.PyC2Dict.DataTransformBlock_add_termination, encOptVal, PyU.isNone, Bool.not_true, Bool.false_eq_true, ↓reduceIte,
      dt_getTerm, PyU.ok_bind, append_list, dt_setTerm, pure, Except.pure, stepNodeV]
    rfl
  | some x =>
    simp only [Gen.PyC2Dict.DataTransformBlock_add_termination, encOptVal, isNone_enc, Bool.not_false, ↓reduceIte, hf x, PyU.ok_bind,
      append_list, dt_getTerm, dt_setTerm, pure, Except.pure, stepNodeV, List.nil_append]
    rfl


/-- the loop body of `DataTransformBlock.__init__` on the two node lists -/
def dtAddV (st : List V × List V) : C11.Step → List V × List V
  | .bare name =>
    if ProfileApi.dtBareSteps.contains name then (st.1 ++ [stepNodeV (.str name) none], st.2)
    else if ProfileApi.dtBareTerminations.contains name then (st.1, st.2 ++ [stepNodeV (.str (C11.dashToUnderscore name)) none])
    else
      match name with
      | [c0, c1] =>
        if ProfileApi.dtArgTerminations.contains [c0] then (st.1, st.2 ++ [stepNodeV (.str [c0]) (some (.str [c1]))])
        else (st.1 ++ [stepNodeV (.str [c0]) (some (.str [c1]))], st.2)
      | _ => st
  | .arg name v =>
    if ProfileApi.dtArgTerminations.contains name then (st.1, st.2 ++ [stepNodeV (.str name) (some v)])
    else (st.1 ++ [stepNodeV (.str name) (some v)], st.2)

theorem bareSteps_lit : V.tuple [(PyU.lit "base64"), (PyU.lit "base64url"), (PyU.lit "mask"), (PyU.lit "netbios"), (PyU.lit "netbiosu")]
    = .tuple (ProfileApi.dtBareSteps.map .str) := by decide +kernel
theorem bareTerms_lit : V.tuple [(PyU.lit "print"), (PyU.lit "uri-append"), (PyU.lit "uri_append")]
    = .tuple (ProfileApi.dtBareTerminations.map .str) := by decide +kernel
theorem argTerms_lit : V.tuple [(PyU.lit "header"), (PyU.lit "parameter")] = .tuple (ProfileApi.dtArgTerminations.map .str) := by
  decide +kernel

theorem contains_tuple_str (l : List C10.Text) (k : C10.Text) :
    t11Contains TOK (.tuple (l.map V.str)) (.str k) = .ok (l.contains k) := by
  simp only [t11Contains, t11View, any_t11Eq_str]

theorem contains_tuple_tuple (l : List C10.Text) (xs : List V) :
    t11Contains TOK (.tuple (l.map V.str)) (.tuple xs) = .ok false := by
  simp only [t11Contains, t11View]
  congr 1
  induction l with
  | nil => rfl
  | cons x l ih =>
    have : t11Eq TOK (.tuple xs) (.str x) = false := by simp [t11Eq, t11View, PyU.eq]
    simp only [List.map_cons, List.any_cons, this, ih, Bool.false_or]

theorem replaceGo_dash : ∀ (s : C10.Text), PyU.replaceGo [45] [95] s 0 = C11.dashToUnderscore s
  | [] => rfl
  | c :: cs => by
    have ih := replaceGo_dash cs
    simp only [PyU.replaceGo, List.isPrefixOf, List.length_cons, List.length_nil, C11.dashToUnderscore, List.map_cons] at ih ⊢
    by_cases h : c = 45
    · subst h; simp [ih]
    · have h1 : ((45 : Nat) == c) = false := beq_eq_false_iff_ne.mpr (Ne.symm h)
      have h2 : (c == 45) = false := beq_eq_false_iff_ne.mpr h
      simp [h1, h2, ih]

theorem strReplace_dash (s : C10.Text) : PyU.strReplace (.str s) (PyU.lit "-") (PyU.lit "_") = .ok (.str (C11.dashToUnderscore s)) := by
  have h1 : PyU.lit "-" = .str [45] := by decide +kernel
  have h2 : PyU.lit "_" = .str [95] := by decide +kernel
  simp only [h1, h2, PyU.strReplace, PyU.replaceL, List.isEmpty_cons, Bool.false_eq_true, ↓reduceIte, replaceGo_dash]

theorem len_str (s : C10.Text) : PyU.len (.str s) = .ok (.int (s.length : Nat)) := rfl
theorem eq_int_two (n : Nat) : t11Eq TOK (.int (n : Nat)) (V.int 2) = (n == 2) := PyU.eq_int_nat n 2

theorem dt_loop_step (f : V → Py V) (hf : V2sSpec f) (sk tk : List V) (s : C11.Step) :
    Gen.PyC2Dict.__init___loop1 f (encStep s) (dtV sk tk)
      = .ok (Ctl.cont, dtV (dtAddV (sk, tk) s).1 (dtAddV (sk, tk) s).2) := by
  cases s with
  | bare name =>
    simp only [Gen.PyC2Dict.__init___loop1, encStep, bareSteps_lit, bareTerms_lit, argTerms_lit, contains_tuple_str, PyU.ok_bind, dtAddV]
    by_cases h1 : ProfileApi.dtBareSteps.contains name = true
    · have := gen_add_step_proof f hf sk tk (.str name) none
      simp only [encOptVal] at this
      simp only [h1, ↓reduceIte, this, PyU.ok_bind, unpack2_pair, pure, Except.pure]
    · by_cases h2 : ProfileApi.dtBareTerminations.contains name = true
      · have := gen_add_termination_proof f hf sk tk (.str (C11.dashToUnderscore name)) none
        simp only [encOptVal] at this
        simp only [h1, h2, Bool.false_eq_true, ↓reduceIte, strReplace_dash, this, PyU.ok_bind, unpack2_pair, pure, Except.pure]
      · simp only [h1, h2, Bool.false_eq_true, ↓reduceIte, len_str, PyU.ok_bind, eq_int_two]
        match name with
        | [c0, c1] =>
          have hu : PyU.unpack2 (.str [c0, c1]) = .ok (.str [c0], .str [c1]) := rfl
          simp only [List.length_cons, List.length_nil, show ((0 + 1 + 1 : Nat) == 2) = true from rfl, ↓reduceIte, hu, PyU.ok_bind,
            contains_tuple_str]
          by_cases h3 : ProfileApi.dtArgTerminations.contains [c0] = true
          · have := gen_add_termination_proof f hf sk tk (.str [c0]) (some (.str [c1]))
            simp only [encOptVal, encPyVal] at this
            simp only [h3, ↓reduceIte, this, PyU.ok_bind, unpack2_pair, pure, Except.pure]
          · have := gen_add_step_proof f hf sk tk (.str [c0]) (some (.str [c1]))
            simp only [encOptVal, encPyVal] at this
            simp only [h3, Bool.false_eq_true, ↓reduceIte, this, PyU.ok_bind, unpack2_pair, pure, Except.pure]
        | [] => simp [pure, Except.pure]
        | [_] => simp [pure, Except.pure]
        | _ :: _ :: _ :: _ => simp [pure, Except.pure]
  | arg name v =>
    have hu : PyU.unpack2 (.tuple [.str name, encPyVal v]) = .ok (.str name, encPyVal v) := rfl
    have hl : PyU.len (.tuple [.str name, encPyVal v]) = .ok (.int ((2 : Nat) : Int)) := rfl
    simp only [Gen.PyC2Dict.__init___loop1, encStep, bareSteps_lit, bareTerms_lit, argTerms_lit, contains_tuple_tuple, PyU.ok_bind,
      Bool.false_eq_true, ↓reduceIte, hl, eq_int_two, show ((2 : Nat) == 2) = true from rfl, hu, contains_tuple_str, dtAddV]
    by_cases h3 : ProfileApi.dtArgTerminations.contains name = true
    · have := gen_add_termination_proof f hf sk tk (.str name) (some v)
      simp only [encOptVal] at this
      simp only [h3, ↓reduceIte, this, PyU.ok_bind, unpack2_pair, pure, Except.pure]
    · have := gen_add_step_proof f hf sk tk (.str name) (some v)
      simp only [encOptVal] at this
      simp only [h3, Bool.false_eq_true, ↓reduceIte, this, PyU.ok_bind, unpack2_pair, pure, Except.pure]


theorem dt_forList (f : V → Py V) (hf : V2sSpec f) : ∀ (steps : List C11.Step) (sk tk : List V),
    PyU.forList (steps.map encStep) (Gen.PyC2Dict.__init___loop1 f) (dtV sk tk)
      = .ok (dtV (steps.foldl dtAddV (sk, tk)).1 (steps.foldl dtAddV (sk, tk)).2)
  | [], sk, tk => rfl
  | s :: ss, sk, tk => by
    simp only [List.map_cons, PyU.forList, dt_loop_step f hf sk tk s, List.foldl_cons]
    exact dt_forList f hf ss _ _

theorem truthy_or_list (l : List V) :
    PyU.iterList (if (!PyU.truthy (V.list l)) = true then V.list [] else V.list l) = .ok l := by
  cases l with
  | nil => rfl
  | cons x xs => rfl

theorem gen_data_transform_block_init_proof (f : V → Py V) (hf : V2sSpec f) (steps : List C11.Step) :
    Gen.PyC2Dict.DataTransformBlock___init__ f dtBlank (.list (steps.map encStep))
      = .ok (.tuple [.none, dtV (steps.foldl dtAddV ([], [])).1 (steps.foldl dtAddV ([], [])).2]) := by
  have h1 : PyU.setAttrObj dtBlank "steps" (V.list []) = .ok (.inst Gen.PyC2Dict.DataTransformBlockCls [.list [], .none]) := rfl
  have h2 : PyU.setAttrObj (.inst Gen.PyC2Dict.DataTransformBlockCls [.list [], .none]) "termination" (V.list []) = .ok (dtV [] []) := rfl
  simp only [Gen.PyC2Dict.DataTransformBlock___init__, h1, h2, PyU.ok_bind]
  cases hs : steps with
  | nil => rfl
  | cons s ss =>
    have ht : PyU.truthy (V.list ((s :: ss).map encStep)) = true := rfl
    simp only [ht, Bool.not_true, Bool.false_eq_true, ↓reduceIte, PyU.iterList, PyU.ok_bind, dt_forList f hf (s :: ss) [] [], pure,
      Except.pure]

/-- the one child of a `DataTransformBlock`'s tree -/
def dtNodeV (sk tk : List V) : V :=
  treeV (PyU.lit "data_transform") [treeV (PyU.lit "steps") sk, treeV (PyU.lit "termination") tk]

theorem gen_data_transform_tree_proof (sk tk : List V) :
    Gen.PyC2Dict.DataTransformBlock_tree (dtV sk tk)
      = .ok (.tuple [treeV (PyU.lit "DataTransformBlock") [dtNodeV sk tk], dtV sk tk]) := rfl

theorem dtBlockG_eq (steps : List C11.Step) :
    dtBlockG steps = .ok (blockV (PyU.lit "DataTransformBlock")
      [dtNodeV (steps.foldl dtAddV ([], [])).1 (steps.foldl dtAddV ([], [])).2]) := by
  simp only [dtBlockG, gen_data_transform_block_init_proof v2sG v2sG_spec steps, selfAfter, PyU.ok_bind, gen_data_transform_tree_proof]
  rfl

theorem abs_stepNode (G : C10.Table) (name : C10.Text) (v : Option C11.PyVal) :
    absKids G [stepNodeV (.str name) v] = some (C11.stepNode G name v) := by
  cases v with
  | none => simp only [stepNodeV, absKids_cons, absChild_tree, absKids_nil, Option.map_some, C11.stepNode]
  | some x => simp only [stepNodeV, absKids_cons, absChild_tree, absChild_strNode, absKids_nil, Option.map_some, C11.stepNode]

theorem absKids_snoc (G : C10.Table) (kids : List V) (a : C10.Forest) (x : V) (g : C10.Forest)
    (hk : absKids G kids = some a) (hx : absKids G [x] = some g) : absKids G (kids ++ [x]) = some (C11.Forest.append a g) := by
  rw [absKids_append, hk, hx]

theorem abs_dtAdd (G : C10.Table) (sk tk : List V) (a b : C10.Forest) (hs : absKids G sk = some a) (ht : absKids G tk = some b)
    (s : C11.Step) :
    absKids G (dtAddV (sk, tk) s).1 = some (C11.dtAdd G (a, b) s).1 ∧ absKids G (dtAddV (sk, tk) s).2 = some (C11.dtAdd G (a, b) s).2 := by
  cases s with
  | bare name =>
    by_cases h1 : ProfileApi.dtBareSteps.contains name = true
    · simp only [dtAddV, C11.dtAdd, h1, ↓reduceIte]
      exact ⟨absKids_snoc G sk a _ _ hs (abs_stepNode G name none), ht⟩
    · by_cases h2 : ProfileApi.dtBareTerminations.contains name = true
      · simp only [dtAddV, C11.dtAdd, h1, h2, Bool.false_eq_true, ↓reduceIte]
        exact ⟨hs, absKids_snoc G tk b _ _ ht (abs_stepNode G _ none)⟩
      · match name with
        | [c0, c1] =>
          by_cases h3 : ProfileApi.dtArgTerminations.contains [c0] = true
          · simp only [dtAddV, C11.dtAdd, h1, h2, h3, Bool.false_eq_true, ↓reduceIte]
            exact ⟨hs, absKids_snoc G tk b _ _ ht (abs_stepNode G _ _)⟩
          · simp only [dtAddV, C11.dtAdd, h1, h2, h3, Bool.false_eq_true, ↓reduceIte]
            exact ⟨absKids_snoc G sk a _ _ hs (abs_stepNode G _ _), ht⟩
        | [] => simp only [dtAddV, C11.dtAdd, h1, h2, Bool.false_eq_true, ↓reduceIte]; exact ⟨hs, ht⟩
        | [_] => simp only [dtAddV, C11.dtAdd, h1, h2, Bool.false_eq_true, ↓reduceIte]; exact ⟨hs, ht⟩
        | _ :: _ :: _ :: _ => simp only [dtAddV, C11.dtAdd, h1, h2, Bool.false_eq_true, ↓reduceIte]; exact ⟨hs, ht⟩
  | arg name v =>
    by_cases h3 : ProfileApi.dtArgTerminations.contains name = true
    · simp only [dtAddV, C11.dtAdd, h3, ↓reduceIte]
      exact ⟨hs, absKids_snoc G tk b _ _ ht (abs_stepNode G _ _)⟩
    · simp only [dtAddV, C11.dtAdd, h3, Bool.false_eq_true, ↓reduceIte]
      exact ⟨absKids_snoc G sk a _ _ hs (abs_stepNode G _ _), ht⟩

theorem abs_dtFold (G : C10.Table) : ∀ (steps : List C11.Step) (sk tk : List V) (a b : C10.Forest),
    absKids G sk = some a → absKids G tk = some b →
    absKids G (steps.foldl dtAddV (sk, tk)).1 = some (steps.foldl (C11.dtAdd G) (a, b)).1 ∧
    absKids G (steps.foldl dtAddV (sk, tk)).2 = some (steps.foldl (C11.dtAdd G) (a, b)).2
  | [], _, _, _, _, hs, ht => ⟨hs, ht⟩
  | s :: ss, sk, tk, a, b, hs, ht => by
    obtain ⟨h1, h2⟩ := abs_dtAdd G sk tk a b hs ht s
    simp only [List.foldl_cons]
    exact abs_dtFold G ss _ _ _ _ h1 h2

theorem lit_data_transform : PyU.lit "data_transform" = .str C11.nmDataTransform := by decide +kernel
theorem lit_steps : PyU.lit "steps" = .str C11.nmSteps := by decide +kernel
theorem lit_termination : PyU.lit "termination" = .str C11.nmTermination := by decide +kernel

theorem abs_dtForest (G : C10.Table) (steps : List C11.Step) :
    absKids G [dtNodeV (steps.foldl dtAddV ([], [])).1 (steps.foldl dtAddV ([], [])).2] = some (C11.dtForest G steps) := by
  obtain ⟨h1, h2⟩ := abs_dtFold G steps [] [] .nil .nil (absKids_nil G) (absKids_nil G)
  simp only [dtNodeV, lit_data_transform, lit_steps, lit_termination, absKids_cons, absChild_tree, h1, h2, absKids_nil, Option.map_some,
    C11.dtForest]


/-! ### `from_execute_list`, `from_beacon_gate_option_strings` -/
theorem lowCp_eq (t : C10.Text) : t.map PyU.lowCp = C11.lowerAscii t := by
  simp only [C11.lowerAscii]
  apply List.map_congr_left
  intro c _
  simp only [PyU.lowCp, Bool.and_eq_true, decide_eq_true_eq]

theorem lower_ascii (t : C10.Text) (h : t.all (· < 128) = true) : PyU.lower (.str t) = .ok (.str (C11.lowerAscii t)) := by
  rw [PyU.lower_str t h, lowCp_eq]

/-- the nodes one element of the list handed to `from_execute_list` appends -/
def execOneV : C11.ExecItem → Py (List V)
  | .pair name v =>
    match ProfileApi.executeSpecial.lookup name with
    | some label => .ok [optNodeV (.str label) (C11.valueToString v)]
    | none => .error .valueError
  | .bare name =>
    if ProfileApi.executeBare.contains name then .ok [enableNodeV (.str (C11.dashToUnderscore (C11.lowerAscii name)))]
    else .error .valueError

def execNodesV : List C11.ExecItem → Py (List V)
  | [] => .ok []
  | x :: xs =>
    match execOneV x with
    | .error e => .error e
    | .ok a =>
      match execNodesV xs with
      | .error e => .error e
      | .ok r => .ok (a ++ r)

theorem executeSpecial_lit : ProfileApi.executeSpecial =
    [(PyU.cps "CreateThread", PyU.cps "createthread_special"), (PyU.cps "CreateRemoteThread", PyU.cps "createremotethread_special")] := by
  decide +kernel
theorem executeBare_lit : V.list [(PyU.lit "CreateThread"), (PyU.lit "SetThreadContext"), (PyU.lit "CreateRemoteThread"),
    (PyU.lit "NtQueueApcThread"), (PyU.lit "NtQueueApcThread-s"), (PyU.lit "RtlCreateUserThread")]
    = .list (ProfileApi.executeBare.map .str) := by decide +kernel
theorem executeBare_ascii : ProfileApi.executeBare.all (fun n => n.all (· < 128)) = true := by decide +kernel

theorem contains_list_str (l : List C10.Text) (k : C10.Text) :
    t11Contains TOK (.list (l.map V.str)) (.str k) = .ok (l.contains k) := by
  simp only [t11Contains, t11View, any_t11Eq_str]

theorem eq_str_lit (a : C10.Text) (s : String) : t11Eq TOK (.str a) (PyU.lit s) = (a == PyU.cps s) := by
  simp [t11Eq, t11View, PyU.eq, PyU.lit]

theorem exec_loop_step {lbl : V} {mk : List V → V} (h : Holder lbl mk) (f : V → Py V) (hf : V2sSpec f) (kids : List V)
    (x : C11.ExecItem) :
    Gen.PyC2Dict.ExecuteOptionsBlock_from_execute_list_loop1 f (encExecItem x) (mk kids)
      = (execOneV x).map fun ns => (Ctl.cont, mk (kids ++ ns)) := by
  cases x with
  | pair name v =>
    have hi : PyU.isInstance (V.tuple [V.str name, encPyVal v]) [Ty.list, Ty.tuple] = true := rfl
    have hu : PyU.unpack2 (.tuple [.str name, encPyVal v]) = .ok (.str name, encPyVal v) := rfl
    simp only [Gen.PyC2Dict.ExecuteOptionsBlock_from_execute_list_loop1, encExecItem, hi, ↓reduceIte, hu, PyU.ok_bind, eq_str_lit,
      execOneV, executeSpecial_lit, List.lookup]
    by_cases h1 : (name == PyU.cps "CreateThread") = true
    · simp only [h1, ↓reduceIte, gen_set_option_proof h f hf kids _ v, PyU.ok_bind, unpack2_pair, pure, Except.pure, Except.map]
      rfl
    · have h1' : (name == PyU.cps "CreateThread") = false := Bool.eq_false_iff.mpr h1
      by_cases h2 : (name == PyU.cps "CreateRemoteThread") = true
      · simp only [h1', h2, Bool.false_eq_true, ↓reduceIte, gen_set_option_proof h f hf kids _ v, PyU.ok_bind, unpack2_pair, pure,
        Except.pure, Except.map]
        rfl
      · have h2' : (name == PyU.cps "CreateRemoteThread") = false := Bool.eq_false_iff.mpr h2
        simp only [h1', h2', Bool.false_eq_true, ↓reduceIte, fmt_str, PyU.ok_bind, Except.map]
        rfl
  | bare name =>
    have hi : PyU.isInstance (V.str name) [Ty.list, Ty.tuple] = false := rfl
    simp only [Gen.PyC2Dict.ExecuteOptionsBlock_from_execute_list_loop1, encExecItem, hi, Bool.false_eq_true, ↓reduceIte, executeBare_lit,
      contains_list_str, PyU.ok_bind, execOneV]
    by_cases hc : ProfileApi.executeBare.contains name = true
    · have hm : name ∈ ProfileApi.executeBare := by simpa using hc
      have ha : name.all (· < 128) = true := by
        have := executeBare_ascii
        rw [List.all_eq_true] at this
        exact this name hm
      simp only [hc, ↓reduceIte, lower_ascii name ha, PyU.ok_bind, strReplace_dash, gen_enable_proof h kids _ _, unpack2_pair, pure,
        Except.pure, Except.map]
    · have hc' : ProfileApi.executeBare.contains name = false := Bool.eq_false_iff.mpr hc
      simp only [hc', Bool.false_eq_true, ↓reduceIte, fmt_str, PyU.ok_bind, Except.map]
      rfl

theorem exec_forList {lbl : V} {mk : List V → V} (h : Holder lbl mk) (f : V → Py V) (hf : V2sSpec f) :
    ∀ (xs : List C11.ExecItem) (kids : List V),
    PyU.forList (xs.map encExecItem) (Gen.PyC2Dict.ExecuteOptionsBlock_from_execute_list_loop1 f) (mk kids)
      = (execNodesV xs).map fun ns => mk (kids ++ ns)
  | [], kids => by simp [PyU.forList, execNodesV, Except.map]
  | x :: xs, kids => by
    simp only [List.map_cons, PyU.forList, exec_loop_step h f hf kids x, execNodesV]
    cases hx : execOneV x with
    | error e => rfl
    | ok a =>
      simp only [Except.map, exec_forList h f hf xs (kids ++ a)]
      cases execNodesV xs <;> simp

theorem gen_from_execute_list_proof {lbl : V} {mk : List V → V} (h : Holder lbl mk) (f : V → Py V) (hf : V2sSpec f)
    (kids : List V) (xs : List C11.ExecItem) :
    Gen.PyC2Dict.ExecuteOptionsBlock_from_execute_list f (mk kids) (.list (xs.map encExecItem))
      = (execNodesV xs).map fun ns => .tuple [.none, mk (kids ++ ns)] := by
  simp only [Gen.PyC2Dict.ExecuteOptionsBlock_from_execute_list, PyU.iterList, PyU.ok_bind, exec_forList h f hf xs kids]
  cases execNodesV xs <;> rfl

/-- what the model appends for one element (the `one` of `C11.execForest`) -/
def execOneM (G : C10.Table) : C11.ExecItem → Py C10.Forest
  | .pair name v =>
    match ProfileApi.executeSpecial.lookup name with
    | some label => .ok (C11.optNode G label v)
    | none => .error .valueError
  | .bare name =>
    if ProfileApi.executeBare.contains name then .ok (C11.enableNode G (C11.dashToUnderscore (C11.lowerAscii name)))
    else .error .valueError

theorem execForest_cons (G : C10.Table) (x : C11.ExecItem) (xs : List C11.ExecItem) :
    C11.execForest G (x :: xs) = (match execOneM G x with
      | .error e => .error e
      | .ok f =>
        match C11.execForest G xs with
        | .error e => .error e
        | .ok r => .ok (C11.Forest.append f r)) := by
  cases x <;> rfl

/-- the model's result for one element, with the abstraction of the translated nodes -/
def AbsRes (G : C10.Table) (rv : Py (List V)) (rm : Py C10.Forest) : Prop :=
  match rv with
  | .error e => rm = .error e
  | .ok ns => ∃ g, rm = .ok g ∧ absKids G ns = some g

theorem abs_execOne (G : C10.Table) (x : C11.ExecItem) : AbsRes G (execOneV x) (execOneM G x) := by
  cases x with
  | pair name v =>
    simp only [execOneV, execOneM]
    cases ProfileApi.executeSpecial.lookup name with
    | none => exact rfl
    | some label => exact ⟨_, rfl, abs_optNode G label v⟩
  | bare name =>
    simp only [execOneV, execOneM]
    by_cases hc : ProfileApi.executeBare.contains name = true
    · simp only [hc, ↓reduceIte]
      exact ⟨_, rfl, abs_enableNode G _⟩
    · simp only [hc, Bool.false_eq_true, ↓reduceIte]
      exact rfl

theorem abs_execNodes (G : C10.Table) : ∀ xs : List C11.ExecItem, AbsRes G (execNodesV xs) (C11.execForest G xs)
  | [] => ⟨.nil, rfl, absKids_nil G⟩
  | x :: xs => by
    have ih := abs_execNodes G xs
    have h1 := abs_execOne G x
    simp only [execNodesV, execForest_cons]
    cases hx : execOneV x with
    | error e =>
      rw [hx] at h1
      simp only [AbsRes] at h1 ⊢
      rw [h1]
    | ok a =>
      rw [hx] at h1
      obtain ⟨g, hg, ha⟩ := h1
      cases hr : execNodesV xs with
      | error e =>
        rw [hr] at ih
        simp only [AbsRes] at ih ⊢
        rw [hg, ih]
      | ok r =>
        rw [hr] at ih
        obtain ⟨g2, hg2, hr2⟩ := ih
        simp only [AbsRes]
        refine ⟨C11.Forest.append g g2, by rw [hg, hg2], ?_⟩
        rw [absKids_append, ha, hr2]

/-! #### `from_beacon_gate_option_strings` -/
def gateNodesV (xs : List C10.Text) : List V := xs.map fun x => enableNodeV (.str (C11.lowerAscii x))

theorem gate_forList {lbl : V} {mk : List V → V} (h : Holder lbl mk) :
    ∀ (xs : List C10.Text) (kids : List V), (∀ x ∈ xs, x.all (· < 128) = true) →
    PyU.forList (xs.map V.str) Gen.PyC2Dict.BeaconGateBlock_from_beacon_gate_option_strings_loop1 (mk kids)
      = .ok (mk (kids ++ gateNodesV xs))
  | [], kids, _ => by simp [PyU.forList, gateNodesV]
  | x :: xs, kids, ha => by
    have hx := ha x List.mem_cons_self
    have ih := gate_forList h xs (kids ++ [enableNodeV (.str (C11.lowerAscii x))]) (fun y hy => ha y (List.mem_cons_of_mem _ hy))
    simp only [List.map_cons, PyU.forList, Gen.PyC2Dict.BeaconGateBlock_from_beacon_gate_option_strings_loop1, lower_ascii x hx,
      PyU.ok_bind, gen_enable_proof h kids _ _, unpack2_pair, pure, Except.pure]
    simp only [gateNodesV, List.map_cons, List.append_assoc, List.singleton_append] at ih ⊢
    exact ih

theorem gen_from_beacon_gate_proof {lbl : V} {mk : List V → V} (h : Holder lbl mk) (kids : List V) (xs : List C10.Text)
    (ha : ∀ x ∈ xs, x.all (· < 128) = true) :
    Gen.PyC2Dict.BeaconGateBlock_from_beacon_gate_option_strings (mk kids) (.list (xs.map V.str))
      = .ok (.tuple [.none, mk (kids ++ gateNodesV xs)]) := by
  simp only [Gen.PyC2Dict.BeaconGateBlock_from_beacon_gate_option_strings, PyU.iterList, PyU.ok_bind, gate_forList h xs kids ha, pure,
    Except.pure]

theorem abs_gateNodes (G : C10.Table) : ∀ xs : List C10.Text, absKids G (gateNodesV xs) = some (C11.gateForest G xs)
  | [] => absKids_nil G
  | x :: xs => by
    have ih := abs_gateNodes G xs
    have h1 := abs_enableNode G (C11.lowerAscii x)
    have : gateNodesV (x :: xs) = [enableNodeV (.str (C11.lowerAscii x))] ++ gateNodesV xs := rfl
    rw [this, absKids_append, h1, ih]
    rfl



theorem forest_append_nil : ∀ f : C10.Forest, C11.Forest.append f .nil = f
  | .nil => rfl
  | .leaf t s r => by simp only [C11.Forest.append, forest_append_nil r]
  | .node l k r => by simp only [C11.Forest.append, forest_append_nil r]

theorem forest_append_assoc : ∀ a b c : C10.Forest,
    C11.Forest.append (C11.Forest.append a b) c = C11.Forest.append a (C11.Forest.append b c)
  | .nil, _, _ => rfl
  | .leaf t s r, b, c => by simp only [C11.Forest.append, forest_append_assoc r b c]
  | .node l k r, b, c => by simp only [C11.Forest.append, forest_append_assoc r b c]

mutual
/-- every name handed to `from_beacon_gate_option_strings` is ASCII (`str.lower()` is modelled for ASCII only) -/
def gateOKC : C11.Calls → Bool
  | .done => true
  | .kwVal _ _ r => gateOKC r
  | .kwPairs _ _ r => gateOKC r
  | .kwBlock _ b r => gateOKB b && gateOKC r
  | .setOption _ _ r => gateOKC r
  | .pair _ _ r => gateOKC r
  | .enable _ r => gateOKC r
  | .headerC _ r => gateOKC r
  | .parameterC _ r => gateOKC r
  | .setConfigBlock _ b r => gateOKB b && gateOKC r
  | .setNonEmptyConfigBlock _ b r => gateOKB b && gateOKC r
def gateOKB : C11.BlockV → Bool
  | .cls _ calls => gateOKC calls
  | .dt _ => true
  | .exec _ => true
  | .gate xs => xs.all fun x => x.all (· < 128)
end

/-- the translated calls on `mk kids` against the model's forest of appended children -/
def CallsRel (G : C10.Table) (mk : List V → V) (f : C10.Forest) (rv : Py V) (rm : Py C10.Forest) : Prop :=
  match rm with
  | .error e => rv = .error e
  | .ok g => ∃ kids', rv = .ok (mk kids') ∧ absKids G kids' = some (C11.Forest.append f g)

/-- a block object built by the translated methods against the model's children of that block -/
def BlockRel (G : C10.Table) (rv : Py V) (rm : Py C10.Forest) : Prop :=
  match rm with
  | .error e => rv = .error e
  | .ok g => ∃ blk bl bkids, rv = .ok blk ∧ PyU.getAttr blk "tree" = .ok (treeV bl bkids) ∧ absKids G bkids = some g

/-- one call on `mk kids` against the nodes the model appends for it -/
def OneRel (G : C10.Table) (mk : List V → V) (kids : List V) (one_v : Py V) (one_m : Py C10.Forest) : Prop :=
  match one_m with
  | .error e => one_v = .error e
  | .ok g1 => ∃ ns, one_v = .ok (mk (kids ++ ns)) ∧ absKids G ns = some g1

theorem seq_rel {G : C10.Table} {mk : List V → V} {f : C10.Forest} {kids : List V} (hk : absKids G kids = some f)
    {one_v : Py V} {one_m : Py C10.Forest} {rest_v : V → Py V} {rest_m : Py C10.Forest}
    (h1 : OneRel G mk kids one_v one_m)
    (h2 : ∀ kids' f', absKids G kids' = some f' → CallsRel G mk f' (rest_v (mk kids')) rest_m) :
    CallsRel G mk f (one_v >>= rest_v) (C11.seqF one_m rest_m) := by
  cases one_m with
  | error e =>
    simp only [OneRel] at h1
    simp only [h1, C11.seqF, CallsRel, PyRt.error_bind]
  | ok g1 =>
    obtain ⟨ns, hv, hn⟩ := h1
    have hk' : absKids G (kids ++ ns) = some (C11.Forest.append f g1) := by rw [absKids_append, hk, hn]
    have := h2 (kids ++ ns) _ hk'
    simp only [hv, PyU.ok_bind, C11.seqF]
    cases rest_m with
    | error e => simpa [CallsRel] using this
    | ok g2 =>
      simp only [CallsRel] at this ⊢
      obtain ⟨kids', h3, h4⟩ := this
      exact ⟨kids', h3, by rw [h4, forest_append_assoc]⟩


/-! #### a `str` / `bytes` VALUE where pairs are expected -/
theorem unpack2_char (c : Nat) : PyU.unpack2 (.str [c]) = .error .valueError := rfl
theorem unpack2_int (n : Int) : PyU.unpack2 (.int n) = .error .typeError := rfl

/-- the loop body fails at `a, b = …` on the first character (ValueError) or byte (TypeError), before `value_to_string` -/
theorem gen_pair_on_val (f : V → Py V) (self name : V) (v : C11.PyVal) :
    Gen.PyC2Dict.ConfigBlock__pair f self name (encPyVal v) = (C11.pairsFromVal v).map fun _ => .tuple [.none, self] := by
  cases v with
  | str s => cases s <;> rfl
  | bytes b => cases b <;> rfl

theorem gen_header_on_val (f : V → Py V) (self name : V) (v : C11.PyVal) :
    Gen.PyC2Dict.ConfigBlock__header f self name (encPyVal v) = (C11.pairsFromVal v).map fun _ => .tuple [.none, self] :=
  (header_eq_pair f self name _).trans (gen_pair_on_val f self _ v)

theorem gen_parameter_on_val (f : V → Py V) (self name : V) (v : C11.PyVal) :
    Gen.PyC2Dict.ConfigBlock__parameter f self name (encPyVal v) = (C11.pairsFromVal v).map fun _ => .tuple [.none, self] :=
  (parameter_eq_pair f self name _).trans (gen_pair_on_val f self _ v)

section one
variable (G : C10.Table) {lbl : V} {mk : List V → V} (h : Holder lbl mk) (kids : List V)
include h

theorem one_setOption (name : C10.Text) (v : C11.PyVal) :
    OneRel G mk kids (selfAfter (Gen.PyC2Dict.ConfigBlock_set_option v2sG (mk kids) (.str name) (encPyVal v))) (.ok (C11.optNode G name v)) :=
  ⟨_, by rw [gen_set_option_proof h v2sG v2sG_spec kids _ v]; rfl, abs_optNode G name v⟩

theorem one_globalOption (name : C10.Text) (v : C11.PyVal) :
    OneRel G mk kids (selfAfter (Gen.PyC2Dict.C2Profile_set_option v2sG (mk kids) (.str name) (encPyVal v)))
      (.ok (C11.globalOptNode G name v)) :=
  ⟨_, by rw [gen_profile_set_option_proof h v2sG v2sG_spec kids _ v]; rfl, abs_globalOptNode G name v⟩

theorem one_setOptionG (c : ProfileApi.Cls) (name : C10.Text) (v : C11.PyVal) :
    OneRel G mk kids (setOptionG c (mk kids) name v) (.ok (C11.setOptionNode G c name v)) := by
  unfold setOptionG C11.setOptionNode
  cases c.attrs.lookup C11.nmSetOption with
  | none => exact one_setOption G h kids name v
  | some k =>
    cases k with
    | globalOption => exact one_globalOption G h kids name v
    | _ => exact one_setOption G h kids name v

theorem one_enable (name : C10.Text) (value : V) :
    OneRel G mk kids (selfAfter (Gen.PyC2Dict.ConfigBlock__enable (mk kids) (.str name) value)) (.ok (C11.enableNode G name)) :=
  ⟨_, by rw [gen_enable_proof h kids _ _]; rfl, abs_enableNode G name⟩

theorem one_pair (name : C10.Text) (ps : List (C11.PyVal × C11.PyVal)) :
    OneRel G mk kids (selfAfter (Gen.PyC2Dict.ConfigBlock__pair v2sG (mk kids) (.str name) (encPairs ps))) (.ok (C11.pairNodes G name ps)) :=
  ⟨_, by rw [gen_pair_proof h v2sG v2sG_spec kids _ ps]; rfl, abs_pairNodes G name ps⟩

theorem one_header (name : V) (ps : List (C11.PyVal × C11.PyVal)) :
    OneRel G mk kids (selfAfter (Gen.PyC2Dict.ConfigBlock__header v2sG (mk kids) name (encPairs ps)))
      (.ok (C11.pairNodes G C11.nmHeader ps)) :=
  ⟨pairNodesV (PyU.lit "header") ps, by rw [gen_header_proof h v2sG v2sG_spec kids _ ps]; rfl, by rw [lit_header]; exact abs_pairNodes G _ ps⟩

theorem one_parameter (name : V) (ps : List (C11.PyVal × C11.PyVal)) :
    OneRel G mk kids (selfAfter (Gen.PyC2Dict.ConfigBlock__parameter v2sG (mk kids) name (encPairs ps)))
      (.ok (C11.pairNodes G C11.nmParameter ps)) :=
  ⟨pairNodesV (PyU.lit "parameter") ps, by rw [gen_parameter_proof h v2sG v2sG_spec kids _ ps]; rfl,
    by rw [lit_parameter]; exact abs_pairNodes G _ ps⟩

omit h in
theorem one_val (r : Py V) (v : C11.PyVal) (hr : r = (C11.pairsFromVal v).map fun _ => .tuple [.none, mk kids]) :
    OneRel G mk kids (selfAfter r) (match C11.pairsFromVal v with
      | .ok _ => .ok .nil
      | .error e => .error e) := by
  rw [hr]
  cases C11.pairsFromVal v with
  | error e => rfl
  | ok u => exact ⟨[], by simp [Except.map, selfAfter], absKids_nil G⟩

theorem one_setConfigBlock (name : C10.Text) (blk bl : V) (bkids : List V) (g : C10.Forest)
    (hb : PyU.getAttr blk "tree" = .ok (treeV bl bkids)) (hg : absKids G bkids = some g) :
    OneRel G mk kids (selfAfter (Gen.PyC2Dict.ConfigBlock_set_config_block (mk kids) (.str name) blk))
      (.ok (.node (C11.nameId G name) g .nil)) :=
  ⟨_, by rw [gen_set_config_block_proof h kids _ blk bl bkids hb]; rfl, by rw [abs_blockNode, hg]; rfl⟩

end one

theorem absKids_ne_nil (G : C10.Table) (x : V) (xs : List V) (g : C10.Forest) (h : absKids G (x :: xs) = some g) : g ≠ .nil := by
  rw [absKids_cons] at h
  cases hx : absChild G x with
  | none => simp [hx] at h
  | some fx =>
    cases hr : absKids G xs with
    | none => simp [hx, hr] at h
    | some r =>
      simp only [hx, hr, Option.some.injEq] at h
      subst h
      cases x with
      | inst c vals =>
        simp only [absChild] at hx
        split at hx
        · split at hx
          · cases hx; simp
          · cases hx
        · split at hx
          · split at hx
            · cases hx; simp
            · cases hx
          · cases hx
      | _ => simp [absChild] at hx

theorem BlockRel.cases {G : C10.Table} {rv : Py V} {rm : Py C10.Forest} (hb : BlockRel G rv rm) :
    (∃ e, rm = .error e ∧ rv = .error e) ∨
      ∃ g blk bl bkids, rm = .ok g ∧ rv = .ok blk ∧ PyU.getAttr blk "tree" = .ok (treeV bl bkids) ∧ absKids G bkids = some g := by
  cases rm with
  | error e => exact .inl ⟨e, rfl, hb⟩
  | ok g =>
    obtain ⟨blk, bl, bkids, hv, ht, ha⟩ := hb
    exact .inr ⟨g, blk, bl, bkids, rfl, hv, ht, ha⟩

mutual
theorem buildCallsG_rel (api : List ProfileApi.Cls) (G : C10.Table) (c : ProfileApi.Cls) (lbl : V) (mk : List V → V) (h : Holder lbl mk) :
    ∀ (calls : C11.Calls), gateOKC calls = true → ∀ (kids : List V) (f : C10.Forest), absKids G kids = some f →
    CallsRel G mk f (buildCallsG api c (mk kids) calls) (C11.buildCalls api G c calls)
  | .done, _, kids, f, hk => by
    simp only [buildCallsG, C11.buildCalls, CallsRel]
    exact ⟨kids, rfl, by rw [hk, forest_append_nil]⟩
  | .kwVal name v rest, hg, kids, f, hk => by
    simp only [buildCallsG, C11.buildCalls]
    refine seq_rel hk ?_ (buildCallsG_rel api G c lbl mk h rest hg)
    cases hl : c.attrs.lookup name with
    | none => exact one_setOptionG G h kids c name v
    | some k =>
      cases k with
      | setOption => exact one_setOption G h kids name v
      | globalOption => exact one_globalOption G h kids name v
      | enable => exact one_enable G h kids name _
      | pair => exact one_val G kids _ v (gen_pair_on_val _ _ _ v)
      | header => exact one_val G kids _ v (gen_header_on_val _ _ _ v)
      | parameter => exact one_val G kids _ v (gen_parameter_on_val _ _ _ v)
      | other => exact rfl
  | .kwPairs name ps rest, hg, kids, f, hk => by
    simp only [buildCallsG, C11.buildCalls]
    refine seq_rel hk ?_ (buildCallsG_rel api G c lbl mk h rest hg)
    cases hl : c.attrs.lookup name with
    | none => exact rfl
    | some k =>
      cases k with
      | pair => exact one_pair G h kids name ps
      | header => exact one_header G h kids _ ps
      | parameter => exact one_parameter G h kids _ ps
      | enable => exact one_enable G h kids name _
      | setOption => exact rfl
      | globalOption => exact rfl
      | other => exact rfl
  | .kwBlock name b rest, hg, kids, f, hk => by
    simp only [gateOKC, Bool.and_eq_true] at hg
    simp only [buildCallsG, C11.buildCalls]
    rcases (buildBlockG_rel api G b hg.1).cases with ⟨e, hm, hv⟩ | ⟨g, blk, bl, bkids, hm, hv, ht, ha⟩
    · simp only [hm, hv, PyRt.error_bind, CallsRel]
    · simp only [hm, hv, PyU.ok_bind]
      cases hl : c.attrs.lookup name with
      | none =>
        exact seq_rel hk (one_setConfigBlock G h kids name blk bl bkids g ht ha) (buildCallsG_rel api G c lbl mk h rest hg.2)
      | some k =>
        cases k with
        | enable => exact seq_rel hk (one_enable G h kids name _) (buildCallsG_rel api G c lbl mk h rest hg.2)
        | _ => simp only [PyRt.error_bind, CallsRel]
  | .setOption name v rest, hg, kids, f, hk => by
    simp only [buildCallsG, C11.buildCalls]
    exact seq_rel hk (one_setOptionG G h kids c name v) (buildCallsG_rel api G c lbl mk h rest hg)
  | .pair name ps rest, hg, kids, f, hk => by
    simp only [buildCallsG, C11.buildCalls]
    exact seq_rel hk (one_pair G h kids name ps) (buildCallsG_rel api G c lbl mk h rest hg)
  | .enable name rest, hg, kids, f, hk => by
    simp only [buildCallsG, C11.buildCalls]
    exact seq_rel hk (one_enable G h kids name _) (buildCallsG_rel api G c lbl mk h rest hg)
  | .headerC ps rest, hg, kids, f, hk => by
    simp only [buildCallsG, C11.buildCalls]
    exact seq_rel hk (one_header G h kids _ ps) (buildCallsG_rel api G c lbl mk h rest hg)
  | .parameterC ps rest, hg, kids, f, hk => by
    simp only [buildCallsG, C11.buildCalls]
    exact seq_rel hk (one_parameter G h kids _ ps) (buildCallsG_rel api G c lbl mk h rest hg)
  | .setConfigBlock name b rest, hg, kids, f, hk => by
    simp only [gateOKC, Bool.and_eq_true] at hg
    simp only [buildCallsG, C11.buildCalls]
    rcases (buildBlockG_rel api G b hg.1).cases with ⟨e, hm, hv⟩ | ⟨g, blk, bl, bkids, hm, hv, ht, ha⟩
    · simp only [hm, hv, PyRt.error_bind, CallsRel]
    · simp only [hm, hv, PyU.ok_bind]
      exact seq_rel hk (one_setConfigBlock G h kids name blk bl bkids g ht ha) (buildCallsG_rel api G c lbl mk h rest hg.2)
  | .setNonEmptyConfigBlock name b rest, hg, kids, f, hk => by
    simp only [gateOKC, Bool.and_eq_true] at hg
    have ih := buildCallsG_rel api G c lbl mk h rest hg.2
    simp only [buildCallsG, C11.buildCalls]
    rcases (buildBlockG_rel api G b hg.1).cases with ⟨e, hm, hv⟩ | ⟨g, blk, bl, bkids, hm, hv, ht, ha⟩
    · simp only [hm, hv, PyRt.error_bind, CallsRel]
    · simp only [hm, hv, PyU.ok_bind, gen_set_non_empty_config_block_proof h kids _ blk bl bkids ht]
      cases bkids with
      | nil =>
        have hgn : g = .nil := by
          rw [absKids_nil] at ha
          exact (Option.some.inj ha).symm
        subst hgn
        simp only [List.isEmpty_nil, ↓reduceIte, selfAfter, PyU.ok_bind]
        exact ih kids f hk
      | cons x xs =>
        have hne := absKids_ne_nil G x xs g ha
        have hone : OneRel G mk kids (.ok (mk (kids ++ [treeV (.str name) (x :: xs)]))) (.ok (.node (C11.nameId G name) g .nil)) :=
          ⟨_, rfl, by rw [abs_blockNode, ha]; rfl⟩
        have := seq_rel (rest_v := fun s => buildCallsG api c s rest) hk hone ih
        simp only [List.isEmpty_cons, Bool.false_eq_true, ↓reduceIte, selfAfter, PyU.ok_bind] at this ⊢
        cases g with
        | nil => exact absurd rfl hne
        | leaf t s r => exact this
        | node l k r => exact this
theorem buildBlockG_rel (api : List ProfileApi.Cls) (G : C10.Table) :
    ∀ (b : C11.BlockV), gateOKB b = true → BlockRel G (buildBlockG api b) (C11.buildBlock api G b)
  | .cls c calls, hg => by
    simp only [gateOKB] at hg
    simp only [buildBlockG, C11.buildBlock]
    cases hc : api[c]? with
    | none => exact rfl
    | some cl =>
      have := buildCallsG_rel api G cl (.str cl.treeName) (blockV (.str cl.treeName)) (holder_block _) calls hg [] .nil (absKids_nil G)
      simp only
      cases hm : C11.buildCalls api G cl calls with
      | error e =>
        rw [hm] at this
        exact this
      | ok g =>
        rw [hm] at this
        obtain ⟨kids', h1, h2⟩ := this
        exact ⟨_, _, kids', h1, rfl, h2⟩
  | .dt steps, _ => by
    simp only [buildBlockG, C11.buildBlock, dtBlockG_eq]
    exact ⟨_, _, _, rfl, rfl, abs_dtForest G steps⟩
  | .exec xs, _ => by
    simp only [buildBlockG, C11.buildBlock, gen_from_execute_list_proof (holder_block _) v2sG v2sG_spec [] xs]
    have := abs_execNodes G xs
    cases hv : execNodesV xs with
    | error e =>
      rw [hv] at this
      simp only [AbsRes] at this
      rw [this]
      rfl
    | ok ns =>
      rw [hv] at this
      obtain ⟨g, h1, h2⟩ := this
      rw [h1]
      exact ⟨_, _, ns, rfl, rfl, h2⟩
  | .gate xs, hg => by
    simp only [gateOKB] at hg
    have hg' : ∀ x ∈ xs, x.all (· < 128) = true := List.all_eq_true.mp hg
    simp only [buildBlockG, C11.buildBlock, gen_from_beacon_gate_proof (holder_block _) [] xs hg']
    exact ⟨blockV (PyU.lit "BeaconGateBlock") ([] ++ gateNodesV xs), _, _, rfl, rfl, by simpa using abs_gateNodes G xs⟩
end

theorem absTreeOf_profile (G : C10.Table) (nm : C10.Text) (kids : List V) (c h : V) :
    absTreeOf G (profileV (treeV (.str nm) kids) c h) = (absKids G kids).map fun ks => ⟨C11.nameId G nm, ks⟩ := by
  simp [absTreeOf, profileV, treeV, PyU.getAttr, Gen.PyC2Dict.C2ProfileCls, PyU.lookupField, Gen.PyC2Dict.TreeCls]

end C11Gen

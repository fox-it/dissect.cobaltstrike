import CsVerif.Model.C06
/-! Helper lemmas for C06: the writer, the reader (`parseMetadata_eq`) and `decrypt_metadata` (`decryptMetadata_eq`) as equations. -/
namespace C06
open Gen.C2Struct

/-! ### facts about the generated layout (re-checked against the generated table on every build) -/

theorem W_magic : W "magic" = 4 := by decide +kernel
theorem W_size : W "size" = 4 := by decide +kernel
theorem W_aes_rand : W "aes_rand" = 16 := by decide +kernel
theorem W_ansi_cp : W "ansi_cp" = 2 := by decide +kernel
theorem W_oem_cp : W "oem_cp" = 2 := by decide +kernel
theorem W_bid : W "bid" = 4 := by decide +kernel
theorem W_pid : W "pid" = 4 := by decide +kernel
theorem W_port : W "port" = 2 := by decide +kernel
theorem W_flag : W "flag" = 1 := by decide +kernel
theorem W_ver_major : W "ver_major" = 1 := by decide +kernel
theorem W_ver_minor : W "ver_minor" = 1 := by decide +kernel
theorem W_ver_build : W "ver_build" = 2 := by decide +kernel
theorem W_ptr_x64 : W "ptr_x64" = 4 := by decide +kernel
theorem W_ptr_gmh : W "ptr_gmh" = 4 := by decide +kernel
theorem W_ptr_gpa : W "ptr_gpa" = 4 := by decide +kernel
theorem W_ip : W "ip" = 4 := by decide +kernel
theorem headerLen_eq : headerLen = 59 := by decide
theorem infoLenSub_eq : infoLenSub = 51 := by decide

theorem beBytes_length (w v : Nat) : (beBytes w v).length = w := by
  induction w generalizing v with
  | zero => rfl
  | succ w ih => simp [beBytes, ih]

theorem beNat_append_singleton (xs : Bytes) (b : UInt8) :
    beNat (xs ++ [b]) = beNat xs * 256 + b.toNat := by
  simp [beNat, List.foldl_append]

theorem beNat_beBytes (w v : Nat) (h : v < 256 ^ w) : beNat (beBytes w v) = v := by
  induction w generalizing v with
  | zero => simp at h; subst h; rfl
  | succ w ih =>
    simp only [beBytes, beNat_append_singleton]
    rw [ih (v / 256) (by rw [Nat.pow_succ] at h; omega)]
    rw [UInt8.toNat_ofNat']
    omega

theorem take_beBytes_append (w v : Nat) (r : Bytes) : (beBytes w v ++ r).take w = beBytes w v :=
  List.take_left' (beBytes_length w v)

theorem drop_beBytes_append (w v : Nat) (r : Bytes) : (beBytes w v ++ r).drop w = r :=
  List.drop_left' (beBytes_length w v)

theorem padTo_of_le {n : Nat} {a : Bytes} (h : n ≤ a.length) : padTo n a = a := by
  simp [padTo, Nat.sub_eq_zero_of_le h]

theorem le_length_padTo (n : Nat) (a : Bytes) : n ≤ (padTo n a).length := by
  simp only [padTo, List.length_append, List.length_replicate]; omega

theorem padTo_append (n : Nat) (a b : Bytes) : padTo n (a ++ b) = a ++ padTo (n - a.length) b := by
  simp [padTo, Nat.sub_sub]

/-- 43 = `headerLen` less the 16 bytes of `aes_rand`: the fifteen integer fields -/
theorem rawDumps_length (m : Metadata) :
    (rawDumps m).length = 43 + max 16 m.aes_rand.length + m.info.length := by
  simp only [rawDumps, List.length_append, beBytes_length, padTo, List.length_replicate,
    W_magic, W_size, W_aes_rand, W_ansi_cp, W_oem_cp, W_bid, W_pid, W_port, W_flag, W_ver_major,
    W_ver_minor, W_ver_build, W_ptr_x64, W_ptr_gmh, W_ptr_gpa, W_ip]
  omega

theorem rawDumps_length16 (m : Metadata) (haes : m.aes_rand.length = 16) :
    (rawDumps m).length = 59 + m.info.length := by
  rw [rawDumps_length, haes]; omega

theorem inWidth_setSize (m : Metadata) (s : Nat) (hw : InWidth m) (hs : s < 2 ^ 32) :
    InWidth { m with size := s } := by
  obtain ⟨h1, _, h3⟩ := hw
  exact ⟨h1, by rw [W_size]; exact hs, h3⟩

theorem dumps_ok (m : Metadata) (hw : InWidth m) : dumpsMetadata m = .ok (rawDumps m) :=
  if_pos hw

theorem dumps_ok_inv {m : Metadata} {d : Bytes} (h : dumpsMetadata m = .ok d) : InWidth m ∧ d = rawDumps m := by
  unfold dumpsMetadata at h
  split at h
  · rename_i hw
    injection h with h
    exact ⟨hw, h.symm⟩
  · cases h

theorem sized_ok (m : Metadata) (hw : InWidth m) (haes : m.aes_rand.length = 16) :
    sized m = .ok { m with size := 51 + m.info.length } := by
  have : (rawDumps m).length - 8 = 51 + m.info.length := by rw [rawDumps_length16 m haes]; omega
  simp only [sized, dumps_ok m hw, this]

theorem encrypt_eq (c : Crypto) (m : Metadata) (r : Rand) (hw : InWidth m) (haes : m.aes_rand.length = 16)
    (hsz : 51 + m.info.length < 2 ^ 32) :
    encryptMetadata c m r = liftPy (c.rsaEnc (rawDumps { m with size := 51 + m.info.length }) r) := by
  simp only [encryptMetadata, sized_ok m hw haes, dumps_ok _ (inWidth_setSize m _ hw hsz)]

theorem parse_rawDumps_append (m : Metadata) (t : Bytes) (hw : InWidth m)
    (haes : m.aes_rand.length = 16) (hsize : m.size = 51 + m.info.length) :
    parseMetadata (rawDumps m ++ t) = .ok m := by
  -- the lengths back as table look-ups, which is how the reader's `take`/`drop` spell them
  rw [← W_aes_rand] at haes
  rw [← infoLenSub_eq] at hsize
  have hlen : ¬ (rawDumps m ++ t).length < headerLen := by
    rw [List.length_append, rawDumps_length, headerLen_eq]; omega
  obtain ⟨h1, h2, h3, h4, h5, h6, h7, h8, h9, h10, h11, h12, h13, h14, h15⟩ := hw
  unfold parseMetadata
  rw [if_neg hlen]
  simp only [rawDumps, padTo_of_le (Nat.le_of_eq haes.symm), List.append_assoc, take_beBytes_append, drop_beBytes_append]
  rw [← haes]
  simp only [List.take_left, List.drop_left, take_beBytes_append, drop_beBytes_append]
  simp only [beNat_beBytes, h1, h2, h3, h4, h5, h6, h7, h8, h9, h10, h11, h12, h13, h14, h15]
  rw [hsize]
  simp only [Nat.add_sub_cancel_left, List.length_append, List.take_left']
  rw [if_neg (by omega)]
  cases m
  simp only at hsize
  subst hsize
  simp

theorem parse_rawDumps (m : Metadata) (hw : InWidth m) (haes : m.aes_rand.length = 16)
    (hsize : m.size = 51 + m.info.length) : parseMetadata (rawDumps m) = .ok m := by
  have := parse_rawDumps_append m [] hw haes hsize
  rwa [List.append_nil] at this

/-- the `size` field as the reader sees it: bytes 4..7, big-endian -/
def sizeField (b : Bytes) : Nat := beNat ((b.drop 4).take 4)

/-- the `magic` field as the reader sees it: bytes 0..3, big-endian -/
def magicField (b : Bytes) : Nat := beNat (b.take 4)

theorem parseMetadata_eq (b : Bytes) :
    parseMetadata b =
      if b.length < 59 then .error .eofError
      else if b.length - 59 < sizeField b - 51 then .error .eofError
      else .ok {
        magic := magicField b, size := sizeField b, aes_rand := (b.drop 8).take 16,
        ansi_cp := beNat ((b.drop 24).take 2), oem_cp := beNat ((b.drop 26).take 2),
        bid := beNat ((b.drop 28).take 4), pid := beNat ((b.drop 32).take 4),
        port := beNat ((b.drop 36).take 2), flag := beNat ((b.drop 38).take 1),
        ver_major := beNat ((b.drop 39).take 1), ver_minor := beNat ((b.drop 40).take 1),
        ver_build := beNat ((b.drop 41).take 2), ptr_x64 := beNat ((b.drop 43).take 4),
        ptr_gmh := beNat ((b.drop 47).take 4), ptr_gpa := beNat ((b.drop 51).take 4),
        ip := beNat ((b.drop 55).take 4), info := (b.drop 59).take (sizeField b - 51) } := by
  unfold parseMetadata sizeField magicField
  simp only [W_magic, W_size, W_aes_rand, W_ansi_cp, W_oem_cp, W_bid, W_pid, W_port, W_flag,
    W_ver_major, W_ver_minor, W_ver_build, W_ptr_x64, W_ptr_gmh, W_ptr_gpa, W_ip, headerLen_eq, infoLenSub_eq,
    List.drop_drop, List.length_drop, Nat.reduceAdd]

theorem parse_short (b : Bytes) (h : b.length < 59) : parseMetadata b = .error .eofError := by
  rw [parseMetadata_eq, if_pos h]

theorem parse_truncated (b : Bytes) (h : b.length - 59 < sizeField b - 51) :
    parseMetadata b = .error .eofError := by
  rw [parseMetadata_eq, if_pos h, ite_self]

theorem parse_error_eof (b : Bytes) (e : PyExc) (h : parseMetadata b = .error e) : e = .eofError := by
  rw [parseMetadata_eq] at h
  split at h
  · injection h with h; exact h.symm
  · split at h
    · injection h with h; exact h.symm
    · cases h

theorem parse_ok_facts (b : Bytes) (m : Metadata) (h : parseMetadata b = .ok m) :
    59 ≤ b.length ∧ m.magic = magicField b ∧ m.size = sizeField b ∧
    m.aes_rand = (b.drop 8).take 16 ∧
    sizeField b - 51 ≤ b.length - 59 ∧ m.info = (b.drop 59).take (sizeField b - 51) := by
  rw [parseMetadata_eq] at h
  split at h
  · cases h
  · split at h
    · cases h
    · injection h with h
      subst h
      exact ⟨by omega, rfl, rfl, rfl, by omega, rfl⟩

/-- the two detours of the code fold away: the reader rejects the empty plaintext too, and raises nothing but EOFError -/
theorem decryptMetadata_eq (c : Crypto) (blob : Bytes) :
    decryptMetadata c blob =
      match c.rsaDec blob with
      | .error e => .error e
      | .ok none => .error .valueError
      | .ok (some pt) =>
        match parseMetadata pt with
        | .error _ => .error .valueError
        | .ok m => if m.magic = magicBeef then .ok m else .error .valueError := by
  unfold decryptMetadata
  rcases c.rsaDec blob with e | _ | pt
  · rfl
  · rfl
  · by_cases hp : pt = []
    · simp only [hp, if_true, parse_short [] (by decide)]
    · simp only [if_neg hp]
      cases hpm : parseMetadata pt with
      | error e => rw [parse_error_eof pt e hpm]
      | ok m => exact ite_not ..

theorem takeWhile_replicate_append (n : Nat) (m : Bytes) :
    (List.replicate n (0xFF : UInt8) ++ 0 :: m).takeWhile (· != 0) = List.replicate n 0xFF := by
  induction n with
  | zero => simp
  | succ n ih =>
    rw [List.replicate_succ, List.cons_append, List.takeWhile_cons]
    have : ((0xFF : UInt8) != 0) = true := by decide
    rw [if_pos this, ih]

theorem toyUnpad_toyPad (k : Nat) (m : Bytes) (h : m.length + 11 ≤ k) : toyUnpad (toyPad k m) = some m := by
  simp only [toyPad, toyUnpad, takeWhile_replicate_append, List.length_replicate]
  rw [if_neg (by omega)]
  rw [List.drop_left' List.length_replicate]

theorem toyPad_length (k : Nat) (m : Bytes) (h : m.length + 11 ≤ k) : (toyPad k m).length = k := by
  simp [toyPad]; omega

theorem toy_enc_ok {k : Nat} {m : Bytes} {r : Rand} {ct : Bytes} (h : (toyCrypto k).rsaEnc m r = .ok ct) :
    m.length + 11 ≤ k ∧ ct = toyPad k m := by
  simp only [toyCrypto] at h
  split at h
  · rename_i hk
    injection h with h
    exact ⟨hk, h.symm⟩
  · cases h

end C06

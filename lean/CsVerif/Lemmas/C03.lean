import CsVerif.Model.C03
import CsVerif.Model.PyFile
/-!
C03 — specification side (reference encoders, well-formedness predicates, reference tables written by hand)
and helper lemmas.  The property theorems are in `Props/C03.lean`.
-/
namespace C03
open Gen.Beacon

/-- bytes of an ASCII string literal (used in examples) -/
def asc (s : String) : Bytes := s.toList.map (fun c => UInt8.ofNat c.toNat)

def be16 (n : Nat) : Bytes := [UInt8.ofNat (n / 256), UInt8.ofNat n]
def be32 (n : Nat) : Bytes :=
  [UInt8.ofNat (n / 16777216), UInt8.ofNat (n / 65536), UInt8.ofNat (n / 256), UInt8.ofNat n]
def le32 (n : Nat) : Bytes :=
  [UInt8.ofNat n, UInt8.ofNat (n / 256), UInt8.ofNat (n / 65536), UInt8.ofNat (n / 16777216)]

@[simp] theorem be32_length (n : Nat) : (be32 n).length = 4 := rfl
@[simp] theorem take4_be32 (n : Nat) (t : Bytes) : (be32 n ++ t).take 4 = be32 n := rfl
@[simp] theorem drop4_be32 (n : Nat) (t : Bytes) : (be32 n ++ t).drop 4 = t := rfl

/- the digits `n / 256^k % 256` are folded back with `n / k * k + n % k = n`, one at a time -/
theorem u32be_be32 (n : Nat) (h : n < 4294967296) : u32be (be32 n) = n := by
  simp only [u32be, be32, List.take, beNat, UInt8.toNat_ofNat', Nat.zero_mul, Nat.zero_add]
  rw [Nat.mod_eq_of_lt (a := n / 16777216) (by omega), show 16777216 = 65536 * 256 from rfl, ← Nat.div_div_eq_div_mul,
    Nat.div_add_mod', show 65536 = 256 * 256 from rfl, ← Nat.div_div_eq_div_mul, Nat.div_add_mod', Nat.div_add_mod']

@[simp] theorem take2_be16 (n : Nat) (t : Bytes) : (be16 n ++ t).take 2 = be16 n := rfl
@[simp] theorem drop2_be16 (n : Nat) (t : Bytes) : (be16 n ++ t).drop 2 = t := rfl
theorem u16be_be16 (n : Nat) (h : n < 65536) : u16be (be16 n) = n := by
  simp only [u16be, be16, List.take, beNat, UInt8.toNat_ofNat', Nat.zero_mul, Nat.zero_add]
  rw [Nat.mod_eq_of_lt (a := n / 256) (by omega), Nat.div_add_mod']

/-! ### Cobalt Strike's numbering, written once by hand -/

def refTransformStep : List (Nat × String) := [
  (1, "APPEND"), (2, "PREPEND"), (3, "BASE64"), (4, "PRINT"), (5, "PARAMETER"), (6, "HEADER"),
  (7, "BUILD"), (8, "NETBIOS"), (9, "_PARAMETER"), (10, "_HEADER"), (11, "NETBIOSU"), (12, "URI_APPEND"),
  (13, "BASE64URL"), (14, "STRREP"), (15, "MASK"), (16, "_HOSTHEADER")]

theorem transformStep_eq_ref : transformStep = refTransformStep := by decide +kernel

def refEnable : List Nat := [3, 13, 8, 11, 12, 4, 15]
def refArg : List Nat := [10, 6, 5, 9, 16, 1, 2]

theorem tsv_build : tsv "BUILD" = some 7 := by decide +kernel
theorem enableVals_eq : enableVals = refEnable.map some := by decide +kernel
theorem argVals_eq : argVals = refArg.map some := by decide +kernel

theorem contains_map_some (l : List Nat) (v : Nat) : (l.map some).contains (some v) = l.contains v := by
  induction l with
  | nil => rfl
  | cons a l ih => simp only [List.map_cons, List.contains_cons, ih, Option.some_beq_some]

theorem refOpcode_bounds : ∀ v ∈ refEnable ++ refArg, v ≠ 0 ∧ v < 4294967296 ∧ v ≠ 7 := by decide +kernel
theorem refArg_not_enable : ∀ v ∈ refArg, v ∉ refEnable := by decide +kernel

inductive TStep
  | build (btype : Nat)
  | enable (v : Nat)
  | arg (v : Nat) (a : Bytes)
  | skip (v : Nat)
  deriving DecidableEq, Repr

def TStep.WF : TStep → Prop
  | .build b => b < 4294967296
  | .enable v => v ∈ refEnable
  | .arg v a => v ∈ refArg ∧ a.length < 4294967296
  | .skip v => 0 < v ∧ v < 4294967296 ∧ v ≠ 7 ∧ v ∉ refEnable ∧ v ∉ refArg

def encStep : TStep → Bytes
  | .build b => be32 7 ++ be32 b
  | .enable v => be32 v
  | .arg v a => be32 v ++ be32 a.length ++ a
  | .skip v => be32 v

def encTransform (p : List TStep) : Bytes := p.flatMap encStep

def TStep.view (build : String) : TStep → Option TOut
  | .build b => some (some "BUILD", .str (buildMap build b))
  | .enable v => some (enumName refTransformStep v, .flag)
  | .arg v a => some (enumName refTransformStep v, .bytes a)
  | .skip _ => none

theorem parseTransform_unfold (build : String) (v : Nat) (hv : v < 4294967296) (hv0 : v ≠ 0) (t : Bytes) :
    parseTransform build (be32 v ++ t) =
      if v = 7 then
        (enumName refTransformStep v, TVal.str (buildMap build (u32be (t.take 4)))) :: parseTransform build (t.drop 4)
      else if v ∈ refEnable then (enumName refTransformStep v, TVal.flag) :: parseTransform build t
      else if v ∈ refArg then
        (enumName refTransformStep v, TVal.bytes ((t.drop 4).take (u32be (t.take 4)))) ::
          parseTransform build ((t.drop 4).drop (u32be (t.take 4)))
      else parseTransform build t := by
  rw [parseTransform]
  simp only [take4_be32, drop4_be32, be32_length, u32be_be32 v hv, tsv_build, enableVals_eq, argVals_eq,
    contains_map_some, transformStep_eq_ref, List.contains_iff_mem, Option.some_beq_some, beq_iff_eq]
  simp [hv0]

theorem parseTransform_step (build : String) (st : TStep) (h : st.WF) (t : Bytes) :
    parseTransform build (encStep st ++ t) = (st.view build).toList ++ parseTransform build t := by
  cases st with
  | build b =>
    simp only [encStep, List.append_assoc]
    rw [parseTransform_unfold build 7 (by omega) (by omega), if_pos rfl, take4_be32, drop4_be32, u32be_be32 b h]
    rfl
  | enable v =>
    simp only [TStep.WF] at h
    obtain ⟨h0, hlt, h7⟩ := refOpcode_bounds v (List.mem_append_left _ h)
    rw [encStep, parseTransform_unfold build v hlt h0, if_neg h7, if_pos h]
    rfl
  | arg v a =>
    obtain ⟨h0, hlt, h7⟩ := refOpcode_bounds v (List.mem_append_right _ h.1)
    simp only [encStep, List.append_assoc]
    rw [parseTransform_unfold build v hlt h0, if_neg h7, if_neg (refArg_not_enable v h.1), if_pos h.1,
      take4_be32, drop4_be32, u32be_be32 _ h.2, List.take_left' rfl, List.drop_left' rfl]
    rfl
  | skip v =>
    obtain ⟨h0, h1, h7, he, ha⟩ := h
    rw [encStep, parseTransform_unfold build v h1 (by omega), if_neg h7, if_neg he, if_neg ha]
    rfl

theorem decode_flatMap {σ α : Type} (parse : Bytes → List α) (enc : σ → Bytes) (view : σ → Option α) (p : List σ)
    (step : ∀ st ∈ p, ∀ t, parse (enc st ++ t) = (view st).toList ++ parse t) (t : Bytes) :
    parse (p.flatMap enc ++ t) = p.filterMap view ++ parse t := by
  induction p with
  | nil => rfl
  | cons st p ih =>
    rw [List.flatMap_cons, List.append_assoc, step st List.mem_cons_self,
      ih fun s hs => step s (List.mem_cons_of_mem _ hs)]
    cases hv : view st <;> simp [hv]

theorem parseTransform_short (build : String) (t : Bytes) (h : t.length < 4) : parseTransform build t = [] := by
  rw [parseTransform]
  have : (List.take 4 t).length ≠ 4 := by simp; omega
  dsimp only
  rw [dif_pos (Or.inl this)]

theorem parseTransform_zero (build : String) (t : Bytes) : parseTransform build (be32 0 ++ t) = [] := by
  rw [parseTransform]
  simp [u32be_be32]

def refRecLen : List Nat := [1, 2]
def refRecFlag : List Nat := [3, 4, 8, 11, 13, 15]

def recName : Nat → String
  | 1 => "append" | 2 => "prepend" | 3 => "base64" | 4 => "print" | 8 => "netbios"
  | 11 => "netbiosu" | 13 => "base64url" | 15 => "mask" | _ => "?"

inductive RStep
  | len (v : Nat) (n : Nat)
  | flag (v : Nat)
  | skip (v : Nat)
  deriving DecidableEq, Repr

def RStep.WF : RStep → Prop
  | .len v n => v ∈ refRecLen ∧ n < 4294967296
  | .flag v => v ∈ refRecFlag
  | .skip v => 0 < v ∧ v < 4294967296 ∧ v ∉ refRecLen ∧ v ∉ refRecFlag

def encRStep : RStep → Bytes
  | .len v n => be32 v ++ be32 n
  | .flag v => be32 v
  | .skip v => be32 v

def encRecover (p : List RStep) : Bytes := p.flatMap encRStep

def RStep.view : RStep → Option (String × RVal)
  | .len v n => some (recName v, .len n)
  | .flag v => some (recName v, .flag)
  | .skip _ => none

theorem tsv_vals : tsv "APPEND" = some 1 ∧ tsv "PREPEND" = some 2 ∧ tsv "BASE64" = some 3 ∧ tsv "PRINT" = some 4 ∧
    tsv "NETBIOS" = some 8 ∧ tsv "NETBIOSU" = some 11 ∧ tsv "BASE64URL" = some 13 ∧ tsv "MASK" = some 15 := by decide +kernel

theorem be32_ne_nil' (v : Nat) : be32 v ≠ [] := by simp [be32]

theorem parseRecover_unfold (v : Nat) (hv : v < 4294967296) (t : Bytes) :
    parseRecover (be32 v ++ t) =
      if v ∈ refRecLen then (recName v, .len (u32be (t.take 4))) :: parseRecover (t.drop 4)
      else if v ∈ refRecFlag then (recName v, .flag) :: parseRecover t
      else if v = 0 then [] else parseRecover t := by
  obtain ⟨a1, a2, a3, a4, a8, a11, a13, a15⟩ := tsv_vals
  rw [parseRecover]
  simp only [take4_be32, drop4_be32, u32be_be32 v hv, be32_ne_nil', ↓reduceDIte, a1, a2, a3, a4, a8, a11, a13, a15,
    Option.some_beq_some, beq_iff_eq]
  -- `v` is a variable, so the two dispatches are compared opcode by opcode: on a defined one both compute
  by_cases h1 : v = 1; · subst h1; rfl
  by_cases h2 : v = 2; · subst h2; rfl
  by_cases h3 : v = 3; · subst h3; rfl
  by_cases h4 : v = 4; · subst h4; rfl
  by_cases h8 : v = 8; · subst h8; rfl
  by_cases h11 : v = 11; · subst h11; rfl
  by_cases h13 : v = 13; · subst h13; rfl
  by_cases h15 : v = 15; · subst h15; rfl
  simp [refRecLen, refRecFlag, h1, h2, h3, h4, h8, h11, h13, h15]

theorem parseRecover_nil : parseRecover [] = [] := by rw [parseRecover.eq_def]; rfl

theorem refRec_bounds : ∀ v ∈ refRecLen ++ refRecFlag, v < 4294967296 := by decide +kernel
theorem refRecFlag_not_len : ∀ v ∈ refRecFlag, v ∉ refRecLen := by decide +kernel

theorem parseRecover_step (st : RStep) (h : st.WF) (t : Bytes) :
    parseRecover (encRStep st ++ t) = st.view.toList ++ parseRecover t := by
  cases st with
  | len v n =>
    simp only [encRStep, List.append_assoc]
    rw [parseRecover_unfold v (refRec_bounds v (List.mem_append_left _ h.1)), if_pos h.1, take4_be32, drop4_be32,
      u32be_be32 n h.2]
    rfl
  | flag v =>
    simp only [RStep.WF] at h
    rw [encRStep, parseRecover_unfold v (refRec_bounds v (List.mem_append_right _ h)), if_neg (refRecFlag_not_len v h),
      if_pos h]
    rfl
  | skip v =>
    obtain ⟨h0, h1, hl, hf⟩ := h
    rw [encRStep, parseRecover_unfold v h1, if_neg hl, if_neg hf, if_neg (by omega)]
    rfl

theorem dropWhile_replicate_append {α} (p : α → Bool) (a : α) (h : p a = true) (n : Nat) (l : List α) :
    (List.replicate n a ++ l).dropWhile p = l.dropWhile p := by
  induction n with
  | zero => simp
  | succ n ih => simp [List.replicate_succ, h, ih]

def NoTrailNul (b : Bytes) : Prop := b.getLast? ≠ some 0

theorem rstripNul_pad (m : Bytes) (h : NoTrailNul m) (k : Nat) : rstripNul (m ++ List.replicate k 0) = m := by
  unfold rstripNul
  rw [List.reverse_append, List.reverse_replicate, dropWhile_replicate_append _ _ (by decide)]
  cases hm : m.reverse with
  | nil => simp at hm; subst hm; rfl
  | cons x xs =>
    have hx : m.getLast? = some x := by
      rw [List.getLast?_eq_head?_reverse, hm]; rfl
    have : x ≠ 0 := by
      intro h0; subst h0; exact h hx
    rw [List.dropWhile_cons_of_neg (by simpa using this), ← hm, List.reverse_reverse]

theorem rstripNul_self (m : Bytes) (h : NoTrailNul m) : rstripNul m = m := by
  simpa using rstripNul_pad m h 0

theorem utf8Decode_ascii (m : Bytes) (h : ∀ x ∈ m, x < 128) : utf8Decode m = .ok (m.map (·.toNat)) := by
  induction m with
  | nil => rw [utf8Decode.eq_def]; rfl
  | cons b r ih =>
    rw [utf8Decode.eq_def]
    have hb : b < 128 := h b (by simp)
    have hb' : b < 0x80 := hb
    simp only [hb', ↓reduceIte]
    rw [ih (fun x hx => h x (by simp [hx]))]
    rfl

def refInjectExecutor : List (Nat × String) := [
  (1, "CreateThread"), (2, "SetThreadContext"), (3, "CreateRemoteThread"), (4, "RtlCreateUserThread"),
  (5, "NtQueueApcThread"), (6, "CreateThread_"), (7, "CreateRemoteThread_"), (8, "NtQueueApcThread_s")]

theorem injectExecutor_eq_ref : injectExecutor = refInjectExecutor := by decide +kernel

inductive EItem
  | plain (v : Nat)
  | call (v off : Nat) (mod : Bytes) (mpad : Nat) (fn : Bytes) (fpad : Nat)
  deriving DecidableEq, Repr

def AsciiName (b : Bytes) : Prop := (∀ x ∈ b, x < 128) ∧ NoTrailNul b

def EItem.WF : EItem → Prop
  | .plain v => 0 < v ∧ v < 256 ∧ v ≠ 6 ∧ v ≠ 7
  | .call v off m mp f fp =>
    (v = 6 ∨ v = 7) ∧ off < 65536 ∧ m.length + mp < 4294967296 ∧ f.length + fp < 4294967296 ∧
      AsciiName m ∧ AsciiName f

def encEItem : EItem → Bytes
  | .plain v => [UInt8.ofNat v]
  | .call v off m mp f fp =>
    UInt8.ofNat v :: (be16 off ++ (be32 (m.length + mp) ++ ((m ++ List.replicate mp 0) ++
      (be32 (f.length + fp) ++ (f ++ List.replicate fp 0)))))

def encExecute (items : List EItem) : Bytes := items.flatMap encEItem

def callName (v : Nat) : String := if v = 6 then "CreateThread" else "CreateRemoteThread"

def EItem.view : EItem → Option (List Nat)
  | .plain v => (enumName refInjectExecutor v).map strCps
  | .call v off m _ f _ =>
    some (strCps (callName v) ++ [32, 34] ++ (m.map (·.toNat) ++ [33] ++ f.map (·.toNat) ++
      (if off ≠ 0 then strCps ("+0x" ++ hexStr off) else [])) ++ [34])

theorem iev_vals : iev "CreateThread_" = some 6 ∧ iev "CreateRemoteThread_" = some 7 := by decide +kernel

theorem take_pad (m : Bytes) (k : Nat) (t : Bytes) :
    ((m ++ List.replicate k 0) ++ t).take (m.length + k) = m ++ List.replicate k 0 := by
  apply List.take_left'
  simp

theorem drop_pad (m : Bytes) (k : Nat) (t : Bytes) :
    ((m ++ List.replicate k 0) ++ t).drop (m.length + k) = t := by
  apply List.drop_left'
  simp

theorem parseExecute_nil : parseExecute [] = .ok [] := by rw [parseExecute.eq_def]
theorem parseExecute_zero (t : Bytes) : parseExecute (0 :: t) = .ok [] := by rw [parseExecute.eq_def]; rfl

def encInjTransform (a p : Bytes) : Bytes := be32 a.length ++ (a ++ (be32 p.length ++ p))

@[simp] theorem take4_le32 (n : Nat) (t : Bytes) : (le32 n ++ t).take 4 = le32 n := rfl
@[simp] theorem drop4_le32 (n : Nat) (t : Bytes) : (le32 n ++ t).drop 4 = t := rfl
theorem u32le_le32 (n : Nat) (h : n < 4294967296) : u32le (le32 n) = n := by
  simp only [u32le, le32, List.take, leNat, UInt8.toNat_ofNat', Nat.mul_zero, Nat.add_zero]
  rw [Nat.mod_eq_of_lt (a := n / 16777216) (by omega), show 16777216 = 65536 * 256 from rfl, ← Nat.div_div_eq_div_mul,
    Nat.mod_add_div, show 65536 = 256 * 256 from rfl, ← Nat.div_div_eq_div_mul, Nat.mod_add_div, Nat.mod_add_div]
theorem le32_ne_nil (v : Nat) : ¬ le32 v = [] := by simp [le32]

def encGargle (rows : List (Nat × Nat)) : Bytes := rows.flatMap fun r => le32 r.1 ++ le32 r.2

theorem parseGarglePairs_step (r : Nat × Nat) (h : r.1 < 4294967296 ∧ r.2 < 4294967296) (t : Bytes) :
    parseGarglePairs ((le32 r.1 ++ le32 r.2) ++ t) =
      (Option.guard (fun r => decide (r ≠ (0, 0))) r).toList ++ parseGarglePairs t := by
  obtain ⟨a, b⟩ := r
  rw [List.append_assoc, parseGarglePairs.eq_def]
  simp only [take4_le32, drop4_le32, le32_ne_nil, ↓reduceDIte, u32le_le32 _ h.1, u32le_le32 _ h.2]
  by_cases hz : (a, b) = (0, 0) <;> simp [hz, Option.guard]

theorem parseGarglePairs_enc_append (rows : List (Nat × Nat))
    (h : ∀ r ∈ rows, r.1 < 4294967296 ∧ r.2 < 4294967296) (t : Bytes) :
    parseGarglePairs (encGargle rows ++ t) = rows.filter (· ≠ (0, 0)) ++ parseGarglePairs t := by
  rw [← List.filterMap_eq_filter]
  exact decode_flatMap parseGarglePairs _ _ rows (fun r hr => parseGarglePairs_step r (h r hr)) t

theorem parseGarglePairs_nil : parseGarglePairs [] = [] := by rw [parseGarglePairs.eq_def]; rfl

def encPivot (d : Bytes) : Bytes := be16 (d.length + 4) ++ d

theorem isSuperset_iff (o s : List String) : isSuperset o s = true ↔ ∀ x ∈ s, x ∈ o := by
  simp [isSuperset, List.all_eq_true]

theorem mem_setMinus (o s : List String) (x : String) : x ∈ setMinus o s ↔ x ∈ o ∧ x ∉ s := by
  simp [setMinus, List.mem_filter]

theorem isSuperset_setMinus_of_mem (o s g : List String) (w : String) (hg : w ∈ g) (hs : w ∈ s) :
    isSuperset (setMinus o s) g = false := by
  rw [Bool.eq_false_iff]
  intro h
  have := (isSuperset_iff _ _).mp h w hg
  exact ((mem_setMinus _ _ _).mp this).2 hs

theorem isSuperset_setMinus_of_disjoint (o s g : List String) (hd : ∀ x ∈ g, x ∉ s) :
    isSuperset (setMinus o s) g = isSuperset o g := by
  rw [Bool.eq_iff_iff, isSuperset_iff, isSuperset_iff]
  constructor
  · intro h x hx; exact ((mem_setMinus _ _ _).mp (h x hx)).1
  · intro h x hx; exact (mem_setMinus _ _ _).mpr ⟨h x hx, hd x hx⟩

theorem gate_disjoint :
    (∀ x ∈ gateCore, x ∉ gateComms) ∧ (∀ x ∈ gateCleanup, x ∉ gateComms) ∧ (∀ x ∈ gateCleanup, x ∉ gateCore) ∧
    (∀ x ∈ gateComms, x ∉ gateCore) ∧ (∀ x ∈ gateComms, x ∉ gateCleanup) ∧ (∀ x ∈ gateCore, x ∉ gateCleanup) := by
  decide +kernel

theorem gateAll_mem (x : String) : x ∈ gateAll ↔ x ∈ gateComms ∨ x ∈ gateCore ∨ x ∈ gateCleanup := by
  simp [gateAll]

/-- the reported groups and the remaining set, in closed form -/
def gateSpec (o : List String) : List String × List String :=
  if isSuperset o gateAll then (["All"], setMinus o gateAll)
  else
    ((if isSuperset o gateComms then ["Comms"] else []) ++ (if isSuperset o gateCore then ["Core"] else []) ++
      (if isSuperset o gateCleanup then ["Cleanup"] else []),
     setMinus (setMinus (setMinus o (if isSuperset o gateComms then gateComms else []))
       (if isSuperset o gateCore then gateCore else [])) (if isSuperset o gateCleanup then gateCleanup else []))

theorem setMinus_nil (o : List String) : setMinus o [] = o := by simp [setMinus]

theorem mem_setMinus_if (o s : List String) (c : Bool) (x : String) :
    x ∈ setMinus o (if c then s else []) ↔ x ∈ o ∧ ¬ (c = true ∧ x ∈ s) := by
  cases c <;> simp [mem_setMinus, setMinus_nil]

theorem mem_if_singleton (c : Bool) (l g : String) : g ∈ (if c then [l] else []) ↔ c = true ∧ g = l := by
  cases c <;> simp

theorem gateStep_eq (l : String) (g : List String) (st : List String × List String) (c : Bool)
    (h : isSuperset st.2 g = c) :
    gateStep l g st = (st.1 ++ (if c then [l] else []), setMinus st.2 (if c then g else [])) := by
  subst h
  unfold gateStep
  cases isSuperset st.2 g <;> simp [setMinus_nil]

theorem isSuperset_setMinus_if (o s g : List String) (c : Bool) (hd : ∀ x ∈ g, x ∉ s) :
    isSuperset (setMinus o (if c then s else [])) g = isSuperset o g := by
  cases c
  · simp only [Bool.false_eq_true, ↓reduceIte, setMinus_nil]
  · exact isSuperset_setMinus_of_disjoint o s g hd

theorem gateString_eq_spec (o : List String) : gateString o = gateSpec o := by
  obtain ⟨d1, d2, d3, d4, d5, d6⟩ := gate_disjoint
  unfold gateString gateSpec
  by_cases hA : isSuperset o gateAll = true
  · have e1 : gateStep "All" gateAll ([], o) = (["All"], setMinus o gateAll) := by simp [gateStep, hA]
    have e2 : isSuperset (setMinus o gateAll) gateComms = false :=
      isSuperset_setMinus_of_mem _ _ _ "InternetOpenA" (by decide +kernel) (by decide +kernel)
    have e3 : isSuperset (setMinus o gateAll) gateCore = false :=
      isSuperset_setMinus_of_mem _ _ _ "VirtualAlloc" (by decide +kernel) (by decide +kernel)
    have e4 : isSuperset (setMinus o gateAll) gateCleanup = false :=
      isSuperset_setMinus_of_mem _ _ _ "ExitThread" (by decide +kernel) (by decide +kernel)
    rw [e1]
    simp [gateStep, e2, e3, e4, hA]
  · -- the three groups are disjoint, so removing one does not change the test for the next
    rw [gateStep_eq "All" gateAll ([], o) false (by simpa using hA),
      gateStep_eq "Comms" gateComms _ (isSuperset o gateComms) (by simp only [Bool.false_eq_true, ↓reduceIte, setMinus_nil]),
      gateStep_eq "Core" gateCore _ (isSuperset o gateCore)
        (by simp only [Bool.false_eq_true, ↓reduceIte, setMinus_nil]; exact isSuperset_setMinus_if _ _ _ _ d1),
      gateStep_eq "Cleanup" gateCleanup _ (isSuperset o gateCleanup)
        (by simp only [Bool.false_eq_true, ↓reduceIte, setMinus_nil]
            rw [isSuperset_setMinus_if _ _ _ _ d3, isSuperset_setMinus_if _ _ _ _ d2])]
    simp [hA, setMinus_nil]

def expandGroup (g : String) : List String :=
  if g = "All" then gateAll else if g = "Comms" then gateComms else if g = "Core" then gateCore
  else if g = "Cleanup" then gateCleanup else []

theorem gateSpec_sublist (o : List String) : (gateSpec o).2.Sublist o := by
  unfold gateSpec
  split
  · exact List.filter_sublist
  · exact (List.filter_sublist.trans List.filter_sublist).trans List.filter_sublist

theorem expand_vals : expandGroup "Comms" = gateComms ∧ expandGroup "Core" = gateCore ∧
    expandGroup "Cleanup" = gateCleanup ∧ expandGroup "All" = gateAll := ⟨rfl, rfl, rfl, rfl⟩

theorem gateSpec_cover (o : List String) (x : String) :
    (x ∈ (gateSpec o).2 ∨ ∃ g ∈ (gateSpec o).1, x ∈ expandGroup g) ↔ x ∈ o := by
  obtain ⟨e1, e2, e3, e4⟩ := expand_vals
  unfold gateSpec
  by_cases hA : isSuperset o gateAll = true
  · have hA' := (isSuperset_iff _ _).mp hA
    simp only [hA, ↓reduceIte, mem_setMinus, List.mem_singleton, exists_eq_left, e4]
    constructor
    · rintro (⟨h, _⟩ | h)
      · exact h
      · exact hA' x h
    · intro h
      by_cases hx : x ∈ gateAll
      · exact Or.inr hx
      · exact Or.inl ⟨h, hx⟩
  · have g1 := fun h => (isSuperset_iff o gateComms).mp h x
    have g2 := fun h => (isSuperset_iff o gateCore).mp h x
    have g3 := fun h => (isSuperset_iff o gateCleanup).mp h x
    simp only [hA, Bool.false_eq_true, ↓reduceIte, mem_setMinus_if, List.mem_append, mem_if_singleton,
      or_and_right, exists_or, and_assoc]
    grind

theorem if_singleton_sublist (c : Bool) (l : String) : (if c then [l] else []).Sublist [l] := by
  cases c <;> simp

theorem gateSpec_groups_sublist (o : List String) : (gateSpec o).1.Sublist ["All", "Comms", "Core", "Cleanup"] := by
  unfold gateSpec
  split
  · exact (List.nil_sublist _).cons_cons _
  · exact (((if_singleton_sublist _ _).append (if_singleton_sublist _ _)).append (if_singleton_sublist _ _)).cons _

theorem gateSpec_groups (o : List String) :
    ("All" ∈ (gateSpec o).1 ↔ isSuperset o gateAll = true) ∧
    ("Comms" ∈ (gateSpec o).1 ↔ isSuperset o gateComms = true ∧ isSuperset o gateAll = false) ∧
    ("Core" ∈ (gateSpec o).1 ↔ isSuperset o gateCore = true ∧ isSuperset o gateAll = false) ∧
    ("Cleanup" ∈ (gateSpec o).1 ↔ isSuperset o gateCleanup = true ∧ isSuperset o gateAll = false) := by
  unfold gateSpec
  by_cases hA : isSuperset o gateAll = true
  · simp [hA]
  · simp [hA]

theorem gateSpec_no_overlap (o : List String) :
    ∀ x ∈ (gateSpec o).2, ∀ g ∈ (gateSpec o).1, x ∉ expandGroup g := by
  obtain ⟨e1, e2, e3, e4⟩ := expand_vals
  unfold gateSpec
  by_cases hA : isSuperset o gateAll = true
  · simp only [hA, ↓reduceIte, mem_setMinus, List.mem_singleton]
    rintro x ⟨_, hx⟩ g rfl
    rwa [e4]
  · simp only [hA, Bool.false_eq_true, ↓reduceIte, mem_setMinus_if, List.mem_append, mem_if_singleton]
    rintro x hx g ((⟨h, rfl⟩ | ⟨h, rfl⟩) | ⟨h, rfl⟩)
    · rw [e1]; exact fun hm => hx.1.1.2 ⟨h, hm⟩
    · rw [e2]; exact fun hm => hx.1.2 ⟨h, hm⟩
    · rw [e3]; exact fun hm => hx.2 ⟨h, hm⟩

theorem eraseDups_nodup {α} [BEq α] [LawfulBEq α] (l : List α) : l.eraseDups.Nodup := by
  generalize hn : l.length = n
  induction n using Nat.strongRecOn generalizing l with
  | _ n ih =>
    cases l with
    | nil => simp
    | cons a as =>
      rw [List.eraseDups_cons, List.nodup_cons]
      constructor
      · simp [List.mem_eraseDups, List.mem_filter]
      · apply ih (List.filter (fun b => !b == a) as).length _ _ rfl
        subst hn
        have := List.length_filter_le (fun b => !b == a) as
        simp only [List.length_cons]
        omega

theorem mem_gateOptions (flags : List UInt8) (x : String) :
    x ∈ gateOptions flags ↔ ∃ b, (x, b) ∈ beaconGateFields.zip flags ∧ b ≠ 0 := by
  simp only [gateOptions, List.mem_eraseDups, List.mem_map, List.mem_filter]
  constructor
  · rintro ⟨⟨n, b⟩, ⟨hm, hb⟩, rfl⟩
    exact ⟨b, hm, by simpa using hb⟩
  · rintro ⟨b, hm, hb⟩
    exact ⟨(x, b), ⟨hm, by simpa using hb⟩, rfl⟩

theorem nullTerminatedBytes_append (s t : Bytes) (h : ∀ x ∈ s, x ≠ 0) :
    nullTerminatedBytes (s ++ 0 :: t) = s := by
  unfold nullTerminatedBytes
  rw [List.takeWhile_append_of_pos (by intro a ha; simpa using h a ha)]
  simp

theorem nullTerminatedBytes_no_nul (s : Bytes) (h : ∀ x ∈ s, x ≠ 0) : nullTerminatedBytes s = s := by
  have := List.takeWhile_append_of_pos (p := (· ≠ 0)) (l₁ := s) (l₂ := []) (by intro a ha; simpa using h a ha)
  simpa [nullTerminatedBytes] using this

theorem nullTerminatedBytes_mem (s : Bytes) : ∀ x ∈ nullTerminatedBytes s, x ≠ 0 := by
  intro x hx
  unfold nullTerminatedBytes at hx
  simpa using List.all_eq_true.mp List.all_takeWhile x hx

theorem nullTerminatedBytes_prefix (s : Bytes) : nullTerminatedBytes s <+: s := List.takeWhile_prefix _

/-- the decoded text is the longest NUL-free prefix: it is followed by a NUL or by the end of the data -/
theorem nullTerminatedBytes_split (s : Bytes) :
    s = nullTerminatedBytes s ∨ ∃ t, s = nullTerminatedBytes s ++ 0 :: t := by
  unfold nullTerminatedBytes
  induction s with
  | nil => left; rfl
  | cons b r ih =>
    by_cases hb : b = 0
    · right; subst hb; exact ⟨r, by simp⟩
    · simp only [List.takeWhile_cons, ne_eq, hb, not_false_eq_true, decide_true, ↓reduceIte]
      rcases ih with ih | ⟨t, ih⟩
      · left; rw [← ih]
      · right; exact ⟨t, by rw [List.cons_append, ← ih]⟩

theorem digit256 (y d : Nat) (hd : d < 256) : (y * 256 + d) / 256 = y ∧ (y * 256 + d) % 256 = d := by omega

theorem dnsIdle_digits (a b c d : Nat) (ha : a < 256) (hb : b < 256) (hc : c < 256) (hd : d < 256) :
    dnsIdle (((a * 256 + b) * 256 + c) * 256 + d) = .ok s!"{a}.{b}.{c}.{d}" := by
  obtain ⟨q1, r1⟩ := digit256 ((a * 256 + b) * 256 + c) d hd
  obtain ⟨q2, r2⟩ := digit256 (a * 256 + b) c hc
  obtain ⟨q3, r3⟩ := digit256 a b hb
  rw [dnsIdle, if_pos (by omega), dottedQuad, r1, q1, r2,
    show 65536 = 256 * 256 from rfl, ← Nat.div_div_eq_div_mul, q1, q2, r3,
    show 16777216 = 256 * 256 * 256 from rfl, ← Nat.div_div_eq_div_mul, ← Nat.div_div_eq_div_mul, q1, q2, q3,
    Nat.mod_eq_of_lt ha]

/-! ### domain / URI lists (44 is `,`) -/

def joinComma : List Bytes → Bytes
  | [] => []
  | [a] => a
  | a :: b :: rest => a ++ 44 :: joinComma (b :: rest)

theorem splitComma_ne_nil (s : Bytes) : splitComma s ≠ [] := by
  induction s with
  | nil => simp [splitComma]
  | cons b r ih =>
    unfold splitComma
    split
    · simp
    · split <;> simp

theorem splitComma_nocomma (a : Bytes) (h : ∀ x ∈ a, x ≠ 44) : splitComma a = [a] := by
  induction a with
  | nil => rfl
  | cons b r ih =>
    have hb : b ≠ 44 := h b (by simp)
    unfold splitComma
    simp only [hb, ↓reduceIte]
    rw [ih (fun x hx => h x (by simp [hx]))]

theorem splitComma_append (a t : Bytes) (h : ∀ x ∈ a, x ≠ 44) :
    splitComma (a ++ 44 :: t) = a :: splitComma t := by
  induction a with
  | nil => simp [splitComma]
  | cons b r ih =>
    have hb : b ≠ 44 := h b (by simp)
    rw [List.cons_append]
    simp only [splitComma, hb, ↓reduceIte]
    rw [ih (fun x hx => h x (by simp [hx]))]

theorem splitComma_join (items : List Bytes) (hne : items ≠ []) (h : ∀ i ∈ items, ∀ x ∈ i, x ≠ 44) :
    splitComma (joinComma items) = items := by
  induction items with
  | nil => exact absurd rfl hne
  | cons a rest ih =>
    cases rest with
    | nil => simpa [joinComma] using splitComma_nocomma a (h a (by simp))
    | cons b rest =>
      simp only [joinComma]
      rw [splitComma_append a _ (h a (by simp)), ih (by simp) (fun i hi => h i (by simp [hi]))]

def interleave : List (Bytes × Bytes) → List Bytes
  | [] => []
  | p :: r => p.1 :: p.2 :: interleave r

theorem grouper2_interleave (ps : List (Bytes × Bytes)) :
    grouper2 (interleave ps) = ps.map fun p => (p.1, some p.2) := by
  induction ps with
  | nil => rfl
  | cons p r ih => simp [interleave, grouper2, ih]

theorem mem_dedup {α} [BEq α] [LawfulBEq α] (l : List α) (x : α) : x ∈ dedup l ↔ x ∈ l := by
  induction l with
  | nil => simp [dedup]
  | cons a r ih =>
    simp only [dedup, List.mem_cons, List.mem_filter, ih]
    by_cases hx : x = a <;> simp [hx]

theorem nodup_dedup {α} [BEq α] [LawfulBEq α] (l : List α) : (dedup l).Nodup := by
  induction l with
  | nil => simp [dedup]
  | cons a r ih =>
    simp only [dedup, List.nodup_cons, List.mem_filter]
    refine ⟨by simp, List.Nodup.sublist List.filter_sublist ih⟩

theorem dedup_sublist {α} [BEq α] (l : List α) : (dedup l).Sublist l := by
  induction l with
  | nil => simp [dedup]
  | cons a r ih =>
    simp only [dedup]
    exact (List.filter_sublist.trans ih).cons_cons a

/-! ### the residual-list cursor of Model/C03 is the shared `PyFile` model restricted to sequential reads -/

def remaining (f : PyFile) : Bytes := f.data.drop f.pos

theorem read_refines_pyfile (f : PyFile) (n : Nat) :
    (f.read n).1 = (remaining f).take n ∧ remaining (f.read n).2 = (remaining f).drop n :=
  ⟨PyFile.read_nonneg f n, PyFile.read_nonneg_rest f n⟩

theorem readAll_refines_pyfile (f : PyFile) (n : Int) (h : n < 0) :
    (f.read n).1 = (rdInt n (remaining f)).1 ∧ remaining (f.read n).2 = (rdInt n (remaining f)).2 := by
  unfold rdInt
  rw [if_pos h]
  exact ⟨PyFile.read_neg f n h, PyFile.read_neg_rest f n h⟩

/-! ### hexadecimal rendering is injective -/

def hexVal (c : Char) : Nat := if c.toNat ≤ 57 then c.toNat - 48 else c.toNat - 87

def ofHex (l : List Char) (init : Nat) : Nat := l.foldl (fun a c => 16 * a + hexVal c) init

theorem hexVal_digitChar : ∀ k < 16, hexVal (Nat.digitChar k) = k := by decide +kernel

theorem ofHex_append (l m : List Char) (init : Nat) : ofHex (l ++ m) init = ofHex m (ofHex l init) := by
  simp [ofHex]

theorem ofHex_toDigits (n : Nat) : ofHex (Nat.toDigits 16 n) 0 = n := by
  induction n using Nat.base_induction 16 (by decide) with
  | single m hm => simp [Nat.toDigits_of_lt_base hm, ofHex, hexVal_digitChar m hm]
  | digit m k hk hm ih =>
    rw [← Nat.toDigits_append_toDigits (by decide) hm hk, ofHex_append, ih, Nat.toDigits_of_lt_base hk]
    simp [ofHex, hexVal_digitChar k hk]

theorem toDigits16_injective (a b : Nat) (h : Nat.toDigits 16 a = Nat.toDigits 16 b) : a = b := by
  have := congrArg (fun l => ofHex l 0) h
  simpa [ofHex_toDigits] using this

theorem hexStr_injective (a b : Nat) (h : hexStr a = hexStr b) : a = b := by
  unfold hexStr at h
  exact toDigits16_injective a b (String.ofList_injective h)

theorem digitChar_ne_dash : ∀ k < 16, Nat.digitChar k ≠ '-' := by decide +kernel

theorem toDigits16_no_dash (n : Nat) : ∀ c ∈ Nat.toDigits 16 n, c ≠ '-' := by
  induction n using Nat.base_induction 16 (by decide) with
  | single m hm =>
    intro c hc
    rw [Nat.toDigits_of_lt_base hm] at hc
    simp only [List.mem_singleton] at hc
    subst hc; exact digitChar_ne_dash m hm
  | digit m k hk hm ih =>
    intro c hc
    rw [← Nat.toDigits_append_toDigits (by decide) hm hk, Nat.toDigits_of_lt_base hk] at hc
    simp only [List.mem_append, List.mem_singleton] at hc
    rcases hc with hc | hc
    · exact ih c hc
    · subst hc; exact digitChar_ne_dash k hk

theorem append_sep_inj {α} (c : α) (l1 l2 r1 r2 : List α) (h1 : c ∉ l1) (h2 : c ∉ l2)
    (h : l1 ++ c :: r1 = l2 ++ c :: r2) : l1 = l2 ∧ r1 = r2 := by
  induction l1 generalizing l2 with
  | nil =>
    cases l2 with
    | nil => simpa using h
    | cons b l2 =>
      simp only [List.nil_append, List.cons_append, List.cons.injEq] at h
      exact absurd h.1.symm (by intro hb; exact h2 (by simp [hb]))
  | cons a l1 ih =>
    cases l2 with
    | nil =>
      simp only [List.nil_append, List.cons_append, List.cons.injEq] at h
      exact absurd h.1 (by intro hb; exact h1 (by simp [hb]))
    | cons b l2 =>
      simp only [List.cons_append, List.cons.injEq] at h
      obtain ⟨hab, ht⟩ := h
      have := ih l2 (fun hm => h1 (by simp [hm])) (fun hm => h2 (by simp [hm])) ht
      exact ⟨by rw [hab, this.1], this.2⟩

/-! ### the rendering of execute items is injective -/

theorem map_toNat_injective (a b : Bytes) (h : a.map (·.toNat) = b.map (·.toNat)) : a = b :=
  (List.map_inj_right fun _ _ => UInt8.toNat_inj.mp).mp h

theorem map_charToNat_injective (a b : List Char) (h : a.map Char.toNat = b.map Char.toNat) : a = b :=
  (List.map_inj_right fun _ _ => Char.toNat_inj.mp).mp h

theorem not_mem_map_toNat (m : Bytes) (c : UInt8) (h : c ∉ m) : c.toNat ∉ m.map (·.toNat) := by
  intro hm
  obtain ⟨x, hx, he⟩ := List.mem_map.mp hm
  exact h (UInt8.toNat_inj.mp he ▸ hx)

def offPart (off : Nat) : List Nat := if off ≠ 0 then strCps ("+0x" ++ hexStr off) else []

/-- `+0x` is 43 48 120 -/
theorem offPart_pos (off : Nat) (h : off ≠ 0) :
    offPart off = 43 :: 48 :: 120 :: (Nat.toDigits 16 off).map Char.toNat := by
  have e : "+0x".toList = ['+', '0', 'x'] := by decide
  simp [offPart, h, strCps, hexStr, String.toList_append, String.toList_ofList, e]

theorem callName_no_space (v : Nat) : 32 ∉ strCps (callName v) := by
  unfold callName; split <;> decide +kernel

theorem callName_inj (v w : Nat) (hv : v = 6 ∨ v = 7) (hw : w = 6 ∨ w = 7)
    (h : strCps (callName v) = strCps (callName w)) : v = w := by
  rcases hv with rfl | rfl <;> rcases hw with rfl | rfl <;> first | rfl | (exfalso; revert h; decide +kernel)

theorem plain_view_no_space (v : Nat) (x : List Nat) (h : EItem.view (.plain v) = some x) : 32 ∉ x := by
  simp only [EItem.view, enumName, Option.map_map, Option.map_eq_some_iff] at h
  obtain ⟨p, hp, rfl⟩ := h
  have hmem := List.mem_of_find?_eq_some hp
  have key : ∀ q ∈ refInjectExecutor, 32 ∉ strCps q.2 := by decide +kernel
  exact key p hmem

theorem plain_ne_call (v : Nat) (w off : Nat) (m : Bytes) (mp : Nat) (f : Bytes) (fp : Nat) :
    EItem.view (.plain v) ≠ EItem.view (.call w off m mp f fp) := by
  intro h
  have := plain_view_no_space v _ h
  simp [List.mem_append] at this

def twoDigits (x : Nat) : List Char := [Nat.digitChar (x / 10), Nat.digitChar (x % 10)]

theorem toDigits_two (n m : Nat) (hn : 0 < n) (hm : m < 100) :
    Nat.toDigits 10 (n * 100 + m) = Nat.toDigits 10 n ++ twoDigits m := by
  have e : n * 100 + m = 10 * (10 * n + m / 10) + m % 10 := by omega
  rw [e, ← Nat.toDigits_append_toDigits (by decide) (by omega) (by omega),
    ← Nat.toDigits_append_toDigits (by decide) hn (by omega),
    Nat.toDigits_of_lt_base (by omega : m / 10 < 10), Nat.toDigits_of_lt_base (by omega : m % 10 < 10)]
  simp [twoDigits]

theorem toDigits_yyyymmdd (y m d : Nat) (hy : 0 < y) (hm : m < 100) (hd : d < 100) :
    Nat.toDigits 10 ((y * 100 + m) * 100 + d) = Nat.toDigits 10 y ++ twoDigits m ++ twoDigits d := by
  rw [toDigits_two _ d (by omega) hd, toDigits_two y m hy hm]

theorem length_toDigits_year (y : Nat) (h1 : 1000 ≤ y) (h2 : y < 10000) : (Nat.toDigits 10 y).length = 4 := by
  have a := (Nat.length_toDigits_le_iff (b := 10) (n := y) (k := 4) (by decide) (by decide)).mpr (by omega)
  have b : ¬ (Nat.toDigits 10 y).length ≤ 3 := fun hle =>
    absurd ((Nat.length_toDigits_le_iff (b := 10) (n := y) (k := 3) (by decide) (by decide)).mp hle) (by omega)
  omega

theorem intOfDigits_eq (cs : List Char) (h : cs ≠ []) : intOfDigits cs = .ok (Nat.ofDigitChars 10 cs 0) := by
  unfold intOfDigits
  have : cs.isEmpty = false := by cases cs <;> simp_all
  simp only [this, Bool.false_eq_true, ↓reduceIte, Nat.ofDigitChars]
  congr 1
  congr 1
  funext a c
  simp [Nat.mul_comm]

theorem intOfDigits_toDigits (n : Nat) : intOfDigits (Nat.toDigits 10 n) = .ok n := by
  rw [intOfDigits_eq _ Nat.toDigits_ne_nil, Nat.ofDigitChars_ten_toDigits]

theorem intOfDigits_twoDigits (x : Nat) (h : x < 100) : intOfDigits (twoDigits x) = .ok x := by
  rw [intOfDigits_eq _ (by simp [twoDigits])]
  simp only [twoDigits, Nat.ofDigitChars_cons_digitChar_of_lt_ten (by omega : x / 10 < 10),
    Nat.ofDigitChars_cons_digitChar_of_lt_ten (by omega : x % 10 < 10), Nat.ofDigitChars_nil]
  congr 1
  omega

theorem killdateOf_yyyymmdd (y m d : Nat) (h1 : 1000 ≤ y) (h2 : y < 10000) (hm : m < 100) (hd : d < 100) :
    killdateOf [("SETTING_KILLDATE", .int ((y * 100 + m) * 100 + d))] =
      some (.ok (some (fmt02 y ++ "-" ++ fmt02 m ++ "-" ++ fmt02 d))) := by
  have hk : (y * 100 + m) * 100 + d ≠ 0 := by omega
  have hl := length_toDigits_year y h1 h2
  have hds : (toString ((y * 100 + m) * 100 + d)).toList = Nat.toDigits 10 y ++ (twoDigits m ++ twoDigits d) := by
    rw [Nat.toString_eq_ofList_toDigits, String.toList_ofList, toDigits_yyyymmdd y m d (by omega) hm hd,
      List.append_assoc]
  have g : dictGet [("SETTING_KILLDATE", PVal.int ((y * 100 + m) * 100 + d))] "SETTING_KILLDATE" =
      some (PVal.int ((y * 100 + m) * 100 + d)) := by
    simp [dictGet]
  unfold killdateOf
  simp only [g, Option.getD_some, hk, ne_eq, not_false_eq_true, ↓reduceIte, hds]
  rw [List.take_left' hl, List.drop_left' hl]
  have t1 : List.take 2 (twoDigits m ++ twoDigits d) = twoDigits m := List.take_left' rfl
  have t2 : List.drop 6 (Nat.toDigits 10 y ++ (twoDigits m ++ twoDigits d)) = twoDigits d := by
    rw [← List.append_assoc]
    exact List.drop_left' (by simp [hl, twoDigits])
  rw [t1, t2]
  have t3 : List.take 2 (twoDigits d) = twoDigits d := rfl
  rw [t3, intOfDigits_toDigits, intOfDigits_twoDigits m hm, intOfDigits_twoDigits d hd]

/-! ### execute lists with arbitrary (valid UTF-8) names -/

/-- the text `bytes.decode()` yields (`[]` only for invalid input, which `ValidName` excludes) -/
def decodedText (m : Bytes) : List Nat :=
  match utf8Decode m with
  | .ok cs => cs
  | .error _ => []

def ValidName (b : Bytes) : Prop := (∃ cs, utf8Decode b = .ok cs) ∧ NoTrailNul b

def EItem.WFu : EItem → Prop
  | .plain v => 0 < v ∧ v < 256 ∧ v ≠ 6 ∧ v ≠ 7
  | .call v off m mp f fp =>
    (v = 6 ∨ v = 7) ∧ off < 65536 ∧ m.length + mp < 4294967296 ∧ f.length + fp < 4294967296 ∧
      ValidName m ∧ ValidName f

def EItem.viewU : EItem → Option (List Nat)
  | .plain v => (enumName refInjectExecutor v).map strCps
  | .call v off m _ f _ =>
    some (strCps (callName v) ++ [32, 34] ++ (decodedText m ++ [33] ++ decodedText f ++
      (if off ≠ 0 then strCps ("+0x" ++ hexStr off) else [])) ++ [34])

theorem asciiName_valid (b : Bytes) (h : AsciiName b) : ValidName b :=
  ⟨⟨_, utf8Decode_ascii b h.1⟩, h.2⟩

theorem decodedText_ascii (b : Bytes) (h : ∀ x ∈ b, x < 128) : decodedText b = b.map (·.toNat) := by
  simp [decodedText, utf8Decode_ascii b h]

theorem EItem.WF.toWFu {it : EItem} (h : it.WF) : it.WFu := by
  cases it with
  | plain v => exact h
  | call v off m mp f fp =>
    simp only [EItem.WF] at h
    obtain ⟨a, b, c, d, e, f'⟩ := h
    exact ⟨a, b, c, d, asciiName_valid _ e, asciiName_valid _ f'⟩

theorem EItem.viewU_eq_view {it : EItem} (h : it.WF) : it.viewU = it.view := by
  cases it with
  | plain v => rfl
  | call v off m mp f fp =>
    obtain ⟨_, _, _, _, e, f'⟩ := h
    simp [EItem.viewU, EItem.view, decodedText_ascii _ e.1, decodedText_ascii _ f'.1]

theorem opcode_byte (v : Nat) (h0 : 0 < v) (h : v < 256) : (UInt8.ofNat v).toNat = v ∧ UInt8.ofNat v ≠ 0 := by
  have hn : (UInt8.ofNat v).toNat = v := by rw [UInt8.toNat_ofNat']; omega
  refine ⟨hn, fun hc => ?_⟩
  rw [hc] at hn
  exact absurd hn (by simp; omega)

/-- `inject.name.rstrip("_")` for the two opcodes that carry a call -/
theorem callName_spec (v : Nat) (hv : v = 6 ∨ v = 7) :
    ∃ n, enumName refInjectExecutor v = some n ∧ rstripUnderscore (strCps n) = strCps (callName v) := by
  rcases hv with rfl | rfl
  · exact ⟨"CreateThread_", by decide +kernel⟩
  · exact ⟨"CreateRemoteThread_", by decide +kernel⟩

/-- the common prefix of the call case: after reading opcode, offset and both strings -/
theorem parseExecute_call_unfold (v off : Nat) (m : Bytes) (mp : Nat) (f : Bytes) (fp : Nat) (t : Bytes)
    (hv : v = 6 ∨ v = 7) (hoff : off < 65536) (hm : m.length + mp < 4294967296)
    (hf : f.length + fp < 4294967296) (hmn : NoTrailNul m) (hfn : NoTrailNul f) :
    parseExecute (encEItem (.call v off m mp f fp) ++ t) =
      match utf8Decode m with
      | .error e => .error e
      | .ok ms =>
        match utf8Decode f with
        | .error e => .error e
        | .ok fs =>
          match parseExecute t with
          | .error e => .error e
          | .ok rest =>
            .ok (some (strCps (callName v) ++ [32, 34] ++
              (ms ++ [33] ++ fs ++ (if off ≠ 0 then strCps ("+0x" ++ hexStr off) else [])) ++ [34]) :: rest) := by
  obtain ⟨i6, i7⟩ := iev_vals
  obtain ⟨hn, hz⟩ := opcode_byte v (by omega) (by omega)
  obtain ⟨n, hname, hstrip⟩ := callName_spec v hv
  have hc : (some v == some 6 || some v == some 7) = true := by rcases hv with rfl | rfl <;> rfl
  simp only [encEItem, List.cons_append, List.append_assoc]
  rw [parseExecute.eq_def]
  simp only [hz, ↓reduceIte, hn, i6, i7, hc, take2_be16, drop2_be16, take4_be32, drop4_be32,
    u16be_be16 off hoff, u32be_be32 _ hm]
  rw [← List.append_assoc m, take_pad, drop_pad]
  simp only [take4_be32, drop4_be32, u32be_be32 _ hf]
  rw [← List.append_assoc f, take_pad, drop_pad, rstripNul_pad m hmn, rstripNul_pad f hfn, injectExecutor_eq_ref, hname]
  simp only [hstrip]
  cases utf8Decode m <;> cases utf8Decode f <;> cases parseExecute t <;> simp

theorem parseExecute_stepU (it : EItem) (h : it.WFu) (t : Bytes) :
    parseExecute (encEItem it ++ t) = (parseExecute t).map (it.viewU :: ·) := by
  cases it with
  | plain v =>
    obtain ⟨h0, h1, h6, h7⟩ := h
    obtain ⟨i6, i7⟩ := iev_vals
    obtain ⟨hn, hz⟩ := opcode_byte v h0 h1
    have hc : (some v == some 6 || some v == some 7) = false := by simp [h6, h7]
    rw [encEItem, List.singleton_append, parseExecute.eq_def]
    simp only [hz, ↓reduceIte, hn, i6, i7, hc, injectExecutor_eq_ref, EItem.viewU, Bool.false_eq_true]
    cases parseExecute t <;> rfl
  | call v off m mp f fp =>
    obtain ⟨hv, hoff, hm, hf, ⟨⟨mc, hmc⟩, hmn⟩, ⟨⟨fc, hfc⟩, hfn⟩⟩ := h
    rw [parseExecute_call_unfold v off m mp f fp t hv hoff hm hf hmn hfn]
    simp only [hmc, hfc, EItem.viewU, decodedText]
    cases parseExecute t <;> rfl

theorem parseExecute_enc_appendU (items : List EItem) (h : ∀ it ∈ items, it.WFu) (t : Bytes) :
    parseExecute (encExecute items ++ t) = (parseExecute t).map (items.map EItem.viewU ++ ·) := by
  induction items with
  | nil => cases h : parseExecute t <;> simp [encExecute, h, Except.map]
  | cons it items ih =>
    simp only [encExecute, List.flatMap_cons, List.append_assoc] at ih ⊢
    rw [parseExecute_stepU it (h it List.mem_cons_self), ih fun s hs => h s (List.mem_cons_of_mem _ hs)]
    cases parseExecute t <;> rfl

theorem parseExecute_enc_append (items : List EItem) (h : ∀ it ∈ items, it.WF) (t : Bytes) :
    parseExecute (encExecute items ++ t) = (parseExecute t).map (items.map EItem.view ++ ·) := by
  rw [parseExecute_enc_appendU items (fun it hit => (h it hit).toWFu) t,
    List.map_congr_left fun it hit => EItem.viewU_eq_view (h it hit)]

/-- a name that is not valid UTF-8 makes the whole list fail with UnicodeDecodeError (a ValueError) -/
theorem parseExecute_call_invalid (v off : Nat) (m : Bytes) (mp : Nat) (f : Bytes) (fp : Nat) (t : Bytes)
    (hv : v = 6 ∨ v = 7) (hoff : off < 65536) (hm : m.length + mp < 4294967296)
    (hf : f.length + fp < 4294967296) (hmn : NoTrailNul m) (hfn : NoTrailNul f) (e : PyExc)
    (hbad : utf8Decode m = .error e ∨ ((∃ ms, utf8Decode m = .ok ms) ∧ utf8Decode f = .error e)) :
    parseExecute (encEItem (.call v off m mp f fp) ++ t) = .error e := by
  rw [parseExecute_call_unfold v off m mp f fp t hv hoff hm hf hmn hfn]
  rcases hbad with hb | ⟨⟨ms, hms⟩, hb⟩
  · simp [hb]
  · simp [hms, hb]

theorem map_error {α β : Type} {f : α → β} {r : Py α} {e : PyExc} (h : r.map f = .error e) : r = .error e := by
  cases r with
  | error e' => rw [Except.error.inj h]
  | ok a => cases h

theorem utf8Decode_error_kind (s : Bytes) (e : PyExc) (h : utf8Decode s = .error e) : e = .valueError := by
  fun_induction utf8Decode s
  -- the four decoding branches pass on the error of the rest; every other branch is `.ok []` or raises ValueError itself
  case case2 ih | case3 ih | case6 ih | case9 ih => exact ih (map_error h)
  all_goals cases h <;> rfl

theorem utf8_examples :
    utf8Decode [0xC3, 0xA9] = .ok [233] ∧ utf8Decode [0xF0, 0x9F, 0x98, 0x80] = .ok [0x1F600] ∧
    utf8Decode [0xC0, 0x80] = .error .valueError ∧ utf8Decode [0xED, 0xA0, 0x80] = .error .valueError ∧
    utf8Decode [0xFF] = .error .valueError := by
  refine ⟨?_, ?_, ?_, ?_, ?_⟩ <;> simp [utf8Decode, isCont, Except.map]

end C03

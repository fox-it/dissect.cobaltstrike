import CsVerif.Model.C08
import CsVerif.Props.C15
import CsVerif.Props.C09
import CsVerif.Props.C18
import CsVerif.Props.C02
import CsVerif.Props.C17
import CsVerif.Props.C16
import CsVerif.Props.C01
/-! C08 lemmas: each entry point of `Model/C08.lean` returns or raises only the documented `ValueError`; closed forms of the scans
that the sample extractions of `Props/C08.lean` evaluate through. -/
namespace C08

section pe
open Gen.PeStruct C18

theorem firstHit_some {α} (classify : Int → Option α) (d : Bytes) (start maxrange : Nat) :
    ∀ (offs : List Nat) (o : Nat) (a : α), firstHit classify d start maxrange offs = some (o, a) →
      ∃ m, machineAt d o maxrange = some m := by
  intro offs
  induction offs with
  | nil => intro o a h; simp [firstHit] at h
  | cons off rest ih =>
    intro o a h
    unfold firstHit at h
    split at h
    · rename_i a' hb
      injection h with h
      have ho : start + off = o := congrArg Prod.fst h
      subst ho
      cases hm : machineAt d (start + off) maxrange with
      | none => rw [hm] at hb; simp at hb
      | some m => exact ⟨m, rfl⟩
    · exact ih o a h

theorem machineAt_some (d : Bytes) (o maxrange : Nat) (m : Int) (h : machineAt d o maxrange = some m) :
    ∃ mz, sliceOpt d o dosHeaderSize = some mz ∧ 0 < fieldVal mz dosLfanew ∧ fieldVal mz dosLfanew < (maxrange : Int) := by
  unfold machineAt at h
  split at h
  · cases h
  · rename_i mz hmz
    simp only at h
    split at h
    · rename_i hc
      exact ⟨mz, hmz, hc.1, hc.2⟩
    · cases h

theorem findMzOffset_cases (f : PyFile) (start : Option Nat) (maxrange : Nat) :
    (∃ f1, findMzOffset f start maxrange = (none, f1)) ∨
    ∃ o f1 mz, findMzOffset f start maxrange = (some o, f1) ∧ sliceOpt f1.data o dosHeaderSize = some mz ∧
      0 < fieldVal mz dosLfanew := by
  obtain ⟨s1, s2, _⟩ := scanLoop_spec classifyMz (startOf f start) maxrange (List.range maxrange) f
  unfold findMzOffset
  rcases hr : scanLoop classifyMz (startOf f start) maxrange (List.range maxrange) f with ⟨_ | ⟨o, u⟩, f'⟩
  · exact Or.inl ⟨_, rfl⟩
  · rw [hr] at s1 s2
    obtain ⟨m, hm⟩ := firstHit_some classifyMz f.data _ maxrange _ o u s1.symm
    obtain ⟨mz, hmz, hpos, _⟩ := machineAt_some _ _ _ _ hm
    exact Or.inr ⟨o, f', mz, rfl, by rw [show f'.data = f.data from s2]; exact hmz, hpos⟩

theorem seekSet_nonneg (f : PyFile) (x : Int) (h : 0 ≤ x) : f.seekSet x = .ok (x.toNat, { f with pos := x.toNat }) := by
  unfold PyFile.seekSet
  rw [if_neg (by omega)]

theorem readStruct_seekNat {g : PyFile} {d : Bytes} (hd : g.data = d) {o n : Nat} {b : Bytes}
    (hb : sliceOpt d o n = some b) : ∃ g2, readStruct (seekNat g o) n = (some b, g2) := by
  have h1 : (readStruct (seekNat g o) n).1 = some b := by rw [readStruct_fst, ← hb, ← hd]; rfl
  rcases hr : readStruct (seekNat g o) n with ⟨r1, g2⟩
  rw [hr] at h1
  exact ⟨g2, by rw [← h1]⟩

/-- `mz.e_lfanew + mz_offset` is positive and the export directory offset is a sum of non-negative terms -/
theorem compileStampsAt_ok (f : PyFile) (o : Nat) (mz : Bytes) (hmz : sliceOpt f.data o dosHeaderSize = some mz)
    (hpos : 0 < fieldVal mz dosLfanew) : ∃ r, (compileStampsAt f o).1 = .ok r := by
  unfold compileStampsAt
  dsimp only
  obtain ⟨f2, hr⟩ := readStruct_seekNat rfl hmz
  rw [hr]
  simp only
  rw [seekSet_nonneg f2 (fieldVal mz dosLfanew + (o : Int)) (by omega)]
  simp only
  split
  · exact ⟨_, rfl⟩
  · split
    · exact ⟨_, rfl⟩
    · split
      · exact ⟨_, rfl⟩
      · split
        · exact ⟨_, rfl⟩
        · split
          · exact ⟨_, rfl⟩
          · rename_i ds hds
            have hc := List.find?_some hds
            simp only [sectionContains, decide_eq_true_eq] at hc
            rename_i opt _ _ _ _ _ _ _
            have hp : 0 ≤ fieldVal ds secPointerToRawData := leNat_nonneg_field _ _ rfl
            split
            · rename_i e he
              exfalso
              unfold PyFile.seekSet at he
              rw [if_neg (by omega)] at he
              cases he
            · split <;> exact ⟨_, rfl⟩

theorem magicPeAt_ok (f : PyFile) (o : Nat) (mz : Bytes) (hmz : sliceOpt f.data o dosHeaderSize = some mz)
    (hpos : 0 < fieldVal mz dosLfanew) : ∃ r, (magicPeAt f o).1 = .ok r := by
  unfold magicPeAt
  obtain ⟨f2, hr⟩ := readStruct_seekNat rfl hmz
  rw [hr]
  simp only
  rw [seekSet_nonneg f2 (fieldVal mz dosLfanew + (o : Int)) (by omega)]
  exact ⟨_, rfl⟩

theorem totalSize_nonneg (opt : Bytes) (is64 : Bool) (secs : List Bytes) : 0 ≤ totalSize opt is64 secs := by
  unfold totalSize
  apply foldl_rawsize_nonneg
  exact leNat_nonneg_field _ _ (optSize_fields is64).2.2.2

/-- a negative offset is rejected with `ValueError` (io.BytesIO) or `OSError` (OS file): both in the `except` clause -/
theorem seekSet_errors_caught (f : PyFile) (off : Int) (e : PyExc) (h : f.seekSet off = .error e) :
    seekCaught e = true := by
  unfold PyFile.seekSet at h
  split at h
  · injection h with h
    rw [← h]
    unfold PyFile.negSeekExc
    cases f.kind <;> rfl
  · cases h

theorem seekL_le (L : Nat) (f : PyFile) (off : Int) (h : off ≤ (L : Int)) : seekL L f off = f.seekSet off := by
  unfold seekL
  rw [if_neg]
  omega

theorem seekL_gt (L : Nat) (f : PyFile) (off : Int) (h : (L : Int) < off) :
    ∃ e, seekL L f off = .error e ∧ seekCaught e = true := by
  unfold seekL
  rw [if_pos h]
  cases f.kind
  · exact ⟨_, rfl, rfl⟩
  · exact ⟨_, rfl, rfl⟩

theorem seekL_errors_caught (L : Nat) (f : PyFile) (off : Int) (e : PyExc) (h : seekL L f off = .error e) :
    seekCaught e = true := by
  by_cases hgt : (L : Int) < off
  · obtain ⟨e', he', hc⟩ := seekL_gt L f off hgt
    rw [he'] at h
    injection h with h
    rw [← h]; exact hc
  · rw [seekL_le L f off (by omega)] at h
    exact seekSet_errors_caught f off e h

theorem prependAppendAtG_ok (sk : PyFile → Int → Py (Nat × PyFile)) (f : PyFile) (o : Nat) (mz : Bytes)
    (hmz : sliceOpt f.data o dosHeaderSize = some mz) (hpos : 0 < fieldVal mz dosLfanew)
    (hsk : ∀ (g : PyFile) (t : Int) (e : PyExc), sk g t = .error e → seekCaught e = true) :
    ∃ r, (prependAppendAtG true sk f o).1 = .ok r := by
  unfold prependAppendAtG
  dsimp only
  have hd : (if o > 0 then (some ((seekNat f 0).read (o : Int)).1, ((seekNat f 0).read (o : Int)).2) else (none, f)).2.data = f.data := by
    split <;> rfl
  generalize (if o > 0 then (some ((seekNat f 0).read (o : Int)).1, ((seekNat f 0).read (o : Int)).2) else (none, f)) = pf at hd
  obtain ⟨f2, hr⟩ := readStruct_seekNat hd hmz
  rw [hr]
  simp only
  rw [seekSet_nonneg f2 (fieldVal mz dosLfanew + (o : Int) + 4) (by omega)]
  simp only
  split
  · exact ⟨_, rfl⟩
  · split
    · split
      · exact ⟨_, rfl⟩
      · split
        · exact ⟨_, rfl⟩
        · split
          · rename_i e he
            rw [hsk _ _ e he]
            exact ⟨_, rfl⟩
          · split <;> exact ⟨_, rfl⟩
    · exact ⟨_, rfl⟩

/-- with a seek that accepts every non-negative offset the `try/except` is dead code -/
theorem prependAppendAtG_seekSet (guarded : Bool) (f : PyFile) (o : Nat) :
    prependAppendAtG guarded PyFile.seekSet f o = C18.prependAppendAt f o := by
  unfold prependAppendAtG C18.prependAppendAt
  dsimp only
  generalize (if o > 0 then (some ((seekNat f 0).read (o : Int)).1, ((seekNat f 0).read (o : Int)).2) else (none, f)) = pf
  rcases readStruct (seekNat pf.2 o) dosHeaderSize with ⟨_ | mz, f2⟩
  · rfl
  simp only
  cases f2.seekSet (fieldVal mz dosLfanew + (o : Int) + 4) with
  | error e => rfl
  | ok vf3 =>
    obtain ⟨v, f3⟩ := vf3
    simp only
    rcases readStruct f3 fileHeaderSize with ⟨_ | img, f4⟩
    · rfl
    simp only
    split
    · rcases readStruct f4 (optSize (decide (fieldVal img fhMachine = (machineAmd64 : Int)))) with ⟨_ | opt, f5⟩
      · rfl
      simp only
      rcases readSections (fieldVal img fhNumberOfSections).toNat f5 with ⟨_ | secs, f6⟩
      · rfl
      simp only
      rw [seekSet_nonneg _ _ (Int.add_nonneg (Int.natCast_nonneg o) (totalSize_nonneg _ _ _))]
    · rfl

theorem prependAppendAt_ok (f : PyFile) (o : Nat) (mz : Bytes) (hmz : sliceOpt f.data o dosHeaderSize = some mz)
    (hpos : 0 < fieldVal mz dosLfanew) : ∃ r, (prependAppendAt f o).1 = .ok r := by
  rw [← prependAppendAtG_seekSet true]
  exact prependAppendAtG_ok PyFile.seekSet f o mz hmz hpos seekSet_errors_caught

end pe

section detect
open C09

theorem tryCands_eof : ∀ (cs : List Nat) (g : PyFile), (∀ c ∈ cs, g.data.length ≤ c + 8) →
    C01.tryCands g cs = .ok (none, cs.foldl (fun g c => { g with pos := 1023 + c + 8 }) g) := by
  intro cs
  induction cs with
  | nil => intro g _; rfl
  | cons c cs ih =>
    intro g h
    obtain ⟨x0, hx0, hn0, hd0, hk0⟩ := mk'_ok g c
    have hx : x0.fh.data.length ≤ x0.nonceOff + 8 := by rw [hd0, hn0]; exact h c (List.mem_cons_self ..)
    rw [C01.tryCands_cons, hx0]
    dsimp only
    rw [findMzOffset, mzLoop_eof 0 1024 1023 0 x0 hx]
    dsimp only
    have hfh : (x0.withPos (0 + (0 + 1023) + x0.nonceOff + 8)).fh = { g with pos := 1023 + c + 8 } := by
      simp only [XorFile.withPos, hd0, hk0, hn0, Nat.zero_add]
    rw [hfh, ih { g with pos := 1023 + c + 8 } (fun c' hc' => h c' (List.mem_cons_of_mem _ hc'))]
    rfl

/-- the only exception of the real `XorEncodedFile.from_file` is the explicit `ValueError` (`none` here) -/
theorem detectRun_ok (B : Nat) (f : PyFile) :
    ∃ dx f', C01.detectRun B f = .ok (dx, f') ∧ f'.data = f.data ∧ f'.kind = f.kind ∧
      ∀ c, dx.map (·.nonceOff) = some c → c + 8 < f.data.length := by
  rcases C01.detectRun_real B f with ⟨x, h, e, _, hb, hd, hk⟩ | ⟨h, e, _, hd, hk⟩
  · exact ⟨some x, h, e, hd, hk, fun c hc => by cases hc; exact hb⟩
  · exact ⟨none, h, e, hd, hk, fun c hc => by cases hc⟩

/-- the marker scan starts from offset 0 of the same data whatever the first loop did to the position -/
theorem detectRun_eq (B : Nat) (f : PyFile) :
    C01.detectRun B f =
      C01.tryCands (C15.needleLoop B [0xff, 0xff, 0xff] 1024 { f with pos := 0 } []).2
        (candidates ((C15.needleLoop B [0xff, 0xff, 0xff] 1024 { f with pos := 0 } []).1.map Int.toNat)
          (sizeOffsetsFrom f.data.length 1024 0 f.data)) := by
  obtain ⟨f1, hl, hd1, hk1⟩ := iterNonceOffsets_eq f 1024
  have h0 : ({ f1 with pos := 0 } : PyFile) = { f with pos := 0 } := by rw [hd1, hk1]
  unfold C01.detectRun
  have hs : f1.seekSet 0 = .ok (0, { f1 with pos := 0 }) := rfl
  simp only [hl, C15.iterFindNeedle, hs]
  rw [h0, filter_sizeRel f.data _ 1024 0, List.drop_zero]

end detect

theorem search_ok (B : Nat) (hB : 1 ≤ B) (f : PyFile) (ks : List Bytes) (allKeys : Bool) (det : Option Nat)
    (hdet : ∀ c, det = some c → c + 8 ≤ f.data.length) (failPos : Nat) :
    ∃ r, search B f ks allKeys det failPos = .ok r := by
  -- one pass: a block, or nothing and then no exception either (C01 `pass_spec`), so the continuation decides
  have stage : ∀ (keys : List Bytes) (k : Py (Option C01.Result)), (∃ r, k = .ok r) →
      ∃ r, (match (C01.pass B f keys true det).1 with
        | y :: _ => (.ok (some y) : Py (Option C01.Result))
        | [] =>
          match (C01.pass B f keys true det).2 with
          | some e => .error e
          | none => k) = .ok r := by
    intro keys k hk
    have p2 := (C01.pass_spec B hB f keys det hdet).2
    generalize C01.pass B f keys true det = p at p2 ⊢
    obtain ⟨_ | ⟨y, ys⟩, e⟩ := p
    · cases p2 rfl; exact hk
    · exact ⟨_, rfl⟩
  unfold search
  apply stage
  cases allKeys with
  | false => exact ⟨_, rfl⟩
  | true =>
    obtain ⟨left, hl⟩ := C01.leftKeys_ok B f det hdet failPos ks
    simp only [if_true, hl]
    exact stage _ _ ⟨_, rfl⟩

theorem iterArtifactkitPayloads_eq (f : PyFile) : iterArtifactkitPayloads f = .ok (C15.artifactHits f.data 0 none) := by
  obtain ⟨f', h, _⟩ := C15.artifact_exact f (some 0) (by intro s hs; cases hs; omega) none
  unfold iterArtifactkitPayloads
  rw [h]
  rfl

section assembly
open C18

theorem findCompileStamps_ok (f : PyFile) (start : Option Nat) (maxrange : Nat) :
    ∃ r, (findCompileStamps f start maxrange).1 = .ok r := by
  unfold findCompileStamps
  rcases findMzOffset_cases f start maxrange with ⟨f1, h⟩ | ⟨o, f1, mz, h, hmz, hpos⟩ <;> rw [h]
  · exact ⟨_, rfl⟩
  · exact compileStampsAt_ok f1 o mz hmz hpos

theorem findMagicPe_ok (f : PyFile) (start : Option Nat) (maxrange : Nat) :
    ∃ r, (findMagicPe f start maxrange).1 = .ok r := by
  unfold findMagicPe
  rcases findMzOffset_cases f start maxrange with ⟨f1, h⟩ | ⟨o, f1, mz, h, hmz, hpos⟩ <;> rw [h]
  · exact ⟨_, rfl⟩
  · exact magicPeAt_ok f1 o mz hmz hpos

theorem findStagePrependAppend_ok (f : PyFile) (start : Option Nat) (maxrange : Nat) :
    ∃ r, (findStagePrependAppend f start maxrange).1 = .ok r := by
  unfold findStagePrependAppend
  rcases findMzOffset_cases f start maxrange with ⟨f1, h⟩ | ⟨o, f1, mz, h, hmz, hpos⟩ <;> rw [h]
  · exact ⟨_, rfl⟩
  · exact prependAppendAt_ok f1 o mz hmz hpos

theorem findArchitecture_fst (f : PyFile) (s maxrange : Nat) :
    (findArchitecture f (some s) maxrange).1 = (firstHit classifyArch f.data s maxrange (List.range maxrange)).map (·.2) := by
  rw [← (scanLoop_spec classifyArch s maxrange (List.range maxrange) f).1]
  unfold findArchitecture startOf
  rcases scanLoop classifyArch s maxrange (List.range maxrange) f with ⟨_ | ⟨o, u⟩, f1⟩ <;> rfl

/-- both PE scans of `from_file` read the same bytes: the position in which the first leaves the file is irrelevant -/
theorem peArtifacts_eq (fh : PyFile) :
    peArtifacts fh = (findCompileStamps fh (some 0) MAXRANGE).1.map
      (fun st => (st, (findArchitecture fh (some 0) MAXRANGE).1)) := by
  have h : (findArchitecture (findCompileStamps fh (some 0) MAXRANGE).2 (some 0) MAXRANGE).1
      = (findArchitecture fh (some 0) MAXRANGE).1 := by
    rw [findArchitecture_fst, findArchitecture_fst, (same_findCompileStamps fh (some 0) MAXRANGE).1]
  unfold peArtifacts
  split
  · rename_i e x heq
    rw [heq]
    rfl
  · rename_i st fh1 heq
    rw [heq] at h ⊢
    exact congrArg (fun a => Except.ok (st, a)) h

theorem peArtifacts_ok (fh : PyFile) : ∃ r, peArtifacts fh = .ok r := by
  obtain ⟨r, hr⟩ := findCompileStamps_ok fh (some 0) MAXRANGE
  rw [peArtifacts_eq, hr]
  exact ⟨_, rfl⟩

theorem finish_ok (guard : Bool) (xorkey : Bytes) (xorenc : Bool) (block : Bytes) (fh : PyFile) :
    ∃ r, finish guard xorkey xorenc block fh = .ok r := by
  unfold finish
  rw [C02.iterSettingsE_eq]
  obtain ⟨r, hr⟩ := peArtifacts_ok fh
  rw [hr]
  exact ⟨_, rfl⟩

theorem fromFile_error (B : Nat) (hB : 1 ≤ B) (f : PyFile) (ks : List Bytes) (allKeys : Bool) (e : PyExc)
    (h : fromFile B f ks allKeys = .error e) : e = .valueError := by
  unfold fromFile at h
  obtain ⟨dx, fFail, hdet, _, _, hb⟩ := detectRun_ok B f
  rw [hdet] at h
  simp only at h
  have hdetOk : ∀ c, dx.map (·.nonceOff) = some c → c + 8 ≤ f.data.length := fun c hc => Nat.le_of_lt (hb c hc)
  obtain ⟨r, hr⟩ := search_ok B hB f ks allKeys (dx.map (·.nonceOff)) hdetOk fFail.pos
  rw [hr] at h
  cases r with
  | some y =>
    simp only at h
    obtain ⟨x, hx⟩ := finish_ok false y.xorkey y.xorencoded y.block
      (if y.xorencoded = true then fhFor f (dx.map (·.nonceOff)) else f)
    rw [hx] at h
    cases h
  | none =>
    simp only at h
    split at h
    · rename_i e' hf
      cases h
      exact C17.fallback_errors_only_valueError _ _ _ hf
    · rename_i m hf
      split at h
      · rename_i cfg hu
        obtain ⟨x, hx⟩ := finish_ok true m.beaconXorKey false cfg (fhFor f (dx.map (·.nonceOff)))
        rw [hx] at h
        cases h
      · cases h
        rfl

theorem xorEncodedFromFile_error (B : Nat) (f : PyFile) (e : PyExc) (h : xorEncodedFromFile B f = .error e) :
    e = .valueError := by
  unfold xorEncodedFromFile at h
  obtain ⟨dx, fFail, hdet, _⟩ := detectRun_ok B f
  rw [hdet] at h
  cases dx with
  | none => simp only at h; injection h with h; exact h.symm
  | some x => simp only at h; cases h

end assembly

section notfound
open Gen.PeStruct C18

theorem firstHit_none {α} (classify : Int → Option α) (d : Bytes) (start maxrange : Nat) :
    ∀ (l : List Nat), (∀ o ∈ l, (machineAt d (start + o) maxrange).bind classify = none) →
      firstHit classify d start maxrange l = none := by
  intro l
  induction l with
  | nil => intro _; rfl
  | cons o os ih =>
    intro hl
    unfold firstHit
    rw [hl o (by simp)]
    exact ih (fun x hx => hl x (by simp [hx]))

theorem findArchitecture_none (f : PyFile) (start maxrange : Nat)
    (h : NoEarlierCandidate f.data start maxrange maxrange) : (findArchitecture f (some start) maxrange).1 = none := by
  rw [findArchitecture_fst, firstHit_none classifyArch f.data start maxrange _
    (fun o ho => noEarlier_arch h o (List.mem_range.mp ho))]
  rfl

theorem noEarlier_of_short (d : Bytes) (h : d.length < dosHeaderSize) (start maxrange n : Nat) :
    NoEarlierCandidate d start maxrange n := by
  intro o _
  unfold machineAt
  rw [sliceOpt_none d _ _ (by omega) (by decide)]
  rfl

end notfound

section limit
open Gen.PeStruct C18

theorem findStagePrependAppendG_ok (sk : PyFile → Int → Py (Nat × PyFile)) (f : PyFile)
    (hsk : ∀ (g : PyFile) (t : Int) (e : PyExc), sk g t = .error e → seekCaught e = true) :
    ∃ r, peFindStagePrependAppendG true sk f = .ok r := by
  unfold peFindStagePrependAppendG
  rcases findMzOffset_cases f (some 0) MAXRANGE with ⟨f1, h⟩ | ⟨o, f1, mz, h, hmz, hpos⟩ <;> rw [h]
  · exact ⟨_, rfl⟩
  · exact prependAppendAtG_ok sk f1 o mz hmz hpos hsk

/-- a rejected seek and an accepted seek beyond the end of the data both give `(prepend, None)` -/
theorem prependAppendAtG_limit_irrelevant (L : Nat) (f : PyFile) (o : Nat) (hL : f.data.length ≤ L) :
    (prependAppendAtG true (seekL L) f o).1 = (prependAppendAtG true PyFile.seekSet f o).1 := by
  unfold prependAppendAtG
  dsimp only
  have hd : (if o > 0 then (some ((seekNat f 0).read (o : Int)).1, ((seekNat f 0).read (o : Int)).2) else (none, f)).2.data = f.data := by
    split <;> rfl
  generalize (if o > 0 then (some ((seekNat f 0).read (o : Int)).1, ((seekNat f 0).read (o : Int)).2) else (none, f)) = pf at hd
  rcases hr : readStruct (seekNat pf.2 o) dosHeaderSize with ⟨_ | mz, f2⟩
  · rfl
  have hd2 : f2.data = pf.2.data := by have := (readStruct_data (seekNat pf.2 o) dosHeaderSize).1; rwa [hr] at this
  simp only
  cases hs : f2.seekSet (fieldVal mz dosLfanew + (o : Int) + 4) with
  | error e => rfl
  | ok vf3 =>
    obtain ⟨v, f3⟩ := vf3
    simp only
    rcases hr4 : readStruct f3 fileHeaderSize with ⟨_ | img, f4⟩
    · rfl
    have hd4 : f4.data = f3.data := by have := (readStruct_data f3 fileHeaderSize).1; rwa [hr4] at this
    simp only
    split
    · rcases hr5 : readStruct f4 (optSize (decide (fieldVal img fhMachine = (machineAmd64 : Int)))) with ⟨_ | opt, f5⟩
      · rfl
      have hd5 : f5.data = f4.data := by have := (readStruct_data f4 (optSize (decide (fieldVal img fhMachine = (machineAmd64 : Int))))).1; rwa [hr5] at this
      simp only
      rcases hr6 : readSections (fieldVal img fhNumberOfSections).toNat f5 with ⟨_ | secs, f6⟩
      · rfl
      have hd6 : f6.data = f5.data := by have := (same_readSections (fieldVal img fhNumberOfSections).toNat f5).1; rwa [hr6] at this
      simp only
      have hdata : f6.data = f.data := by rw [hd6, hd5, hd4, (same_seekSet hs).1, hd2, hd]
      have ht0 := totalSize_nonneg opt (decide (fieldVal img fhMachine = (machineAmd64 : Int))) secs
      by_cases hle : (o : Int) + totalSize opt (decide (fieldVal img fhMachine = (machineAmd64 : Int))) secs ≤ (L : Int)
      · rw [seekL_le L f6 _ hle]
      · obtain ⟨e, he, hc⟩ := seekL_gt L f6 ((o : Int) + totalSize opt (decide (fieldVal img fhMachine = (machineAmd64 : Int))) secs) (by omega)
        rw [he, seekSet_nonneg _ _ (Int.add_nonneg (Int.natCast_nonneg o) ht0)]
        simp only [hc, Bool.and_self, if_true]
        have hemp : (({ f6 with pos := ((o : Int) + totalSize opt (decide (fieldVal img fhMachine = (machineAmd64 : Int))) secs).toNat } : PyFile).read 1024).1 = [] := by
          rw [show ((1024 : Int)) = ((1024 : Nat) : Int) from rfl, PyFile.read_nonneg,
            List.drop_eq_nil_iff.mpr (by simp only [hdata]; omega), List.take_nil]
        rw [hemp]
        rfl
    · rfl

end limit

section bounds
open C09

theorem counterAdd_length (c : List (Nat × Nat)) (k : Nat) : (counterAdd c k).length ≤ c.length + 1 := by
  induction c with
  | nil => simp [counterAdd]
  | cons p rest ih =>
    obtain ⟨k', n⟩ := p
    simp only [counterAdd]
    split
    · simp
    · simp only [List.length_cons]; omega

theorem foldl_counterAdd_length (xs : List Nat) (c : List (Nat × Nat)) :
    (xs.foldl counterAdd c).length ≤ c.length + xs.length := by
  induction xs generalizing c with
  | nil => simp
  | cons x xs ih =>
    simp only [List.foldl_cons, List.length_cons]
    have := ih (counterAdd c x)
    have := counterAdd_length c x
    omega

theorem candidates_length (hits offs : List Nat) : (candidates hits offs).length ≤ hits.length + offs.length := by
  unfold candidates
  rw [List.length_map, (mostCommon_perm _).length_eq]
  unfold counter
  have := foldl_counterAdd_length (hits.map (· + 3) ++ offs) []
  simpa using this

end bounds

end C08

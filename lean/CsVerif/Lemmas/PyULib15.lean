import CsVerif.Lemmas.PyULib
import CsVerif.Model.PyU_T15
/-! The operations of `Model/PyU_T15.lean` (`find`, `range`, `max`, `yield`, the lifted `utils.xor`) on the shapes of operands
the translated functions meet.  The file objects (`fileRead`, `fileSeek`, `fileTell`) are in `Lemmas/PyUFile.lean`. -/
namespace PyU

theorem liftXor_bytes (f : Bytes → Bytes → Py Bytes) (d k : Bytes) : liftXor f (.bytes d) (.bytes k) = (f d k).map .bytes := rfl

theorem yieldTo_list (acc : List V) (x : V) : yieldTo (.list acc) x = .list (acc ++ [x]) := rfl

theorem rangeV_int (m : Int) : rangeV (.int m) = .ok (.list ((List.range m.toNat).map fun (i : Nat) => .int (i : Int))) := rfl
theorem rangeV_nat (n : Nat) : rangeV (.int (n : Int)) = .ok (.list ((List.range n).map fun (i : Nat) => .int (i : Int))) := rfl

theorem max2_int (a b : Int) : max2 (.int a) (.int b) = .ok (.int (max a b)) := by
  simp only [max2, gt_int]
  by_cases h : a < b
  · rw [decide_eq_true h, if_pos rfl, Int.max_eq_right (Int.le_of_lt h)]
  · rw [decide_eq_false h, if_neg Bool.false_ne_true, Int.max_eq_left (Int.not_lt.mp h)]

/-! ### `find` -/

theorem find_bytes_from (hay needle : Bytes) (s : Int) :
    find (.bytes hay) (.bytes needle) (.int s) = .ok (.int (findList hay needle s)) := rfl
theorem find_bytes_none (hay needle : Bytes) :
    find (.bytes hay) (.bytes needle) .none = .ok (.int (findList hay needle 0)) := rfl

theorem findList_natCast {α : Type} [BEq α] (hay needle : List α) (s : Nat) :
    findList hay needle (s : Int)
      = if s > hay.length then -1 else ((findFrom needle (hay.drop s) s).map fun (i : Nat) => (i : Int)).getD (-1) := by
  have h : ¬ ((s : Int) < 0) := by omega
  simp only [findList, h, if_false, Int.toNat_natCast]
  cases findFrom needle (hay.drop s) s <;> rfl

end PyU

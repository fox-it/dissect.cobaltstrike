import CsVerif.Model.C07
import CsVerif.Props.C04
import CsVerif.Props.C05
import CsVerif.Props.C06
import CsVerif.Props.C16
/-! Hypothesis vocabulary and helper lemmas of the C07 theorems.  Transforms, packets, framing, metadata and raw HTTP come from the
theorems of C04 / C05 / C06 / C16; proved here on top: a server recover ignores response headers, encoder chains keep their output
non-empty and (`cleanGo`) CR-free, transform steps keep the two dictionaries printable. -/
namespace C07
open C04 (Step Enc Term Field Req Http C2Data Dict)
open C04.Ref (Program valid usesUri built compile normalise serverSteps)

/-! ### routing -/

theorem startsWithAny_iff (uri : Bytes) (us : List Bytes) :
    startsWithAny uri us = true ↔ ∃ u ∈ us, u <+: uri := by
  simp only [startsWithAny, List.any_eq_true, List.isPrefixOf_iff_prefix]

theorem getTest_iff (cfg : HttpCfg) (m u : Bytes) :
    (m == cfg.getVerb && startsWithAny u cfg.getUris) = true ↔ m = cfg.getVerb ∧ ∃ p ∈ cfg.getUris, p <+: u := by
  rw [Bool.and_eq_true, beq_iff_eq, startsWithAny_iff]

theorem submitTest_iff (cfg : HttpCfg) (m u : Bytes) :
    (m == cfg.submitVerb && cfg.submitUri.isPrefixOf u) = true ↔ m = cfg.submitVerb ∧ cfg.submitUri <+: u := by
  rw [Bool.and_eq_true, beq_iff_eq, List.isPrefixOf_iff_prefix]


theorem routeRequest_get {cfg : HttpCfg} {m u : Bytes} (h : m = cfg.getVerb ∧ ∃ p ∈ cfg.getUris, p <+: u) :
    routeRequest cfg m u = some .get := by
  unfold routeRequest
  rw [if_pos ((getTest_iff cfg m u).2 h)]

theorem routeRequest_submit {cfg : HttpCfg} {m u : Bytes} (hg : ¬ (m = cfg.getVerb ∧ ∃ p ∈ cfg.getUris, p <+: u))
    (h : m = cfg.submitVerb ∧ cfg.submitUri <+: u) : routeRequest cfg m u = some .submit := by
  unfold routeRequest
  rw [if_neg (mt (getTest_iff cfg m u).1 hg), if_pos ((submitTest_iff cfg m u).2 h)]

theorem routeRequest_none {cfg : HttpCfg} {m u : Bytes} (hg : ¬ (m = cfg.getVerb ∧ ∃ p ∈ cfg.getUris, p <+: u))
    (hs : ¬ (m = cfg.submitVerb ∧ cfg.submitUri <+: u)) : routeRequest cfg m u = none := by
  unfold routeRequest
  rw [if_neg (mt (getTest_iff cfg m u).1 hg), if_neg (mt (submitTest_iff cfg m u).1 hs)]


/-! ### the packet layouts -/

theorem u32be_length (n : Nat) : (u32be n).length = 4 := C20.toBytesU_length .big 4 n


theorem u32At_head (x : Nat) (rest : Bytes) (h : x < 2 ^ 32) : u32At (u32be x ++ rest) 0 = x := by
  unfold u32At
  rw [List.drop_zero, List.take_left' (u32be_length x)]
  exact C20.fromBytesU_toBytesU .big 4 x (by simpa using h)

theorem drop_next (x : Nat) (rest : Bytes) (k : Nat) : (u32be x ++ rest).drop (k + 4) = rest.drop k := by
  rw [List.drop_append, u32be_length, List.drop_eq_nil_of_le (by rw [u32be_length]; omega), List.nil_append,
    Nat.add_sub_cancel]

theorem u32At_next (x : Nat) (rest : Bytes) (k : Nat) : u32At (u32be x ++ rest) (k + 4) = u32At rest k := by
  unfold u32At
  rw [drop_next]

theorem length_next (x : Nat) (rest : Bytes) : (u32be x ++ rest).length = rest.length + 4 := by
  rw [List.length_append, u32be_length, Nat.add_comm]

/-- a task whose `size` field is the length of its data and whose integers fit 32 bits -/
def TaskOk (t : Task) : Prop :=
  t.epoch < 2 ^ 32 ∧ t.totalSize < 2 ^ 32 ∧ t.command < 2 ^ 32 ∧ t.size < 2 ^ 32 ∧ t.size = t.data.length

instance (t : Task) : Decidable (TaskOk t) := by unfold TaskOk; infer_instance

def CallbackOk (cb : Callback) : Prop :=
  cb.counter < 2 ^ 32 ∧ cb.size < 2 ^ 32 ∧ cb.callback < 2 ^ 32 ∧ cb.size = cb.data.length

instance (cb : Callback) : Decidable (CallbackOk cb) := by unfold CallbackOk; infer_instance

theorem task_roundtrip (t : Task) (h : TaskOk t) :
    ∃ b, t.dumps = .ok b ∧ ∀ extra, parseItem false (b ++ extra) = .ok (.task t) := by
  obtain ⟨h1, h2, h3, h4, h5⟩ := h
  refine ⟨u32be t.epoch ++ (u32be t.totalSize ++ (u32be t.command ++ (u32be t.size ++ t.data))),
    by simp [Task.dumps, h1, h2, h3, h4], fun extra => ?_⟩
  simp only [parseItem, Bool.false_eq_true, if_false, parseTask, List.append_assoc, u32At_next, u32At_head _ _ h1,
    u32At_head _ _ h2, u32At_head _ _ h3, u32At_head _ _ h4, drop_next, List.drop_zero, length_next]
  rw [List.length_append, if_neg (by omega), if_neg (by omega), List.take_left' h5.symm]
  rfl

theorem callback_roundtrip (cb : Callback) (h : CallbackOk cb) :
    ∃ b, cb.dumps = .ok b ∧ b.length = cb.data.length + 12 ∧ ∀ extra, parseItem true (b ++ extra) = .ok (.callback cb) := by
  obtain ⟨h1, h2, h3, h5⟩ := h
  refine ⟨u32be cb.counter ++ (u32be cb.size ++ (u32be cb.callback ++ cb.data)),
    by simp [Callback.dumps, h1, h2, h3], by simp only [length_next], fun extra => ?_⟩
  simp only [parseItem, if_true, parseCallback, List.append_assoc, u32At_next, u32At_head _ _ h1, u32At_head _ _ h2,
    u32At_head _ _ h3, drop_next, List.drop_zero, length_next]
  rw [List.length_append, if_neg (by omega), if_neg (by omega), List.take_left' h5.symm]
  rfl


/-! ### client transforms: the request keeps method and URI and is recovered -/

theorem client_transform_recover (p : Program) (hv : valid p = true) (hu : usesUri p = false)
    (c2 : C2Data) (rand : C04.Rand) (req : Req) :
    ∃ r, C04.transform (C04.mkTransform (compile p) false none) rand c2 (some req) = .ok r ∧
      r.method = req.method ∧ r.uri = req.uri ∧
      C04.recover (C04.mkTransform (compile p) false none) (.request r) = .ok (normalise p c2) := by
  obtain ⟨s', h1, hP⟩ := C04.transform_placed c2 req p hv (C04.TSt.init req rand)
    (fun h => by rw [hu] at h; cases h)
  refine ⟨s'.toReq req, ?_, rfl, ?_, ?_⟩
  · simp only [C04.transform, C04.mk_client, Option.getD_some, h1, Except.map]
  · have hw : ∀ st ∈ compile p, C04.writes st ≠ some Term.uriAppend := by
      intro st hs hw
      have := C04.writes_compile p hv st hs _ hw
      rw [← C04.usesUri_iff, hu] at this
      cases this
    have := C04.runT_frame c2 req (compile p) _ s' Term.uriAppend h1 hw
    simp only [C04.locate_http] at this
    injection this
  · simp only [C04.recover, C04.mk_rsteps, C04.mk_client]
    exact C04.recover_of_placed p hv c2 _ hP


/-! ### hypotheses of the end-to-end theorems -/

/-- a submit request is not caught by the get route (the get test comes first in the code) -/
def RoutingDisjoint (cfg : HttpCfg) : Prop :=
  ¬ (cfg.submitVerb = cfg.getVerb ∧ startsWithAny cfg.submitUri cfg.getUris = true)

instance (cfg : HttpCfg) : Decidable (RoutingDisjoint cfg) := by unfold RoutingDisjoint; infer_instance

/-- A well-formed HTTP configuration: the three step lists are what the profile compiler emits for valid
reference programs `pg` (http-get.client), `pp` (http-post.client) and the server output statements `es`;
no uri-append (known finding C04-uri-append-initial-uri); the get program carries the metadata, the post
program the output; routing is unambiguous. -/
structure WellFormedCfg (cfg : HttpCfg) (pg pp : Program) (es : List Enc) : Prop where
  getProg : cfg.getProg = compile pg
  postProg : cfg.postProg = compile pp
  recoverProg : cfg.recoverProg = serverSteps es
  getValid : valid pg = true
  postValid : valid pp = true
  serverOk : ∀ e ∈ es, C04.encOk e = true
  getNoUri : usesUri pg = false
  postNoUri : usesUri pp = false
  getMeta : built pg .metadata = true
  postOutput : built pp .output = true
  disjoint : RoutingDisjoint cfg

/-- the keys of the beacon session: both halves of SHA-256 over the metadata's random bytes -/
def sessionKeys (c : Crypto) (cl : Client) : Keys := derivedKeys c cl.metadata.aes_rand

/-- the metadata as it is sent (and as the client object holds it after the first check-in) -/
def sentMetadata (cl : Client) : C06.Metadata := { cl.metadata with size := 51 + cl.metadata.info.length }

structure WellFormedClient (c : Crypto) (cl : Client) : Prop where
  inWidth : C06.InWidth cl.metadata
  aesLen : cl.metadata.aes_rand.length = 16
  magic : cl.metadata.magic = 0xBEEF
  fits : 59 + cl.metadata.info.length ≤ c.asym.modulusBytes - 11
  infoSmall : 51 + cl.metadata.info.length < 2 ^ 32
  keys : cl.keys = sessionKeys c cl
  getUri : cl.getUri ∈ cl.cfg.getUris

theorem checkin_request (c : Crypto) (L : CryptoLaws c) {cfg : HttpCfg} {pg pp : Program} {es : List Enc}
    (wf : WellFormedCfg cfg pg pp es) (cl : Client) (hcl : cl.cfg = cfg) (wc : WellFormedClient c cl)
    (rr : C06.Rand) (rand : C04.Rand) :
    ∃ r blob, getTaskRequest c cl rr rand = .ok (r, { cl with metadata := sentMetadata cl }) ∧
      r.method = cfg.getVerb ∧ r.uri = cl.getUri ∧
      recoverStage cfg (.request r) = .ok (normalise pg ⟨none, some blob, none⟩) ∧ blob ≠ [] ∧
      C06.decryptMetadata c.asym blob = .ok (sentMetadata cl) ∧
      C04.transform (C04.mkTransform (compile pg) false none) rand ⟨none, some blob, none⟩ (some (initialGetRequest cl)) = .ok r := by
  obtain ⟨blob, hb1, hb2, hb3⟩ := C06.metadata_roundtrip c.asym L.asym cl.metadata rr wc.inWidth wc.aesLen wc.fits wc.infoSmall
  rw [if_pos wc.magic] at hb3
  obtain ⟨r, hr1, hr2, hr3, hr4⟩ := client_transform_recover pg wf.getValid wf.getNoUri ⟨none, some blob, none⟩ rand
    (initialGetRequest cl)
  have hne : blob ≠ [] := by
    intro h0; rw [h0] at hb2; simp at hb2; have := wc.fits; omega
  have hm : r.method = cfg.getVerb := by rw [hr2]; simp [initialGetRequest, hcl]
  have hu : r.uri = cl.getUri := hr3
  refine ⟨r, blob, ?_, hm, hu, ?_, hne, hb3, hr1⟩
  · simp only [getTaskRequest, C06.sized_ok cl.metadata wc.inWidth wc.aesLen, sentMetadata, hb1, ofC06, transformGet, hcl, wf.getProg, hr1, ofC04,
      Except.map]
  · have hroute : routeHttp cfg (.request r) = some .get :=
      routeRequest_get ⟨hm, cl.getUri, hcl ▸ wc.getUri, hu ▸ List.prefix_refl _⟩
    simp only [recoverStage, hroute, transformOf, transformGet, wf.getProg, hr4, ofC04]


/-! ### evaluation of the decoder's stages -/

theorem iterRecoverMsg_of_error (c : Crypto) (dec : Decoder) (http : Http) (e : Exc)
    (h : recoverStage dec.cfg http = .error e) :
    iterRecoverMsg c dec none http = ⟨[], some e, dec, []⟩ := by
  simp only [iterRecoverMsg, h]

theorem metadataStep_skip (c : Crypto) (dec : Decoder) (md : Option Bytes)
    (h : (truthy md && dec.hasPriv) = false) : metadataStep c dec md = ⟨[], none, dec, []⟩ := by
  simp only [metadataStep, h]; rfl

theorem ne_nil_of_length16 {b : Bytes} (h : b.length = 16) : b ≠ [] := by
  intro h0; rw [h0] at h; cases h

theorem truthy_some_ne {b : Bytes} (h : b ≠ []) : truthy (some b) = true := by
  cases b with
  | nil => exact absurd rfl h
  | cons _ _ => rfl

theorem sessionKeys_facts (c : Crypto) (L : CryptoLaws c) (cl : Client) :
    ∃ k hk, sessionKeys c cl = ⟨some k, some hk, Gen.C2Struct.defaultAesIv⟩ ∧ k.length = 16 ∧ hk.length = 16 := by
  obtain ⟨_, h1, h2⟩ := C06.derive_split c.asym L.asym cl.metadata.aes_rand
  exact ⟨_, _, rfl, h1, h2⟩

theorem decodePackets_nokeys (c : Crypto) (keys : Keys) (h1 : keys.aesKey = none) (h2 : keys.hmacKey = none)
    (verify isReq : Bool) (p : C05.Packet) (ps : List C05.Packet) :
    (decodePackets c keys verify isReq (p :: ps)).items = [] ∧
    (decodePackets c keys verify isReq (p :: ps)).exc = some (.py .valueError) ∧
    (decodePackets c keys verify isReq (p :: ps)).calls = [] := by
  obtain ⟨a, h, iv⟩ := keys
  subst h1 h2
  cases verify <;> simp [decodePackets, C05.decryptPacketT, C05.decryptDataT]

/-! ### callbacks: what the client encrypts is what the decoder's packet loop yields -/

theorem callbackPackets_ok (counter : Nat) (cbs : List (Nat × Bytes))
    (hc : counter + cbs.length < 2 ^ 32) (hcb : ∀ cb ∈ cbs, cb.1 < 2 ^ 32 ∧ cb.2.length + 64 < 2 ^ 32) :
    ∀ p ∈ callbackPackets counter cbs, CallbackOk p ∧ p.data.length + 64 < 2 ^ 32 := by
  induction cbs generalizing counter with
  | nil => intro p hp; cases hp
  | cons cb rest ih =>
    obtain ⟨id, data⟩ := cb
    obtain ⟨h1, h2⟩ := hcb (id, data) List.mem_cons_self
    simp only [List.length_cons] at hc h2
    simp only [callbackPackets, List.forall_mem_cons]
    refine ⟨⟨⟨?_, ?_, h1, rfl⟩, h2⟩, ih (counter + 1) (by omega) (fun cb h => hcb cb (List.mem_cons_of_mem _ h))⟩
    · show counter + 1 < 2 ^ 32
      omega
    · show data.length < 2 ^ 32
      omega

/-- (16-byte AES key, non-empty HMAC key: the hypotheses of `C05.encrypt_packet_ok` and `C05.verify_decision`) -/
theorem packet_roundtrip (c : Crypto) (L : CryptoLaws c) (k hk : Bytes) (hk16 : k.length = 16) (hne : hk ≠ [])
    (verify : Bool) (pt : Bytes) :
    ∃ pkt, C05.encryptPacket c.sym pt (some k) (some hk) Gen.C2Struct.defaultAesIv = .ok pkt ∧
      pkt.ciphertext.length = (C05.pad pt).length ∧ pkt.signature.length = 16 ∧
      (C05.decryptPacketT c.sym pkt (some k) (some hk) Gen.C2Struct.defaultAesIv verify).1 = .ok (C05.pad pt) := by
  obtain ⟨ct, _, hct2, hct3, hct4⟩ := C05.encrypt_packet_ok c.sym L.sym pt k hk Gen.C2Struct.defaultAesIv
    (Or.inl hk16) (by decide)
  have hsig : (C05.mac16 c.sym hk ct).length = 16 := by
    simp only [C05.mac16, List.length_take, L.sym.hmac_len]; rfl
  refine ⟨⟨ct, C05.mac16 c.sym hk ct⟩, by simp [C05.encryptPacket, hct4], hct2, hsig, ?_⟩
  show C05.decryptPacket c.sym ⟨ct, C05.mac16 c.sym hk ct⟩ (some k) (some hk) Gen.C2Struct.defaultAesIv verify = .ok _
  cases verify with
  | true =>
    rw [C05.verify_decision, if_pos ⟨hne, rfl⟩]
    simpa [C05.decryptData, C05.decryptDataT] using hct3
  | false => simpa [C05.decryptPacket, C05.decryptPacketT, C05.decryptDataT] using hct3

theorem encryptCallback_spec (c : Crypto) (L : CryptoLaws c) (k hk : Bytes) (hk16 : k.length = 16) (hne : hk ≠ [])
    (verify : Bool) (cb : Callback) (hcb : CallbackOk cb) (hlen : cb.data.length + 64 < 2 ^ 32) :
    ∃ pkt frame pt, encryptCallback c ⟨some k, some hk, Gen.C2Struct.defaultAesIv⟩ cb = .ok frame ∧
      C05.dumps pkt = .ok frame ∧ pkt.signature.length = 16 ∧ pkt.ciphertext.length + 16 < 2 ^ 32 ∧
      (C05.decryptPacketT c.sym pkt (some k) (some hk) Gen.C2Struct.defaultAesIv verify).1 = .ok pt ∧
      parseItem true pt = .ok (.callback cb) := by
  obtain ⟨b, hd, hb, hparse⟩ := callback_roundtrip cb hcb
  obtain ⟨pkt, henc, hlen', hsig, hdec⟩ := packet_roundtrip c L k hk hk16 hne verify b
  obtain ⟨kpad, hp1, _, hp3, _, hp5, _⟩ := C05.pad_spec b
  have hctlen : pkt.ciphertext.length + 16 < 2 ^ 32 := by
    rw [hlen', hp5, hb]; omega
  have hdump := C05.dumps_ok pkt (by rw [hsig]; exact hctlen)
  refine ⟨pkt, _, _, ?_, hdump, hsig, hctlen, hdec, by rw [hp1]; exact hparse _⟩
  unfold encryptCallback
  rw [hd]
  dsimp only
  rw [henc]
  show ofPy (C05.dumps pkt) = _
  rw [hdump]
  rfl

theorem decodePackets_cons_ok (c : Crypto) (keys : Keys) (verify isReq : Bool) (p : C05.Packet) (ps : List C05.Packet)
    (pt : Bytes) (it : Item)
    (hd : (C05.decryptPacketT c.sym p keys.aesKey keys.hmacKey keys.iv verify).1 = .ok pt)
    (hp : parseItem isReq pt = .ok it) :
    (decodePackets c keys verify isReq (p :: ps)).items = it :: (decodePackets c keys verify isReq ps).items ∧
    (decodePackets c keys verify isReq (p :: ps)).exc = (decodePackets c keys verify isReq ps).exc := by
  simp only [decodePackets, hd, hp, and_self]

theorem encryptCallbacks_spec (c : Crypto) (L : CryptoLaws c) (k hk : Bytes) (hk16 : k.length = 16) (hne : hk ≠ [])
    (verify : Bool) (cbs : List Callback) (hok : ∀ cb ∈ cbs, CallbackOk cb ∧ cb.data.length + 64 < 2 ^ 32) :
    ∃ pkts bs, encryptCallbacks c ⟨some k, some hk, Gen.C2Struct.defaultAesIv⟩ cbs = .ok bs ∧
      C05.dumpsAll pkts = .ok bs ∧ pkts.length = cbs.length ∧
      (∀ p ∈ pkts, p.signature.length = 16 ∧ p.ciphertext.length + 16 < 2 ^ 32) ∧
      (decodePackets c ⟨some k, some hk, Gen.C2Struct.defaultAesIv⟩ verify true pkts).items = cbs.map Item.callback ∧
      (decodePackets c ⟨some k, some hk, Gen.C2Struct.defaultAesIv⟩ verify true pkts).exc = none := by
  induction cbs with
  | nil => exact ⟨[], [], rfl, rfl, rfl, by simp, rfl, rfl⟩
  | cons cb rest ih =>
    obtain ⟨pkts, bs, h1, h2, h3, h4, h5, h6⟩ := ih (fun x hx => hok x (by simp [hx]))
    obtain ⟨hcb, hlen⟩ := hok cb (by simp)
    obtain ⟨pkt, frame, pt, e1, e2, e3, e4, e5, e6⟩ := encryptCallback_spec c L k hk hk16 hne verify cb hcb hlen
    obtain ⟨d1, d2⟩ := decodePackets_cons_ok c ⟨some k, some hk, Gen.C2Struct.defaultAesIv⟩ verify true pkt pkts pt _ e5 e6
    refine ⟨pkt :: pkts, frame ++ bs, by simp only [encryptCallbacks, e1, h1, Except.map],
      by rw [C05.dumpsAll, e2, h2]; rfl, by simp [h3], List.forall_mem_cons.2 ⟨⟨e3, e4⟩, h4⟩, by rw [d1, h5]; rfl,
      by rw [d2, h6]⟩

/-! ### what `recover` returns for the two client programs -/

theorem normalise_output (p : Program) (c2 : C2Data) :
    (normalise p c2).output = if built p .output then some (c2.output.getD []) else none := rfl

theorem normalise_metadata (p : Program) (c2 : C2Data) :
    (normalise p c2).metadata = if built p .metadata then some (c2.metadata.getD []) else none := rfl

theorem callbackPackets_length (n : Nat) (cbs : List (Nat × Bytes)) : (callbackPackets n cbs).length = cbs.length := by
  induction cbs generalizing n with
  | nil => rfl
  | cons cb rest ih => obtain ⟨a, b⟩ := cb; simp [callbackPackets, ih]

theorem callback_request (c : Crypto) (L : CryptoLaws c) {cfg : HttpCfg} {pg pp : Program} {es : List Enc}
    (wf : WellFormedCfg cfg pg pp es) (cl : Client) (hcl : cl.cfg = cfg) (wc : WellFormedClient c cl)
    (cbs : List (Nat × Bytes)) (rand : C04.Rand) (verify : Bool)
    (hc : cl.counter + cbs.length < 2 ^ 32) (hcb : ∀ cb ∈ cbs, cb.1 < 2 ^ 32 ∧ cb.2.length + 64 < 2 ^ 32) :
    ∃ r out pkts, callbackRequest c cl cbs rand = .ok (r, { cl with counter := cl.counter + cbs.length }) ∧
      r.method = cfg.submitVerb ∧ r.uri = cfg.submitUri ∧
      recoverStage cfg (.request r) = .ok (normalise pp ⟨some out, none, some (idBytes cl)⟩) ∧
      C05.iterClient (some out) = (pkts, none) ∧ pkts.length = cbs.length ∧
      (decodePackets c (sessionKeys c cl) verify true pkts).items = (callbackPackets cl.counter cbs).map Item.callback ∧
      (decodePackets c (sessionKeys c cl) verify true pkts).exc = none ∧
      C04.transform (C04.mkTransform (compile pp) false none) rand ⟨some out, none, some (idBytes cl)⟩
        (some (initialPostRequest cl)) = .ok r := by
  obtain ⟨k, hk, hkeys, hk16, hhk16⟩ := sessionKeys_facts c L cl
  have hne : hk ≠ [] := ne_nil_of_length16 hhk16
  obtain ⟨pkts, bs, h1, h2, h3, h4, h5, h6⟩ := encryptCallbacks_spec c L k hk hk16 hne verify
    (callbackPackets cl.counter cbs) (callbackPackets_ok cl.counter cbs hc hcb)
  obtain ⟨bs', hb1, hb2⟩ := C05.client_frames_roundtrip pkts h4
  rw [h2] at hb1
  injection hb1 with hb1
  subst hb1
  obtain ⟨r, hr1, hr2, hr3, hr4⟩ := client_transform_recover pp wf.postValid wf.postNoUri
    ⟨some bs, none, some (idBytes cl)⟩ rand (initialPostRequest cl)
  have hlen := callbackPackets_length cl.counter cbs
  have hm : r.method = cfg.submitVerb := by rw [hr2]; simp [initialPostRequest, hcl]
  have hu : r.uri = cfg.submitUri := by rw [hr3]; simp [initialPostRequest, hcl]
  refine ⟨r, bs, pkts, ?_, hm, hu, ?_, hb2, by rw [h3, hlen], ?_, ?_, hr1⟩
  · simp only [callbackRequest, wc.keys, hkeys, h1, transformSubmit, hcl, wf.postProg, hr1, ofC04, Except.map]
  · have hroute : routeHttp cfg (.request r) = some .submit :=
      routeRequest_submit (fun h => wf.disjoint ⟨hm ▸ h.1, (startsWithAny_iff _ _).2 (hu ▸ h.2)⟩)
        ⟨hm, hu ▸ List.prefix_refl _⟩
    simp only [recoverStage, hroute, transformOf, transformSubmit, wf.postProg, hr4, ofC04]
  · rw [hkeys]; exact h5
  · rw [hkeys]; exact h6

/-! ### the server side -/

theorem rstep_response_irrel (hs hs' : Dict) (b : Bytes) (st : Step) (s : C04.RSt) (h : ∀ k, st ≠ .term (.header k)) :
    C04.rstep (.response hs b) st s = C04.rstep (.response hs' b) st s := by
  cases st with
  | term t =>
    cases t with
    | header k => exact absurd rfl (h k)
    | _ => rfl
  | build f => cases f <;> rfl
  | _ => rfl

theorem runR_response_irrel (hs hs' : Dict) (b : Bytes) (steps : List Step) (s : C04.RSt)
    (h : ∀ st ∈ steps, ∀ k, st ≠ .term (.header k)) :
    C04.runR (.response hs b) steps s = C04.runR (.response hs' b) steps s := by
  induction steps generalizing s with
  | nil => rfl
  | cons st rest ih =>
    simp only [C04.runR]
    rw [rstep_response_irrel hs hs' b st s (h st (by simp))]
    cases C04.rstep (.response hs' b) st s with
    | error e => rfl
    | ok s1 => exact ih s1 (fun st' hst => h st' (by simp [hst]))

theorem recover_response_headers (es : List Enc) (hs hs' : Dict) (b : Bytes) :
    C04.recover (C04.mkTransform (serverSteps es) true (some (some .output))) (.response hs b) =
      C04.recover (C04.mkTransform (serverSteps es) true (some (some .output))) (.response hs' b) := by
  unfold C04.recover
  rw [runR_response_irrel hs hs' b]
  intro st hst k hk
  have hr : (C04.mkTransform (serverSteps es) true (some (some .output))).rsteps =
      (Step.term .print :: (es.map fun e => Step.enc (C04.Ref.intForm e)).reverse) ++ [Step.build (some .output)] := rfl
  rw [hr, hk] at hst
  simp at hst

theorem server_body_recover {cfg : HttpCfg} {pg pp : Program} {es : List Enc} (wf : WellFormedCfg cfg pg pp es)
    (out : Bytes) (rand : C04.Rand) (hs : Dict) :
    recoverStage cfg (.response hs
      (C04.Ref.encode [.block ⟨.output, es, .print⟩] rand ⟨some out, none, none⟩ C04.emptyReq).body) =
      .ok ⟨some out, none, none⟩ := by
  have h := C04.model_decodes_ref_server es wf.serverOk ⟨some out, none, none⟩ rand C04.emptyReq
  simp only at h
  simp only [recoverStage, routeHttp, transformOf, transformResponse, wf.recoverProg]
  rw [recover_response_headers es hs _ _, h]
  rfl

/-! ### the decoder-state invariant of a session -/

/-- What is true of the decoder object along a session of the client `cl`.  `known` says whether the session keys
are in `self.beacon_keys`; while they are not, there are no keys at all and the metadata cache is still empty
(keys are derived in the same step that fills the cache). -/
structure Inv (c : Crypto) (cl : Client) (dec : Decoder) (known : Bool) : Prop where
  cfg : dec.cfg = cl.cfg
  cacheOk : ∀ blob m, dec.cache.lookup blob = some m → C06.decryptMetadata c.asym blob = .ok m
  keysKnown : known = true → dec.keys = sessionKeys c cl
  keysUnknown : known = false → dec.keys.aesKey = none ∧ dec.keys.hmacKey = none ∧ dec.cache = []

theorem frames_request_empty (o : Option Bytes) (h : o = none ∨ o = some []) : frames true o = ([], none) := by
  rcases h with rfl | rfl
  · rfl
  · simp only [frames, if_true, C05.iterClient, C05.iterClientPackets_nil]

theorem sessionKeys_truthy (c : Crypto) (L : CryptoLaws c) (cl : Client) :
    truthy (sessionKeys c cl).aesKey = true ∧ truthy (sessionKeys c cl).hmacKey = true := by
  obtain ⟨k, hk, h, h1, h2⟩ := sessionKeys_facts c L cl
  rw [h]
  constructor
  · exact truthy_some_ne (ne_nil_of_length16 h1)
  · exact truthy_some_ne (ne_nil_of_length16 h2)

theorem cacheOk_append (c : Crypto) (cache : List (Bytes × C06.Metadata)) (b' : Bytes) (m' : C06.Metadata)
    (hc : ∀ blob m, cache.lookup blob = some m → C06.decryptMetadata c.asym blob = .ok m)
    (hdec : C06.decryptMetadata c.asym b' = .ok m') :
    ∀ blob m, (cache ++ [(b', m')]).lookup blob = some m → C06.decryptMetadata c.asym blob = .ok m := by
  intro b m hb
  rw [List.lookup_append] at hb
  cases hl : cache.lookup b with
  | some m0 => rw [hl] at hb; exact hc b m (hl.trans hb)
  | none =>
    rw [hl, Option.none_or, List.lookup] at hb
    split at hb
    · rename_i heq
      rw [eq_of_beq heq, ← Option.some.inj hb]; exact hdec
    · cases hb

theorem metadataStep_checkin (c : Crypto) (L : CryptoLaws c) (cl : Client) (dec : Decoder) (known : Bool)
    (inv : Inv c cl dec known) (blob : Bytes)
    (hne : blob ≠ []) (hdec : C06.decryptMetadata c.asym blob = .ok (sentMetadata cl)) :
    ∃ dec' calls, metadataStep c dec (some blob) =
        ⟨if dec.hasPriv then [.metadata (sentMetadata cl)] else [], none, dec', calls⟩ ∧
      Inv c { cl with metadata := sentMetadata cl } dec' (known || dec.hasPriv) ∧
      dec'.hasPriv = dec.hasPriv ∧ dec'.verify = dec.verify := by
  cases hp : dec.hasPriv with
  | false =>
    refine ⟨dec, [], metadataStep_skip c dec _ (by simp [hp]), ?_, hp, rfl⟩
    rw [Bool.or_false]
    exact ⟨inv.cfg, inv.cacheOk, inv.keysKnown, inv.keysUnknown⟩
  | true =>
    have ht : (truthy (some blob) && dec.hasPriv) = true := by simp [truthy_some_ne hne, hp]
    rw [Bool.or_true]
    cases hl : dec.cache.lookup blob with
    | some m =>
      have hm : m = sentMetadata cl := by
        have := inv.cacheOk blob m hl
        rw [hdec] at this; injection this with this; exact this.symm
      have hk : known = true := by
        cases known with
        | true => rfl
        | false => have := (inv.keysUnknown rfl).2.2; rw [this] at hl; cases hl
      refine ⟨dec, [], ?_, ⟨inv.cfg, inv.cacheOk, fun _ => inv.keysKnown hk, fun h => by cases h⟩, hp, rfl⟩
      simp only [metadataStep, ht, if_true, Option.getD_some, hl, hm]
    | none =>
      cases hkn : known with
      | true =>
        have hkeys := inv.keysKnown hkn
        obtain ⟨t1, t2⟩ := sessionKeys_truthy c L cl
        rw [← hkeys] at t1 t2
        refine ⟨{ dec with cache := dec.cache ++ [(blob, sentMetadata cl)] }, [.rsaDec blob], ?_,
          ⟨inv.cfg, cacheOk_append c _ _ _ inv.cacheOk hdec, fun _ => hkeys, fun h => by cases h⟩, hp, rfl⟩
        simp only [metadataStep, ht, if_true, Option.getD_some, hl, hdec, t1, t2, Bool.and_self]
      | false =>
        obtain ⟨u1, u2, _⟩ := inv.keysUnknown hkn
        have t1 : truthy dec.keys.aesKey = false := by rw [u1]; rfl
        refine ⟨{ dec with cache := dec.cache ++ [(blob, sentMetadata cl)], keys := derivedKeys c (sentMetadata cl).aes_rand },
          [.rsaDec blob, .sha256 (sentMetadata cl).aes_rand], ?_,
          ⟨inv.cfg, cacheOk_append c _ _ _ inv.cacheOk hdec, fun _ => rfl, fun h => by cases h⟩, hp, rfl⟩
        simp only [metadataStep, ht, if_true, Option.getD_some, hl, hdec, t1, Bool.false_and, Bool.false_eq_true, if_false]

theorem checkin_step (c : Crypto) (L : CryptoLaws c) (cl : Client) (dec : Decoder) (known : Bool)
    (inv : Inv c cl dec known) (r : Req) (c2 : C2Data) (blob : Bytes)
    (hrec : recoverStage dec.cfg (.request r) = .ok c2) (hmd : c2.metadata = some blob)
    (hout : c2.output = none ∨ c2.output = some [])
    (hne : blob ≠ []) (hdec : C06.decryptMetadata c.asym blob = .ok (sentMetadata cl)) :
    (iterRecoverMsg c dec none (.request r)).items = (if dec.hasPriv then [.metadata (sentMetadata cl)] else []) ∧
    (iterRecoverMsg c dec none (.request r)).exc = none ∧
    Inv c { cl with metadata := sentMetadata cl } (iterRecoverMsg c dec none (.request r)).dec (known || dec.hasPriv) ∧
    (iterRecoverMsg c dec none (.request r)).dec.hasPriv = dec.hasPriv ∧
    (iterRecoverMsg c dec none (.request r)).dec.verify = dec.verify := by
  obtain ⟨dec', calls, hms, hinv, h1, h2⟩ := metadataStep_checkin c L cl dec known inv blob hne hdec
  simp only [iterRecoverMsg, hrec, hmd, hms, isRequest, frames_request_empty _ hout, decodePackets, List.append_nil,
    Option.map_none]
  exact ⟨trivial, trivial, hinv, h1, h2⟩


/-! ### messages without metadata: the packet loop -/

theorem iterRecoverMsg_packets (c : Crypto) (dec : Decoder) (http : Http) (c2 : C2Data)
    (hrec : recoverStage dec.cfg http = .ok c2) (hmeta : truthy c2.metadata = false) :
    (iterRecoverMsg c dec none http).items =
        (decodePackets c dec.keys dec.verify (isRequest http) (frames (isRequest http) c2.output).1).items ∧
    (iterRecoverMsg c dec none http).exc =
        (match (decodePackets c dec.keys dec.verify (isRequest http) (frames (isRequest http) c2.output).1).exc with
         | some e => some e
         | none => (frames (isRequest http) c2.output).2.map Exc.py) ∧
    (iterRecoverMsg c dec none http).dec = dec := by
  simp only [iterRecoverMsg, hrec, Option.getD_none, metadataStep_skip c dec c2.metadata (by simp [hmeta]), List.nil_append]
  exact ⟨trivial, rfl, trivial⟩

/-- both key states of a task or callback message, in the form of `expected` -/
theorem packets_step (c : Crypto) (cl : Client) (dec : Decoder) (known : Bool) (inv : Inv c cl dec known) (http : Http)
    (c2 : C2Data) (hrec : recoverStage dec.cfg http = .ok c2) (hmeta : truthy c2.metadata = false)
    (pkts : List C05.Packet) (hfr : frames (isRequest http) c2.output = (pkts, none)) (sent : List Item)
    (hlen : pkts.length = sent.length)
    (hdecode : (decodePackets c (sessionKeys c cl) dec.verify (isRequest http) pkts).items = sent ∧
      (decodePackets c (sessionKeys c cl) dec.verify (isRequest http) pkts).exc = none) :
    ((iterRecoverMsg c dec none http).items, (iterRecoverMsg c dec none http).exc) =
      (if known || sent.isEmpty then (sent, none) else ([], some (.py .valueError))) ∧
    (iterRecoverMsg c dec none http).dec = dec := by
  obtain ⟨h1, h2, h3⟩ := iterRecoverMsg_packets c dec http c2 hrec hmeta
  refine ⟨?_, h3⟩
  rw [h1, h2, hfr]
  cases known with
  | true => rw [inv.keysKnown rfl, hdecode.1, hdecode.2]; rfl
  | false =>
    cases pkts with
    | nil => rw [List.length_eq_zero_iff.1 hlen.symm]; rfl
    | cons p ps =>
      obtain ⟨u1, u2, _⟩ := inv.keysUnknown rfl
      obtain ⟨d1, d2, _⟩ := decodePackets_nokeys c dec.keys u1 u2 dec.verify (isRequest http) p ps
      rw [d1, d2]
      cases sent with
      | nil => cases hlen
      | cons _ _ => rfl

/-! ### the wire: parse ∘ render is the identity on well-formed message objects (C16) -/

/-- the hypotheses of C16's round-trip theorems for a message object -/
def MsgWireOk : Http → Prop
  | .request r => C16.WellFormedReq httpVersion r.method r.uri r.params r.headers
  | .response hs _ => C16.WellFormedHeaders hs

theorem parse_wireOf (h : Http) (hw : MsgWireOk h) : parseInput (.raw (wireOf h)) = .ok h := by
  cases h with
  | request r =>
    have hr := C16.request_roundtrip httpVersion r.method r.uri r.params r.headers r.body hw
    simp only [parseInput, wireOf, wireRequest, hr, ofPy, Except.map, msgToHttp]
  | response hs b =>
    have hr : C16.WellFormedResp httpVersion [50, 48, 48] [79, 75] hs :=
      ⟨by decide, by decide, ⟨by decide, by decide, by decide⟩, by decide, hw⟩
    simp only [parseInput, wireOf, wireResponse, C16.response_roundtrip _ _ _ _ _ hr, ofPy, Except.map, msgToHttp]

theorem iterRecoverHttp_msg (c : Crypto) (dec : Decoder) (h : Http) :
    iterRecoverHttp c dec (.msg h) = iterRecoverMsg c dec none h := rfl

theorem iterRecoverHttp_wire (c : Crypto) (dec : Decoder) (h : Http) (hw : MsgWireOk h) :
    iterRecoverHttp c dec (.raw (wireOf h)) = iterRecoverMsg c dec none h := by
  simp only [iterRecoverHttp, parse_wireOf h hw]

theorem iterRecoverHttp_of_input (c : Crypto) (dec : Decoder) (h : Http) (inp : Input)
    (hinp : inp = .msg h ∨ (MsgWireOk h ∧ inp = .raw (wireOf h))) :
    iterRecoverHttp c dec inp = iterRecoverMsg c dec none h := by
  rcases hinp with rfl | ⟨hw, rfl⟩
  · rfl
  · exact iterRecoverHttp_wire c dec h hw

theorem decodeAll_wire {α} (c : Crypto) (dec : Decoder) (l : List α) (f : α → Http) (hw : ∀ a ∈ l, MsgWireOk (f a)) :
    decodeAll c dec (l.map fun a => .raw (wireOf (f a))) = decodeAll c dec (l.map fun a => .msg (f a)) := by
  induction l generalizing dec with
  | nil => rfl
  | cons a l ih =>
    simp only [List.map_cons, decodeAll, iterRecoverHttp_wire c dec (f a) (hw a (by simp)), iterRecoverHttp_msg]
    rw [ih _ (fun a' h' => hw a' (by simp [h']))]

/-! ### sessions -/

/-- what a history may contain: tasks whose size field is right, callback counters / ids / lengths that fit 32 bits.
`+ 64`: the frame of a callback is a 32-bit size field over 12 header bytes, the data, at most 16 padding bytes and the
16-byte signature; 64 is a round bound for these 44. -/
def EventOk (counter : Nat) : Event → Prop
  | .checkin _ _ => True
  | .task none _ => True
  | .task (some t) _ => TaskOk t
  | .callbacks cbs _ => counter + cbs.length < 2 ^ 32 ∧ ∀ cb ∈ cbs, cb.1 < 2 ^ 32 ∧ cb.2.length + 64 < 2 ^ 32

/-- the client's callback counter after an event -/
def counterAfter (counter : Nat) : Event → Nat
  | .callbacks cbs _ => counter + cbs.length
  | _ => counter

def EventsOk : Nat → List Event → Prop
  | _, [] => True
  | n, ev :: evs => EventOk n ev ∧ EventsOk (counterAfter n ev) evs

/-- What decoding the message of one event must give: `sent` = the packets sent in it.  A check-in yields its metadata iff
the RSA private key is there; tasks and callbacks are yielded iff the session keys are known, else ValueError and nothing. -/
def expected (hasPriv known : Bool) (sent : List Item) : Event → List Item × Option Exc
  | .checkin _ _ => (if hasPriv then sent else [], none)
  | _ => if known || sent.isEmpty then (sent, none) else ([], some (.py .valueError))

/-- the keys are known after the first check-in seen by a decoder that has the RSA private key -/
def knownAfter (hasPriv known : Bool) : Event → Bool
  | .checkin _ _ => known || hasPriv
  | _ => known

def expectedTrace (hasPriv : Bool) : Bool → List Event → List (Http × List Item) → List (List Item × Option Exc)
  | known, ev :: evs, (_, sent) :: rest =>
    expected hasPriv known sent ev :: expectedTrace hasPriv (knownAfter hasPriv known ev) evs rest
  | _, _, _ => []

theorem wellFormedClient_sent (c : Crypto) (cl : Client) (wc : WellFormedClient c cl) :
    WellFormedClient c { cl with metadata := sentMetadata cl } :=
  ⟨C06.inWidth_setSize _ _ wc.inWidth wc.infoSmall, wc.aesLen, wc.magic, wc.fits, wc.infoSmall, wc.keys, wc.getUri⟩

theorem wellFormedClient_counter (c : Crypto) (cl : Client) (wc : WellFormedClient c cl) (n : Nat) :
    WellFormedClient c { cl with counter := n } :=
  ⟨wc.inWidth, wc.aesLen, wc.magic, wc.fits, wc.infoSmall, wc.keys, wc.getUri⟩

theorem inv_counter (c : Crypto) (cl : Client) (dec : Decoder) (known : Bool) (inv : Inv c cl dec known) (n : Nat) :
    Inv c { cl with counter := n } dec known :=
  ⟨inv.cfg, inv.cacheOk, inv.keysKnown, inv.keysUnknown⟩

theorem checkin_decoded (c : Crypto) (L : CryptoLaws c) {cfg : HttpCfg} {pg pp : Program} {es : List Enc}
    (wf : WellFormedCfg cfg pg pp es) (cl : Client) (hcl : cl.cfg = cfg) (wc : WellFormedClient c cl)
    (dec : Decoder) (known : Bool) (inv : Inv c cl dec known) (rr : C06.Rand) (rand : C04.Rand) :
    ∃ r, getTaskRequest c cl rr rand = .ok (r, { cl with metadata := sentMetadata cl }) ∧
      r.method = cfg.getVerb ∧ r.uri = cl.getUri ∧
      (iterRecoverMsg c dec none (.request r)).items = (if dec.hasPriv then [.metadata (sentMetadata cl)] else []) ∧
      (iterRecoverMsg c dec none (.request r)).exc = none ∧
      Inv c { cl with metadata := sentMetadata cl } (iterRecoverMsg c dec none (.request r)).dec (known || dec.hasPriv) ∧
      (iterRecoverMsg c dec none (.request r)).dec.hasPriv = dec.hasPriv ∧
      (iterRecoverMsg c dec none (.request r)).dec.verify = dec.verify := by
  obtain ⟨r, blob, h1, h2, h3, h4, h5, h6, _⟩ := checkin_request c L wf cl hcl wc rr rand
  have hmd : (normalise pg ⟨none, some blob, none⟩).metadata = some blob := by
    rw [normalise_metadata, wf.getMeta]; rfl
  have hout : (normalise pg ⟨none, some blob, none⟩).output = none ∨ (normalise pg ⟨none, some blob, none⟩).output = some [] := by
    rw [normalise_output]
    cases built pg .output
    · exact Or.inl rfl
    · exact Or.inr rfl
  rw [← hcl, ← inv.cfg] at h4
  exact ⟨r, h1, h2, h3, checkin_step c L cl dec known inv r _ blob h4 hmd hout h5 h6⟩

theorem frames_response_single (ct sig : Bytes) (hs : sig.length = 16) :
    frames false (some (ct ++ sig)) = ([⟨ct, sig⟩], none) := by
  simp only [frames, Bool.false_eq_true, if_false, C05.server_frame_roundtrip ct sig hs]

theorem frames_response_empty : frames false (some []) = ([], none) := rfl

theorem emit_task (c : Crypto) (L : CryptoLaws c) {cfg : HttpCfg} {pg pp : Program} {es : List Enc}
    (wf : WellFormedCfg cfg pg pp es) (hs : Dict) (cl : Client) (hcl : cl.cfg = cfg) (wc : WellFormedClient c cl)
    (dec : Decoder) (known : Bool) (inv : Inv c cl dec known) (t : Option Task) (rand : C04.Rand)
    (ht : ∀ t', t = some t' → TaskOk t') :
    ∃ body, emit c ⟨cl, es, hs⟩ (.task t rand) =
        .ok (.response hs body, ⟨cl, es, hs⟩, (match t with | none => [] | some t' => [.task t'])) ∧
      ((iterRecoverMsg c dec none (.response hs body)).items, (iterRecoverMsg c dec none (.response hs body)).exc) =
        expected dec.hasPriv known (match t with | none => [] | some t' => [.task t']) (.task t rand) ∧
      (iterRecoverMsg c dec none (.response hs body)).dec = dec := by
  have hrec : ∀ out, recoverStage dec.cfg (.response hs
      (C04.Ref.encode [.block ⟨.output, es, .print⟩] rand ⟨some out, none, none⟩ C04.emptyReq).body) =
      .ok ⟨some out, none, none⟩ := fun out => by
    rw [inv.cfg, hcl]; exact server_body_recover wf out rand hs
  cases t with
  | none => exact ⟨_, rfl, packets_step c cl dec known inv _ _ (hrec []) rfl [] frames_response_empty [] rfl ⟨rfl, rfl⟩⟩
  | some t =>
    obtain ⟨b, hdumps, hparse⟩ := task_roundtrip t (ht t rfl)
    obtain ⟨k, hk, hkeys, hk16, hhk16⟩ := sessionKeys_facts c L cl
    obtain ⟨pkt, e1, _, e2, e3⟩ := packet_roundtrip c L k hk hk16 (ne_nil_of_length16 hhk16) dec.verify b
    refine ⟨(C04.Ref.encode [.block ⟨.output, es, .print⟩] rand ⟨some (pkt.ciphertext ++ pkt.signature), none, none⟩
      C04.emptyReq).body, ?_, ?_⟩
    · simp only [emit, hdumps, serverBody, wc.keys, hkeys, e1, ofPy, Except.map]
    · have hfr := frames_response_single pkt.ciphertext pkt.signature e2
      obtain ⟨kpad, hp1, _⟩ := C05.pad_spec b
      have hd := decodePackets_cons_ok c (sessionKeys c cl) dec.verify false ⟨pkt.ciphertext, pkt.signature⟩ [] _ _
        (by rw [hkeys]; exact e3) (by rw [hp1]; exact hparse _)
      exact packets_step c cl dec known inv _ _ (hrec _) rfl _ hfr [.task t] rfl
        ⟨by show (decodePackets c (sessionKeys c cl) dec.verify false _).items = _; rw [hd.1]; rfl,
         by show (decodePackets c (sessionKeys c cl) dec.verify false _).exc = _; rw [hd.2]; rfl⟩

theorem callbacks_decoded (c : Crypto) (L : CryptoLaws c) {cfg : HttpCfg} {pg pp : Program} {es : List Enc}
    (wf : WellFormedCfg cfg pg pp es) (cl : Client) (hcl : cl.cfg = cfg) (wc : WellFormedClient c cl)
    (dec : Decoder) (known : Bool) (inv : Inv c cl dec known) (cbs : List (Nat × Bytes)) (rand : C04.Rand)
    (hc : cl.counter + cbs.length < 2 ^ 32) (hcb : ∀ cb ∈ cbs, cb.1 < 2 ^ 32 ∧ cb.2.length + 64 < 2 ^ 32) :
    ∃ r, callbackRequest c cl cbs rand = .ok (r, { cl with counter := cl.counter + cbs.length }) ∧
      r.method = cfg.submitVerb ∧ r.uri = cfg.submitUri ∧
      ((iterRecoverMsg c dec none (.request r)).items, (iterRecoverMsg c dec none (.request r)).exc) =
        expected dec.hasPriv known ((callbackPackets cl.counter cbs).map Item.callback) (.callbacks cbs rand) ∧
      (iterRecoverMsg c dec none (.request r)).dec = dec := by
  obtain ⟨r, out, pkts, h1, h2, h3, h4, h5, h6, h7, h8, _⟩ := callback_request c L wf cl hcl wc cbs rand dec.verify hc hcb
  refine ⟨r, h1, h2, h3, ?_⟩
  have hmeta : truthy (normalise pp ⟨some out, none, some (idBytes cl)⟩).metadata = false := by
    rw [normalise_metadata]
    cases built pp .metadata <;> rfl
  have hout : (normalise pp ⟨some out, none, some (idBytes cl)⟩).output = some out := by
    rw [normalise_output, wf.postOutput]; rfl
  have hfr : frames (isRequest (.request r)) (normalise pp ⟨some out, none, some (idBytes cl)⟩).output = (pkts, none) := by
    rw [hout]; exact h5
  rw [← hcl, ← inv.cfg] at h4
  exact packets_step c cl dec known inv _ _ h4 hmeta pkts hfr _
    (by rw [h6, List.length_map, callbackPackets_length]) ⟨h7, h8⟩

theorem emitAll_cons_ok (c : Crypto) (s s' : Sender) (ev : Event) (evs : List Event) (h : Http) (sent : List Item)
    (msgs : List (Http × List Item)) (h1 : emit c s ev = .ok (h, s', sent)) (h2 : emitAll c s' evs = .ok msgs) :
    emitAll c s (ev :: evs) = .ok ((h, sent) :: msgs) := by
  simp only [emitAll, h1, h2, Except.map]

theorem decodeAll_cons (c : Crypto) (dec : Decoder) (h : Http) (rest : List Input) :
    (decodeAll c dec (.msg h :: rest)).1 =
      iterRecoverMsg c dec none h :: (decodeAll c (iterRecoverMsg c dec none h).dec rest).1 := rfl

/-! ### the constructor: what a call that returns has passed, and the three kinds of sufficient key material -/

theorem ok_of_ite_error {α} {p : Prop} [Decidable p] {e : Exc} {x : X α} {d : α}
    (h : (if p then .error e else x) = .ok d) : ¬ p ∧ x = .ok d := by
  split at h
  · cases h
  · exact ⟨‹¬ p›, h⟩

/-- `is_trial` is the last of the seven tests of `__init__`; a call that returns has passed them all -/
theorem mkDecoder_ok_not_trial {c : Crypto} {cfg : HttpCfg} {a : KeyArgs} {pubOk trial : Bool} {d : Decoder}
    (h : mkDecoder c cfg a pubOk trial = .ok d) : ¬ trial = true :=
  (ok_of_ite_error (ok_of_ite_error (ok_of_ite_error (ok_of_ite_error (ok_of_ite_error (ok_of_ite_error
    (ok_of_ite_error h).2).2).2).2).2).2).1

theorem mkDecoder_rsa (c : Crypto) (cl : Client) (verify : Bool) :
    ∃ dec, mkDecoder c cl.cfg { priv := some true, verify := verify } true false = .ok dec ∧
      Inv c cl dec false ∧ dec.hasPriv = true ∧ dec.verify = verify :=
  ⟨_, rfl, ⟨rfl, fun _ _ h => (by cases h), fun h => (by cases h), fun _ => ⟨rfl, rfl, rfl⟩⟩, rfl, rfl⟩

theorem truthy_none : truthy none = false := rfl

theorem any_length_ne_false (b : Bytes) (h : b.length = 16) : (some b).any (fun x => x.length != 16) = false := by
  simp [h]

theorem mkDecoder_keys (c : Crypto) (L : CryptoLaws c) (cl : Client) (verify : Bool) (priv : Bool) :
    ∃ k hk dec, sessionKeys c cl = ⟨some k, some hk, Gen.C2Struct.defaultAesIv⟩ ∧
      mkDecoder c cl.cfg { aesKey := some k, hmacKey := some hk, priv := if priv then some true else none, verify := verify }
        true false = .ok dec ∧
      Inv c cl dec true ∧ dec.hasPriv = priv ∧ dec.verify = verify := by
  obtain ⟨k, hk, hkeys, h1, h2⟩ := sessionKeys_facts c L cl
  have t1 : truthy (some k) = true := truthy_some_ne (ne_nil_of_length16 h1)
  refine ⟨k, hk, ⟨cl.cfg, ⟨some k, some hk, Gen.C2Struct.defaultAesIv⟩, priv, verify, []⟩, hkeys, ?_,
    ⟨rfl, fun _ _ h => (by cases h), fun _ => hkeys.symm, fun h => (by cases h)⟩, rfl, rfl⟩
  cases priv <;>
    simp [mkDecoder, t1, any_length_ne_false k h1, any_length_ne_false hk h2, truthy_none]

theorem mkDecoder_rand (c : Crypto) (L : CryptoLaws c) (cl : Client) (hlen : cl.metadata.aes_rand.length = 16)
    (verify : Bool) (priv : Bool) :
    ∃ dec, mkDecoder c cl.cfg { aesRand := some cl.metadata.aes_rand, priv := if priv then some true else none, verify := verify }
        true false = .ok dec ∧
      Inv c cl dec true ∧ dec.hasPriv = priv ∧ dec.verify = verify := by
  obtain ⟨_, h1, h2⟩ := C06.derive_split c.asym L.asym cl.metadata.aes_rand
  have t1 : truthy (some cl.metadata.aes_rand) = true := truthy_some_ne (ne_nil_of_length16 hlen)
  refine ⟨⟨cl.cfg, sessionKeys c cl, priv, verify, []⟩, ?_,
    ⟨rfl, fun _ _ h => (by cases h), fun _ => rfl, fun h => (by cases h)⟩, rfl, rfl⟩
  cases priv <;>
    simp [mkDecoder, t1, any_length_ne_false _ h1, any_length_ne_false _ h2, truthy_none, sessionKeys, derivedKeys]

/-! ### the wire form of what the client transforms produce: encoder outputs -/

/-- CR-freeness of the output of an encoder chain, whatever the payload: tracks whether the data is known to be CR-free
(`base64`, `base64url`, `netbios`, `netbiosu` make it so, `mask` destroys it, prepend/append keep it iff their string is
CR-free).  This is the "printable placement" condition needed for header terminations. -/
def cleanGo : Bool → List Enc → Bool
  | clean, [] => clean
  | clean, .append a :: es => cleanGo (clean && C16.noCR a.toBytes) es
  | clean, .prepend a :: es => cleanGo (clean && C16.noCR a.toBytes) es
  | _, .base64 :: es => cleanGo true es
  | _, .base64url :: es => cleanGo true es
  | _, .netbios :: es => cleanGo true es
  | _, .netbiosu :: es => cleanGo true es
  | _, .mask :: es => cleanGo false es

def cleanOut (es : List Enc) : Bool := cleanGo false es

theorem noCR_append (a b : Bytes) : C16.noCR (a ++ b) = (C16.noCR a && C16.noCR b) := by
  simp [C16.noCR, List.all_append]

theorem alpha_ne_cr : ∀ n, n < 64 → ∀ u, C04.Ref.alpha u n ≠ 13 := by decide

theorem noCR_b64chars (url : Bool) (x : Bytes) : C16.noCR (C04.Ref.b64chars url x) = true := by
  rw [C16.noCR_iff]
  intro b hb
  simp only [C04.Ref.b64chars, List.mem_map] at hb
  obtain ⟨s, hs, rfl⟩ := hb
  exact alpha_ne_cr s (C04.sextets_lt x s hs) url

theorem noCR_replicate61 (k : Nat) : C16.noCR (List.replicate k 61) = true := by
  rw [C16.noCR_iff]
  intro b hb
  rw [List.mem_replicate] at hb
  rw [hb.2]; decide

theorem ofNat_ne_cr (n : Nat) (h1 : 14 ≤ n) (h2 : n < 256) : UInt8.ofNat n ≠ 13 := by
  intro h
  have := congrArg UInt8.toNat h
  simp at this
  omega

theorem noCR_nbEnc (base : Nat) (hb1 : 14 ≤ base) (hb2 : base ≤ 240) (x : Bytes) : C16.noCR (C04.Ref.nbEnc base x) = true := by
  rw [C16.noCR_iff]
  intro b hb
  simp only [C04.Ref.nbEnc, List.mem_flatMap, List.mem_cons, List.not_mem_nil, or_false] at hb
  obtain ⟨c, _, rfl | rfl⟩ := hb
  · have := c.toNat_lt; exact ofNat_ne_cr _ (by omega) (by omega)
  · have := c.toNat_lt; exact ofNat_ne_cr _ (by omega) (by omega)

theorem enc1_clean (e : Enc) (x w : Bytes) (clean : Bool) (h : C04.Enc1 e x w) (hx : clean = true → C16.noCR x = true) :
    ∀ es, ∃ clean', cleanGo clean (e :: es) = cleanGo clean' es ∧ (clean' = true → C16.noCR w = true) := by
  intro es
  rcases h with ⟨r, rfl⟩ | ⟨rfl, rfl⟩
  · cases e with
    | append a =>
      refine ⟨clean && C16.noCR a.toBytes, rfl, fun hc => ?_⟩
      simp only [Bool.and_eq_true] at hc
      simp only [C04.Ref.encStep, noCR_append, hx hc.1, hc.2, Bool.and_self]
    | prepend a =>
      refine ⟨clean && C16.noCR a.toBytes, rfl, fun hc => ?_⟩
      simp only [Bool.and_eq_true] at hc
      simp only [C04.Ref.encStep, noCR_append, hx hc.1, hc.2, Bool.and_self]
    | base64 =>
      refine ⟨true, rfl, fun _ => ?_⟩
      simp only [C04.Ref.encStep, C04.Ref.b64enc, noCR_append, noCR_b64chars, noCR_replicate61, Bool.and_self]
    | base64url => exact ⟨true, rfl, fun _ => noCR_b64chars true x⟩
    | netbios => exact ⟨true, rfl, fun _ => noCR_nbEnc 97 (by omega) (by omega) x⟩
    | netbiosu => exact ⟨true, rfl, fun _ => noCR_nbEnc 65 (by omega) (by omega) x⟩
    | mask => exact ⟨false, rfl, fun h => by cases h⟩
  · refine ⟨true, rfl, fun _ => ?_⟩
    simp only [C04.Ref.b64urlenc, noCR_append, noCR_b64chars, noCR_replicate61, Bool.and_self]

theorem encN_clean (es : List Enc) (x v : Bytes) (clean : Bool) (h : C04.EncN es x v)
    (hx : clean = true → C16.noCR x = true) (hc : cleanGo clean es = true) : C16.noCR v = true := by
  induction es generalizing x clean with
  | nil => simp only [C04.EncN] at h; subst h; exact hx hc
  | cons e es ih =>
    obtain ⟨w, h1, h2⟩ := h
    obtain ⟨clean', e1, e2⟩ := enc1_clean e x w clean h1 hx es
    exact ih w clean' h2 e2 (by rw [← e1]; exact hc)

theorem sextets_ne_nil (x : Bytes) (h : x ≠ []) : C04.Ref.sextets x ≠ [] := by
  match x, h with
  | [_], _ => simp [C04.Ref.sextets]
  | [_, _], _ => simp [C04.Ref.sextets]
  | _ :: _ :: _ :: _, _ => simp [C04.Ref.sextets]

theorem enc1_nonempty (e : Enc) (x w : Bytes) (h : C04.Enc1 e x w) (hx : x ≠ []) : w ≠ [] := by
  have hs := sextets_ne_nil x hx
  rcases h with ⟨r, rfl⟩ | ⟨rfl, rfl⟩
  · cases e with
    | append a => simp [C04.Ref.encStep, hx]
    | prepend a => simp [C04.Ref.encStep, hx]
    | base64 => simp [C04.Ref.encStep, C04.Ref.b64enc, C04.Ref.b64chars, hs]
    | base64url => simp [C04.Ref.encStep, C04.Ref.b64urlenc, C04.Ref.b64chars, hs]
    | netbios =>
      cases x with
      | nil => exact absurd rfl hx
      | cons a t => simp [C04.Ref.encStep, C04.Ref.nbEnc]
    | netbiosu =>
      cases x with
      | nil => exact absurd rfl hx
      | cons a t => simp [C04.Ref.encStep, C04.Ref.nbEnc]
    | mask => simp [C04.Ref.encStep, C04.Ref.key32]
  · simp [C04.Ref.b64urlenc, C04.Ref.b64chars, hs]

theorem encN_nonempty (es : List Enc) (x v : Bytes) (h : C04.EncN es x v) (hx : x ≠ []) : v ≠ [] := by
  induction es generalizing x with
  | nil => simp only [C04.EncN] at h; subst h; exact hx
  | cons e es ih =>
    obtain ⟨w, h1, h2⟩ := h
    exact ih w h2 (enc1_nonempty e x w h1 hx)

/-! ### the wire form of what the client transforms produce: dictionaries -/

/-- `d[k] = v` of C04's dictionaries is the function C16 models under the name `dictSet`: its lemmas apply -/
theorem set_eq_dictSet (d : Dict) (k v : Bytes) : d.set k v = C16.dictSet d k v := by
  induction d with
  | nil => rfl
  | cons kv rest ih => simp only [C04.Dict.set, C16.dictSet, ih]

theorem set_keys_nodup (d : Dict) (k v : Bytes) (h : (d.map Prod.fst).Nodup) : ((d.set k v).map Prod.fst).Nodup := by
  rw [set_eq_dictSet]
  exact C16.dictSet_nodup d k v h

theorem mem_set (d : Dict) (k v : Bytes) (p : Bytes × Bytes) (h : p ∈ d.set k v) : p = (k, v) ∨ p ∈ d := by
  induction d with
  | nil => exact Or.inl (List.mem_singleton.1 h)
  | cons kv rest ih =>
    obtain ⟨k', v'⟩ := kv
    rw [C04.Dict.set] at h
    split at h
    · rename_i hk
      rcases List.mem_cons.1 h with h | h
      · exact Or.inl (hk ▸ h)
      · exact Or.inr (List.mem_cons_of_mem _ h)
    · rcases List.mem_cons.1 h with h | h
      · exact Or.inr (h ▸ List.mem_cons_self)
      · exact (ih h).imp_right (List.mem_cons_of_mem _)

/-- what C16's request round trip needs of the two dictionaries -/
structure DictsOk (params headers : Dict) : Prop where
  pk : (params.map Prod.fst).Nodup
  pv : ∀ p ∈ params, p.2 ≠ []
  hk : (headers.map Prod.fst).Nodup
  hv : ∀ h ∈ headers, C16.wellFormedHeader h = true

theorem dictsOk_setParam {ps hs : Dict} (h : DictsOk ps hs) (k v : Bytes) (hv : v ≠ []) : DictsOk (ps.set k v) hs :=
  ⟨set_keys_nodup ps k v h.pk, fun p hp => by
    rcases mem_set ps k v p hp with rfl | hp
    · exact hv
    · exact h.pv p hp, h.hk, h.hv⟩

theorem dictsOk_setHeader {ps hs : Dict} (h : DictsOk ps hs) (k v : Bytes) (hw : C16.wellFormedHeader (k, v) = true) :
    DictsOk ps (hs.set k v) :=
  ⟨h.pk, h.pv, set_keys_nodup hs k v h.hk, fun p hp => by
    rcases mem_set hs k v p hp with rfl | hp
    · exact hw
    · exact h.hv p hp⟩

/-- which field a block of this program may carry -/
def itemWireOk (allowed : Field → Bool) : C04.Ref.Item → Bool
  | .deco (.header n v) => C16.wellFormedHeader (n, v)
  | .deco (.hostheader n v) => C16.wellFormedHeader (n, v)
  | .deco (.parameter _ v) => !v.isEmpty
  | .block b =>
    allowed b.field &&
    match b.term with
    | .header k => C16.wellFormedHeader (k, []) && cleanOut b.encs
    | .parameter _ => true
    | .print => true
    | .uriAppend => false

/-- Printable placements: static headers are well-formed header lines, static parameters have non-empty values, a block
terminating in `header` has a well-formed header name and an encoder chain with CR-free output, no uri-append. -/
def progWireOk (allowed : Field → Bool) (p : Program) : Bool := p.all (itemWireOk allowed)

theorem wellFormedHeader_value (k v : Bytes) (hk : C16.wellFormedHeader (k, []) = true) (hv : C16.noCR v = true) :
    C16.wellFormedHeader (k, v) = true := by
  simp only [C16.wellFormedHeader, Bool.and_eq_true] at hk ⊢
  exact ⟨hk.1, hv⟩

theorem dictsOk_deco (allowed : Field → Bool) (d : C04.Ref.Deco) {r : C04.Req} (hs : DictsOk r.params r.headers)
    (hit : itemWireOk allowed (.deco d) = true) : DictsOk (d.apply r).params (d.apply r).headers := by
  cases d with
  | header n v => exact dictsOk_setHeader hs n v hit
  | hostheader n v => exact dictsOk_setHeader hs n v hit
  | parameter n v => exact dictsOk_setParam hs n v (by intro h0; subst h0; simp [itemWireOk] at hit)

theorem block_run (c2 : C2Data) (b : C04.Ref.Block) (s : C04.TSt) :
    ∃ v r', C04.EncN b.encs (C04.payload c2 b.field) v ∧
      C04.runT c2 b.toSteps s = C04.tstep c2 (.term b.term) { s with data := v, rand := r' } := by
  obtain ⟨v, r', hc, hN⟩ := C04.encChain_spec b.encs s.rand (C04.payload c2 b.field)
  refine ⟨v, r', hN, ?_⟩
  have h0 : C04.runT c2 (Step.build (some b.field) :: b.encs.map Step.enc) s
      = .ok { s with data := v, rand := r' } := by
    rw [C04.runT]
    show (Except.ok ({ s with data := C04.payload c2 b.field } : C04.TSt)).bind _ = _
    simp only [Except.bind]
    rw [C04.runT_encs]
    simp [hc, Except.map]
  rw [C04.Ref.Block.toSteps, C04.runT_append, h0]
  simp only [Except.bind]
  rw [C04.runT_single]

theorem transform_dictsOk (c2 : C2Data) (allowed : Field → Bool) (p : Program) (hv : valid p = true)
    (hw : progWireOk allowed p = true) (hpay : ∀ f, allowed f = true → C04.payload c2 f ≠ []) :
    ∀ (s s' : C04.TSt), DictsOk s.params s.headers → C04.runT c2 (compile p) s = .ok s' → DictsOk s'.params s'.headers := by
  induction p with
  | nil => intro s s' hs h; simp only [compile, C04.runT, Except.ok.injEq] at h; subst h; exact hs
  | cons it rest ih =>
    intro s s' hs h
    simp only [progWireOk, List.all_cons, Bool.and_eq_true] at hw
    obtain ⟨hit, hrest⟩ := hw
    cases it with
    | deco d =>
      obtain ⟨hn, hv2⟩ := C04.valid_cons_deco hv
      obtain ⟨sd, hst, hsd⟩ := C04.deco_toStep d hn
      obtain ⟨s1, h1⟩ : ∃ s1, C04.tstep c2 (.static sd) s = .ok s1 := by cases sd <;> exact ⟨_, rfl⟩
      simp only [compile, C04.runT, hst, h1, Except.bind] at h
      have hreq : s1.toReq C04.emptyReq = d.apply (s.toReq C04.emptyReq) :=
        hsd ▸ C04.tstep_toReq c2 C04.emptyReq _ s s1 h1
      have hs1 := dictsOk_deco allowed d (r := s.toReq C04.emptyReq) hs hit
      rw [← hreq] at hs1
      exact ih hv2 hrest s1 s' hs1 h
    | block b =>
      obtain ⟨_, _, hv2⟩ := C04.valid_cons_block hv
      obtain ⟨v, r', hN, hrun⟩ := block_run c2 b s
      simp only [compile, C04.runT_append, hrun] at h
      simp only [itemWireOk, Bool.and_eq_true] at hit
      obtain ⟨hal, hterm⟩ := hit
      have hvne : v ≠ [] := encN_nonempty b.encs _ v hN (hpay _ hal)
      cases hb : b.term with
      | print =>
        rw [hb] at h
        simp only [C04.tstep, Except.bind] at h
        exact ih hv2 hrest _ s' (by exact hs) h
      | uriAppend => rw [hb] at hterm; cases hterm
      | header k =>
        rw [hb] at h hterm
        simp only [Bool.and_eq_true] at hterm
        simp only [C04.tstep, Except.bind] at h
        have hclean := encN_clean b.encs _ v false hN (fun hf => by cases hf) hterm.2
        exact ih hv2 hrest _ s' (dictsOk_setHeader hs k v (wellFormedHeader_value k v hterm.1 hclean)) h
      | parameter k =>
        rw [hb] at h
        simp only [C04.tstep, Except.bind] at h
        exact ih hv2 hrest _ s' (dictsOk_setParam hs k v hvne) h

/-! ### the wire form of what the client transforms produce: requests -/

/-- a verb that survives the request line: one token, not starting with `HTTP/` in any case -/
def verbOk (v : Bytes) : Bool := C16.isToken v && !C16.startsWithHTTP v

/-- The configuration-level hypotheses under which every request of the client meets C16's round-trip hypotheses:
token verbs, clean absolute paths, printable placements (`progWireOk`), the get program only carries the metadata and
the post program only id and output. -/
structure WireCfg (cfg : HttpCfg) (pg pp : Program) : Prop where
  getVerb : verbOk cfg.getVerb = true
  submitVerb : verbOk cfg.submitVerb = true
  getUris : ∀ u ∈ cfg.getUris, C16.wellFormedPath u = true
  submitUri : C16.wellFormedPath cfg.submitUri = true
  getItems : progWireOk (fun f => f == .metadata) pg = true
  postItems : progWireOk (fun f => f == .id || f == .output) pp = true

/-- User-Agent and Host values of the client are CR-free -/
structure WireClient (cl : Client) : Prop where
  ua : C16.noCR cl.userAgent = true
  host : C16.noCR cl.hostHeader = true

theorem initialHeaders_ok (cl : Client) (w : WireClient cl) : DictsOk [] (initialHeaders cl) := by
  refine ⟨by simp, by simp, by simp [initialHeaders, hUserAgent, hHost], ?_⟩
  intro h hh
  simp only [initialHeaders, List.mem_cons, List.not_mem_nil, or_false] at hh
  rcases hh with rfl | rfl
  · simp only [C16.wellFormedHeader, w.ua, Bool.and_true]; decide
  · simp only [C16.wellFormedHeader, w.host, Bool.and_true]; decide

theorem client_transform_wireOk (p : Program) (hv : valid p = true) (allowed : Field → Bool)
    (hw : progWireOk allowed p = true) (c2 : C2Data) (hpay : ∀ f, allowed f = true → C04.payload c2 f ≠ [])
    (rand : C04.Rand) (req r : Req) (hreq : DictsOk req.params req.headers) (hverb : verbOk req.method = true)
    (hpath : C16.wellFormedPath req.uri = true)
    (hr : C04.transform (C04.mkTransform (compile p) false none) rand c2 (some req) = .ok r)
    (hm : r.method = req.method) (hu : r.uri = req.uri) : MsgWireOk (.request r) := by
  simp only [C04.transform, C04.mk_client, Option.getD_some] at hr
  cases hrun : C04.runT c2 (compile p) (C04.TSt.init req rand) with
  | error e => rw [hrun] at hr; cases hr
  | ok s' =>
    rw [hrun] at hr
    simp only [Except.map, Except.ok.injEq] at hr
    have hd := transform_dictsOk c2 allowed p hv hw hpay _ s' hreq hrun
    have hp : r.params = s'.params := by rw [← hr]; rfl
    have hh : r.headers = s'.headers := by rw [← hr]; rfl
    simp only [verbOk, Bool.and_eq_true, Bool.not_eq_true'] at hverb
    show C16.WellFormedReq httpVersion r.method r.uri r.params r.headers
    rw [hm, hu, hp, hh]
    exact ⟨by decide, hverb.1, hverb.2, hpath, hd.pk, hd.pv, ⟨hd.hv, hd.hk⟩⟩

theorem getTaskRequest_wireOk (c : Crypto) (L : CryptoLaws c) {cfg : HttpCfg} {pg pp : Program} {es : List Enc}
    (wf : WellFormedCfg cfg pg pp es) (wcfg : WireCfg cfg pg pp) (cl : Client) (hcl : cl.cfg = cfg)
    (wc : WellFormedClient c cl) (wcl : WireClient cl) (rr : C06.Rand) (rand : C04.Rand) (r : Req) (cl' : Client)
    (h : getTaskRequest c cl rr rand = .ok (r, cl')) : MsgWireOk (.request r) := by
  subst hcl
  obtain ⟨r1, blob, h1, hr2, hr3, _, hne, _, hr1⟩ := checkin_request c L wf cl rfl wc rr rand
  rw [h1] at h
  obtain ⟨rfl, _⟩ := Prod.mk.inj (Except.ok.inj h)
  refine client_transform_wireOk pg wf.getValid _ wcfg.getItems _ ?_ rand (initialGetRequest cl) r1
    (initialHeaders_ok cl wcl) wcfg.getVerb (wcfg.getUris _ wc.getUri) hr1 hr2 hr3
  intro f hf
  have : f = .metadata := by simpa using hf
  subst this
  exact hne

theorem iterClient_nil : C05.iterClient (some []) = ([], none) := by
  simp only [C05.iterClient, C05.iterClientPackets_nil]

theorem callbackRequest_wireOk (c : Crypto) (L : CryptoLaws c) {cfg : HttpCfg} {pg pp : Program} {es : List Enc}
    (wf : WellFormedCfg cfg pg pp es) (wcfg : WireCfg cfg pg pp) (cl : Client) (hcl : cl.cfg = cfg)
    (wc : WellFormedClient c cl) (wcl : WireClient cl) (cbs : List (Nat × Bytes)) (rand : C04.Rand)
    (hne : cbs ≠ []) (hc : cl.counter + cbs.length < 2 ^ 32) (hcb : ∀ cb ∈ cbs, cb.1 < 2 ^ 32 ∧ cb.2.length + 64 < 2 ^ 32)
    (r : Req) (cl' : Client) (h : callbackRequest c cl cbs rand = .ok (r, cl')) : MsgWireOk (.request r) := by
  subst hcl
  obtain ⟨r1, out, pkts, h1, hr2, hr3, _, hfr, hlen, _, _, hr1⟩ := callback_request c L wf cl rfl wc cbs rand true hc hcb
  rw [h1] at h
  obtain ⟨rfl, _⟩ := Prod.mk.inj (Except.ok.inj h)
  have hout : out ≠ [] := by
    intro h0
    rw [h0, iterClient_nil] at hfr
    rw [← (Prod.mk.inj hfr).1] at hlen
    exact hne (List.length_eq_zero_iff.1 hlen.symm)
  refine client_transform_wireOk pp wf.postValid _ wcfg.postItems _ ?_ rand (initialPostRequest cl) r1
    (initialHeaders_ok cl wcl) wcfg.submitVerb wcfg.submitUri hr1 hr2 hr3
  intro f hf
  simp only [Bool.or_eq_true, beq_iff_eq] at hf
  rcases hf with rfl | rfl
  · exact C16.natDigits_ne_nil _
  · exact hout

/-- one induction over the events gives the trace and, for a wire-safe configuration, `MsgWireOk` of every message -/
theorem session_induction (c : Crypto) (L : CryptoLaws c) {cfg : HttpCfg} {pg pp : Program} {es : List Enc}
    (wf : WellFormedCfg cfg pg pp es) (hs : Dict) :
    ∀ (evs : List Event) (cl : Client) (dec : Decoder) (known : Bool),
      cl.cfg = cfg → WellFormedClient c cl → Inv c cl dec known → EventsOk cl.counter evs →
      ∃ msgs, emitAll c ⟨cl, es, hs⟩ evs = .ok msgs ∧
        (decodeAll c dec (msgs.map fun m => Input.msg m.1)).1.map (fun o => (o.items, o.exc)) =
          expectedTrace dec.hasPriv known evs msgs ∧
        (WireCfg cfg pg pp → WireClient cl → C16.WellFormedHeaders hs →
          (∀ cbs rand, Event.callbacks cbs rand ∈ evs → cbs ≠ []) → ∀ m ∈ msgs, MsgWireOk m.1) := by
  intro evs
  induction evs with
  | nil => intro cl dec known _ _ _ _; exact ⟨[], rfl, rfl, fun _ _ _ _ _ hm => nomatch hm⟩
  | cons ev evs ih =>
    intro cl dec known hcl wc inv hok
    obtain ⟨hev, hrest⟩ := hok
    cases ev with
    | checkin rr rand =>
      obtain ⟨r, e0, _, _, s1, s2, s3, s4, _⟩ := checkin_decoded c L wf cl hcl wc dec known inv rr rand
      have e1 : emit c ⟨cl, es, hs⟩ (.checkin rr rand) = .ok (.request r, ⟨{ cl with metadata := sentMetadata cl }, es, hs⟩,
          [.metadata (sentMetadata cl)]) := by simp only [emit, e0, Except.map]
      obtain ⟨msgs, m1, m2, m3⟩ := ih { cl with metadata := sentMetadata cl } _ _ hcl (wellFormedClient_sent c cl wc) s3 hrest
      refine ⟨_, emitAll_cons_ok c _ _ _ evs _ _ msgs e1 m1, ?_, fun wcfg wcl hhs hne => List.forall_mem_cons.2
        ⟨getTaskRequest_wireOk c L wf wcfg cl hcl wc wcl rr rand r _ e0,
          m3 wcfg ⟨wcl.ua, wcl.host⟩ hhs (fun cbs rand h => hne cbs rand (List.mem_cons_of_mem _ h))⟩⟩
      rw [List.map_cons, decodeAll_cons, List.map_cons, m2, s4]
      simp only [expectedTrace, expected, knownAfter, s1, s2]
    | task t rand =>
      obtain ⟨body, e1, e2, e3⟩ := emit_task c L wf hs cl hcl wc dec known inv t rand
        (fun t' ht' => by subst ht'; exact hev)
      rw [← e3] at inv
      obtain ⟨msgs, m1, m2, m3⟩ := ih cl _ known hcl wc inv hrest
      refine ⟨_, emitAll_cons_ok c _ _ _ evs _ _ msgs e1 m1, ?_, fun wcfg wcl hhs hne => List.forall_mem_cons.2
        ⟨hhs, m3 wcfg wcl hhs (fun cbs rand h => hne cbs rand (List.mem_cons_of_mem _ h))⟩⟩
      rw [List.map_cons, decodeAll_cons, List.map_cons, m2, e3]
      simp only [expectedTrace, knownAfter, e2]
    | callbacks cbs rand =>
      obtain ⟨r, e0, _, _, e2, e3⟩ := callbacks_decoded c L wf cl hcl wc dec known inv cbs rand hev.1 hev.2
      have e1 : emit c ⟨cl, es, hs⟩ (.callbacks cbs rand) = .ok (.request r,
          ⟨{ cl with counter := cl.counter + cbs.length }, es, hs⟩, (callbackPackets cl.counter cbs).map Item.callback) := by
        simp only [emit, e0, Except.map]
      rw [← e3] at inv
      obtain ⟨msgs, m1, m2, m3⟩ := ih { cl with counter := cl.counter + cbs.length } _ known hcl
        (wellFormedClient_counter c cl wc _) (inv_counter c cl _ known inv _) hrest
      refine ⟨_, emitAll_cons_ok c _ _ _ evs _ _ msgs e1 m1, ?_, fun wcfg wcl hhs hne => List.forall_mem_cons.2
        ⟨callbackRequest_wireOk c L wf wcfg cl hcl wc wcl cbs rand (hne cbs rand List.mem_cons_self) hev.1 hev.2 r _ e0,
          m3 wcfg ⟨wcl.ua, wcl.host⟩ hhs (fun cbs rand h => hne cbs rand (List.mem_cons_of_mem _ h))⟩⟩
      rw [List.map_cons, decodeAll_cons, List.map_cons, m2, e3]
      simp only [expectedTrace, knownAfter, e2]

end C07

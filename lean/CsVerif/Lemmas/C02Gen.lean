import CsVerif.Model.C02Gen
import CsVerif.Lemmas.C02
import CsVerif.Props.C20Gen
import CsVerif.Lemmas.PyULib
/-! The operations of the untyped run-time (`PyU`, `PyU_T02`) against the primitives of the C02 model, and the translated definitions of
`Gen/PyBeaconCfg.lean` against the model functions (`iter_settings` through the list-level `C02.parseSpec`). -/
namespace C02Gen
open PyU Gen.Beacon

theorem pure_ok {α : Type} (a : α) : (pure a : Py α) = .ok a := PyU.pure_ok a
theorem throw_err {α : Type} (e : PyExc) : (throw e : Py α) = .error e := PyU.throw_err e

/-- a `BytesIO` whose consumed prefix is `pre` and whose unread rest is `s` -/
def mk (pre s : Bytes) : V := .bytesIO (pre ++ s) pre.length

theorem read_mk (pre s : Bytes) (k : Nat) :
    PyU.read (mk pre s) (.int (k : Int)) = .ok (.bytes (s.take k), mk (pre ++ s.take k) (s.drop k)) := by
  rw [mk, read_nat, List.drop_left, mk, List.append_assoc, List.length_append, List.take_append_drop]

/- Instances at the numerals of the source (here and below): `rw` matches the literal `V.int 2`, not the cast `((2 : Nat) : Int)`. -/
theorem read1_nil (pre : Bytes) : PyU.read (mk pre []) (.int 1) = .ok (.bytes [], mk pre []) := by
  simpa using read_mk pre [] 1
theorem read1_cons (pre : Bytes) (b : UInt8) (tl : Bytes) :
    PyU.read (mk pre (b :: tl)) (.int 1) = .ok (.bytes [b], mk (pre ++ [b]) tl) := read_mk pre (b :: tl) 1
theorem read_mk2 (pre s : Bytes) : PyU.read (mk pre s) (.int 2) = .ok (.bytes (s.take 2), mk (pre ++ s.take 2) (s.drop 2)) := read_mk pre s 2

theorem seek_cur_neg (data : Bytes) (pos k : Nat) (hk : k ≤ 9223372036854775807) :
    bioSeek (.bytesIO data pos) (.int (-(k : Int))) (.int 1) = .ok (.int ((pos - k : Nat) : Int), .bytesIO data (pos - k)) := by
  simp only [bioSeek, asInt, ssizeMax, cintMax]
  have h1 : ¬ (-(k : Int) < -9223372036854775807 - 1 ∨ 9223372036854775807 < -(k : Int)) := by omega
  have h2 : ¬ ((1 : Int) < -2147483647 - 1 ∨ (2147483647 : Int) < 1) := by omega
  have h3 : ¬ (0 < -(k : Int) ∧ -(k : Int) > 9223372036854775807 - (pos : Int)) := by omega
  simp only [h1, h2, h3, if_false, if_true, true_or, show ¬ ((1 : Int) = 0) by omega]
  by_cases h : (pos : Int) + -(k : Int) < 0
  · have : pos - k = 0 := by omega
    simp [h, this]
  · have e : ((pos : Int) + -(k : Int)).toNat = pos - k := by omega
    simp [h, e]

theorem seek_unread (pre a r : Bytes) (ha : a.length ≤ 9223372036854775807) :
    bioSeek (mk (pre ++ a) r) (.int (-(a.length : Int))) (.int 1) = .ok (.int (pre.length : Int), mk pre (a ++ r)) := by
  have e : (pre ++ a).length - a.length = pre.length := by rw [List.length_append, Nat.add_sub_cancel]
  rw [mk, seek_cur_neg _ _ _ ha, e, mk, List.append_assoc]

theorem uintOf_be (l : Bytes) : uintOf true l = C02.fromBE l := by
  simp [uintOf, beNat_eq_foldl, C02.fromBE]

/-- the field values of a decoded record, as `Setting(fobj)` creates them (`index` is a `BeaconSetting`) -/
def fieldVals (s : C02.Setting) : List V :=
  [.enum Gen.PyBeaconCfg.BeaconSetting (s.index : Int), .enum Gen.PyBeaconCfg.SettingsType (s.type : Int), .int (s.length : Int), .bytes s.value]

theorem readFields_setting (r : Bytes) :
    readFields true Gen.PyBeaconCfg.SettingCls.fields Gen.PyBeaconCfg.Setting.tys r [] =
      match C02.decodeOne r with
      | none => .error .eofError
      | some (s, r1) => .ok (fieldVals s, r1) := by
  simp only [Gen.PyBeaconCfg.Setting, Gen.PyBeaconCfg.SettingCls]
  unfold C02.decodeOne
  by_cases h2 : r.length < 2
  · have h6 : r.length < 6 := by omega
    simp [readFields, h2, h6, Gen.PyBeaconCfg.BeaconSetting]
  by_cases h4 : r.length < 4
  · have h6 : r.length < 6 := by omega
    have : r.length - 2 < 2 := by omega
    simp [readFields, h2, h6, this, Gen.PyBeaconCfg.BeaconSetting, Gen.PyBeaconCfg.SettingsType]
  by_cases h6 : r.length < 6
  · have a : ¬ r.length - 2 < 2 := by omega
    have b : r.length - 4 < 2 := by omega
    simp [readFields, h2, h6, a, b, Gen.PyBeaconCfg.BeaconSetting, Gen.PyBeaconCfg.SettingsType]
  have a : ¬ r.length - 2 < 2 := by omega
  have b : ¬ r.length - 4 < 2 := by omega
  by_cases hv : r.length - 6 < C02.fromBE (List.take 2 (List.drop 4 r))
  · simp [readFields, h2, h6, a, b, hv, Gen.PyBeaconCfg.BeaconSetting, Gen.PyBeaconCfg.SettingsType, uintOf_be, asInt]
  · simp [readFields, h2, h6, a, b, hv, Gen.PyBeaconCfg.BeaconSetting, Gen.PyBeaconCfg.SettingsType, uintOf_be, asInt, fieldVals]

theorem structRead_mk (pre r : Bytes) :
    structRead Gen.PyBeaconCfg.Setting (mk pre r) =
      match C02.decodeOne r with
      | none => .error .eofError
      | some (s, r1) => .ok (.inst Gen.PyBeaconCfg.SettingCls (fieldVals s), mk (pre ++ r.take (r.length - r1.length)) r1) := by
  simp only [structRead, mk, List.drop_left]
  rw [show (Gen.PyBeaconCfg.Setting).cls = Gen.PyBeaconCfg.SettingCls from rfl,
    show (Gen.PyBeaconCfg.Setting).bigEndian = true from rfl, readFields_setting]
  cases hd : C02.decodeOne r with
  | none => rfl
  | some p =>
    obtain ⟨s, r1⟩ := p
    have hr := (C02.decodeOne_spec hd).1
    have hS : r.take (r.length - r1.length) = C02.serializeOne s := by rw [hr]; simp
    dsimp only
    rw [hS, List.append_assoc, ← hr]
    congr 3
    rw [hr]; simp only [List.length_append]; omega

theorem structRead_short (data : Bytes) (pos : Nat) (h : data.length - pos < 6) :
    structRead Gen.PyBeaconCfg.Setting (.bytesIO data pos) = .error .eofError := by
  simp only [structRead]
  rw [show (Gen.PyBeaconCfg.Setting).cls = Gen.PyBeaconCfg.SettingCls from rfl,
    show (Gen.PyBeaconCfg.Setting).bigEndian = true from rfl, readFields_setting,
    C02.decodeOne_short (by rw [List.length_drop]; exact h)]

theorem getAttr_index (i t l v : V) : getAttr (.inst Gen.PyBeaconCfg.SettingCls [i, t, l, v]) "index" = .ok i := by
  simp [getAttr, lookupField, Gen.PyBeaconCfg.SettingCls]
theorem getAttr_type (i t l v : V) : getAttr (.inst Gen.PyBeaconCfg.SettingCls [i, t, l, v]) "type" = .ok t := by
  simp [getAttr, lookupField, Gen.PyBeaconCfg.SettingCls]
theorem getAttr_length (i t l v : V) : getAttr (.inst Gen.PyBeaconCfg.SettingCls [i, t, l, v]) "length" = .ok l := by
  simp [getAttr, lookupField, Gen.PyBeaconCfg.SettingCls]
theorem getAttr_value (i t l v : V) : getAttr (.inst Gen.PyBeaconCfg.SettingCls [i, t, l, v]) "value" = .ok v := by
  simp [getAttr, lookupField, Gen.PyBeaconCfg.SettingCls]
theorem setAttr_index (i t l v x : V) :
    instSetAttr (.inst Gen.PyBeaconCfg.SettingCls [i, t, l, v]) "index" x = .ok (.inst Gen.PyBeaconCfg.SettingCls [x, t, l, v]) := by
  simp [instSetAttr, setField, Gen.PyBeaconCfg.SettingCls]

theorem gen_iter_settings_loop2_step (i t l : V) (pre r v : Bytes) :
    Gen.PyBeaconCfg.iter_settings_loop2 (mk pre r, .inst Gen.PyBeaconCfg.SettingCls [i, t, l, .bytes v]) = .ok
      (match r with
       | [] => (.brk, (mk pre [], .inst Gen.PyBeaconCfg.SettingCls [i, t, l, .bytes v]))
       | b :: tl =>
         if b = 0 then (.brk, (mk pre (0 :: tl), .inst Gen.PyBeaconCfg.SettingCls [i, t, l, .bytes v]))
         else (.cont, (mk (pre ++ [b]) tl, .inst Gen.PyBeaconCfg.SettingCls [i, t, l, .bytes (v ++ [b])]))) := by
  unfold Gen.PyBeaconCfg.iter_settings_loop2
  dsimp only
  cases r with
  | nil => rw [read1_nil, PyU.ok_bind]; rfl
  | cons b tl =>
    rw [read1_cons, PyU.ok_bind]
    dsimp only
    rw [if_neg (show ¬ ((!truthy (V.bytes [b])) = true) by simp [truthy])]
    by_cases hb : b = 0
    · subst hb
      rw [if_pos (show PyU.eq (.bytes [0]) (.bytes [0]) = true from rfl), show bioSeek _ (.int (-1)) _ = _ from seek_unread pre [0] tl (by decide),
        PyU.ok_bind]
      rfl
    · have hne : ¬ (PyU.eq (.bytes [b]) (.bytes [0]) = true) := by simpa [PyU.eq] using hb
      rw [if_neg hne, if_neg hb, getAttr_value, PyU.ok_bind]
      rfl

theorem gen_iter_settings_loop2_spec (i t l : V) : ∀ (fuel : Nat) (pre r v : Bytes), r.length < fuel →
    whileFuel fuel Gen.PyBeaconCfg.iter_settings_loop2 (mk pre r, .inst Gen.PyBeaconCfg.SettingCls [i, t, l, .bytes v])
      = .ok (mk (pre ++ r.takeWhile (· != 0)) (r.dropWhile (· != 0)),
             .inst Gen.PyBeaconCfg.SettingCls [i, t, l, .bytes (v ++ r.takeWhile (· != 0))]) := by
  intro fuel
  induction fuel with
  | zero => intro _ r _ h; omega
  | succ n ih =>
    intro pre r v h
    rw [whileFuel, gen_iter_settings_loop2_step]
    cases r with
    | nil => simp
    | cons b tl =>
      by_cases hb : b = 0
      · simp [hb]
      · dsimp only
        rw [if_neg hb]
        dsimp only
        rw [ih _ _ _ (by simp at h; omega)]
        simp [hb]
theorem slice_to2 (x : Bytes) : PyU.slice (.bytes x) .none (.int 2) = .ok (.bytes (x.take 2)) := slice_to_nat x 2

theorem enumMember_of_find (cls : EnumCls) (name : String) (v : Nat)
    (h : (cls.members.find? (·.2 == name)).map (·.1) = some v) : enumMember cls name = .ok (.enum cls (v : Int)) := by
  unfold enumMember
  cases hf : cls.members.find? (·.2 == name) with
  | none => rw [hf] at h; cases h
  | some m => rw [hf] at h; cases h; rfl

/- The table search is left to the kernel; deciding the equation between two `V.enum` values would also compare their member tables. -/
theorem member_useragent : enumMember Gen.PyBeaconCfg.BeaconSetting "SETTING_USERAGENT"
    = .ok (.enum Gen.PyBeaconCfg.BeaconSetting (settingUserAgent : Nat)) := enumMember_of_find _ _ _ (by decide +kernel)
theorem member_watermarkhash : enumMember Gen.PyBeaconCfg.BeaconSetting "SETTING_WATERMARKHASH"
    = .ok (.enum Gen.PyBeaconCfg.BeaconSetting (settingWatermarkHash : Nat)) := enumMember_of_find _ _ _ (by decide +kernel)
theorem member_short : enumMember Gen.PyBeaconCfg.SettingsType "TYPE_SHORT"
    = .ok (.enum Gen.PyBeaconCfg.SettingsType (typeShort : Nat)) := enumMember_of_find _ _ _ (by decide +kernel)
theorem member_int : enumMember Gen.PyBeaconCfg.SettingsType "TYPE_INT"
    = .ok (.enum Gen.PyBeaconCfg.SettingsType (typeInt : Nat)) := enumMember_of_find _ _ _ (by decide +kernel)
theorem member_inject : enumMember Gen.PyBeaconCfg.DeprecatedBeaconSetting "SETTING_INJECT_OPTIONS"
    = .ok (.enum Gen.PyBeaconCfg.DeprecatedBeaconSetting (deprecatedInjectOptions : Nat)) := enumMember_of_find _ _ _ (by decide +kernel)

theorem eq_int_128 (a : Nat) : PyU.eq (.int (a : Int)) (.int 128) = decide (a = 128) := PyU.eq_int_nat a 128

theorem ge_int (a b : Int) : PyU.ge (.int a) (.int b) = .ok (!decide (a < b)) := PyU.ge_int a b

theorem ge_int_128 (a : Nat) : PyU.ge (.int (a : Int)) (.int 128) = .ok (decide (a ≥ 128)) := by
  rw [ge_int]
  by_cases h : a ≥ 128
  · have : ¬ ((a : Int) < 128) := by omega
    simp [h, this]
  · have : (a : Int) < 128 := by omega
    simp [h, this]

theorem rstrip_nul (v : Bytes) : PyU.rstrip (.bytes v) (.bytes [0]) = .ok (.bytes (C02.rstripNul v)) := by
  have : (fun c : UInt8 => [(0 : UInt8)].contains c) = (fun x => x == 0) := by
    funext c; simp only [List.contains_cons, List.contains_nil, Bool.or_false]
  unfold PyU.rstrip
  simp only [rstripL, C02.rstripNul]
  rw [this]

theorem yieldTo_list (acc : List V) (x : V) : yieldTo (.list acc) x = .list (acc ++ [x]) := by rfl

/-- One run of the loop body is one step of `C02.parseSpec`.  The body is run on `res` statement by statement, one `rw` per call. -/
theorem gen_iter_settings_loop1_spec (fuelIn : Nat) (pre r : Bytes) (acc : List V) (hf : r.length < fuelIn) :
    match (if r.take 2 = [0, 0] then none else C02.decodeOne r) with
    | none => ∃ p, Gen.PyBeaconCfg.iter_settings_loop1 fuelIn (mk pre r, .list acc) = .ok (.brk, (p, .list acc))
    | some (s, r1) => ∃ p', Gen.PyBeaconCfg.iter_settings_loop1 fuelIn (mk pre r, .list acc)
        = .ok (.cont, (mk p' (C02.fixupSpec s r1).2, .list (acc ++ [encSetting (C02.fixupSpec s r1).1]))) := by
  obtain ⟨res, hres⟩ : ∃ res, Gen.PyBeaconCfg.iter_settings_loop1 fuelIn (mk pre r, .list acc) = res := ⟨_, rfl⟩
  rw [hres]
  unfold Gen.PyBeaconCfg.iter_settings_loop1 at hres
  dsimp only at hres
  rw [read_mk2, PyU.ok_bind] at hres
  dsimp only at hres
  rw [slice_to2, PyU.ok_bind, List.take_take, Nat.min_self] at hres
  by_cases hz : r.take 2 = [0, 0]
  · rw [if_pos (by rw [hz]; rfl)] at hres
    rw [if_pos hz]
    exact ⟨_, hres.symm⟩
  have hne : ¬ (PyU.eq (.bytes (r.take 2)) (.bytes [0, 0]) = true) := by simpa [PyU.eq] using hz
  rw [if_neg hne] at hres
  rw [if_neg hz]
  by_cases hs : r.length < 2
  · -- short peek: the seek back is clamped at 0, fewer than 6 bytes remain, the struct read fails
    rw [mk, show (V.int (-2)) = V.int (-((2 : Nat) : Int)) from rfl, seek_cur_neg _ _ 2 (by omega)] at hres
    dsimp only [attempt, PyRt.ok_bind] at hres
    rw [structRead_short _ _ (by simp only [List.length_append, List.length_take, List.length_drop]; omega)] at hres
    rw [C02.decodeOne_short (by omega)]
    exact ⟨_, hres.symm⟩
  have hb := seek_unread pre (r.take 2) (r.drop 2) (Nat.le_trans (List.length_take_le 2 r) (by decide))
  rw [List.take_append_drop, List.length_take, Nat.min_eq_left (by omega)] at hb
  rw [show bioSeek _ (.int (-2)) _ = _ from hb] at hres
  dsimp only [attempt, PyRt.ok_bind] at hres
  rw [structRead_mk] at hres
  cases hd : C02.decodeOne r with
  | none => rw [hd] at hres; exact ⟨_, hres.symm⟩
  | some q =>
    obtain ⟨s, r1⟩ := q
    have hlen := C02.decodeOne_length hd
    have hdep : s.deprecated = false := (C02.decodeOne_spec hd).2.2.2.2.2.1
    have hid : encSetting s = .inst Gen.PyBeaconCfg.SettingCls (fieldVals s) := by rw [encSetting, hdep]; rfl
    rw [hd] at hres
    dsimp only [PyRt.ok_bind] at hres ⊢
    simp only [fieldVals, getAttr_index, getAttr_type, getAttr_length, getAttr_value, setAttr_index, member_useragent,
      member_watermarkhash, member_short, member_inject, eq_enum_same, eq_int_128, PyU.ok_bind, yieldTo_list, pure_ok,
      rstrip_nul, PyU.len, ge_int_128, decide_eq_true_eq] at hres
    rw [C02.fixupTree] at hres
    unfold C02.fixupSpec
    by_cases hov : s.uaOverlong
    · rw [if_pos hov, gen_iter_settings_loop2_spec _ _ _ fuelIn _ r1 s.value (by omega), PyU.ok_bind] at hres
      rw [if_pos hov]
      exact ⟨_, by rw [← hres, encSetting, hdep]; rfl⟩
    · rw [if_neg hov] at hres ⊢
      by_cases hwm : s.index = settingWatermarkHash ∧ s.type = typeShort
      · rw [if_pos hwm] at hres ⊢
        exact ⟨_, by rw [← hres]; rfl⟩
      · rw [if_neg hwm] at hres ⊢
        exact ⟨_, by rw [← hres, hid]; rfl⟩

theorem gen_iter_settings_loop (fuelIn : Nat) : ∀ (fuel : Nat) (pre r : Bytes) (acc : List V), r.length < fuel → r.length < fuelIn →
    ∃ p, whileFuel fuel (Gen.PyBeaconCfg.iter_settings_loop1 fuelIn) (mk pre r, .list acc)
      = .ok (p, .list (acc ++ (C02.parseSpec r).map encSetting)) := by
  intro fuel
  induction fuel with
  | zero => intro _ r _ h; omega
  | succ n ih =>
    intro pre r acc hl hin
    have hstep := gen_iter_settings_loop1_spec fuelIn pre r acc hin
    rw [C02.parseSpec_eq]
    by_cases hz : r.take 2 = [0, 0]
    · rw [if_pos hz] at hstep
      obtain ⟨p, hp⟩ := hstep
      exact ⟨p, by simp [whileFuel, hp, hz]⟩
    · rw [if_neg hz] at hstep
      cases hd : C02.decodeOne r with
      | none =>
        rw [hd] at hstep
        obtain ⟨p, hp⟩ := hstep
        exact ⟨p, by simp [whileFuel, hp, hz]⟩
      | some q =>
        obtain ⟨s, r1⟩ := q
        rw [hd] at hstep
        obtain ⟨p', hp'⟩ := hstep
        have h1 := C02.decodeOne_length hd
        have h2 := C02.fixupSpec_length_le s r1
        obtain ⟨p, hp⟩ := ih p' (C02.fixupSpec s r1).2 (acc ++ [encSetting (C02.fixupSpec s r1).1]) (by omega) (by omega)
        exact ⟨p, by simp [whileFuel, hp', hp, hz]⟩

theorem fromBE_eq (d : Bytes) : C02.fromBE d = C20.fromLE d.reverse := by
  simp [C02.fromBE, C20.foldl_be]

theorem u16be_bytes (d : Bytes) : Gen.PyBeaconCfg.u16be (.bytes d) = .ok (.int (C02.u16be d)) := by
  simp only [Gen.PyBeaconCfg.u16be, liftBytesInt, C20Gen.gen_u16be, Except.map]
  simp [C20.unpack, C20.fromBytes, C20.fromBytesU, pySliceTo, C02.u16be, fromBE_eq]

theorem u32be_bytes (d : Bytes) : Gen.PyBeaconCfg.u32be (.bytes d) = .ok (.int (C02.u32be d)) := by
  simp only [Gen.PyBeaconCfg.u32be, liftBytesInt, C20Gen.gen_u32be, Except.map]
  simp [C20.unpack, C20.fromBytes, C20.fromBytesU, pySliceTo, C02.u32be, fromBE_eq]

theorem gen_setting_enums_loop (ss : List C02.Setting) (acc : List V) :
    forList (ss.map encSetting) Gen.PyBeaconCfg.setting_enums_comp1 (.list acc)
      = .ok (.list (acc ++ ss.map fun s => encNat s.index)) := by
  induction ss generalizing acc with
  | nil => simp [forList]
  | cons s ss ih =>
    simp only [List.map_cons, forList, Gen.PyBeaconCfg.setting_enums_comp1, encSetting, getAttr_index, PyU.ok_bind,
      getAttr_enum_value, PyU.append, pure_ok]
    simp [ih, encNat]

theorem maxOf_ints (x : Nat) (xs : List Nat) :
    List.foldl (fun m v => if (asInt m).getD 0 < (asInt v).getD 0 then v else m) (encNat x) (xs.map encNat)
      = encNat (xs.foldl max x) := by
  induction xs generalizing x with
  | nil => rfl
  | cons y ys ih =>
    simp only [List.map_cons, List.foldl_cons, encNat, asInt, Option.getD_some]
    by_cases h : (x : Int) < (y : Int)
    · have : max x y = y := by omega
      simp only [h, if_true, this]; exact ih y
    · have : max x y = x := by omega
      simp only [h, if_false, this]; exact ih x

/-- the `str` whose code points are the bytes `b` -/
def strOfBytes (b : Bytes) : String := String.ofList (b.map fun x => Char.ofNat x.toNat)

theorem cps_strOfBytes (b : Bytes) : cps (strOfBytes b) = b.map (·.toNat) := by
  have h (x : UInt8) : (Char.ofNat x.toNat).toNat = x.toNat := by
    have hv : x.toNat.isValidChar := Or.inl (by have := x.toNat_lt; omega)
    simp [Char.ofNat, hv, Char.ofNatAux, Char.toNat]
  simp [cps, strOfBytes, String.toList_ofList, h]

/-- Stated from bytes to strings: the kernel compares a literal with `String.ofList …` directly, the other way it would decode every literal. -/
theorem names_of_bytes :
    settingNames = settingNameBytes.map (fun p => (p.1, strOfBytes p.2)) ∧
    deprecatedNames = deprecatedNameBytes.map (fun p => (p.1, strOfBytes p.2)) := by
  constructor <;> rfl

/-- `BeaconSetting.members` is the value → name table followed by the name → value list: a search by value never gets past the table. -/
theorem members_covered : ∀ m ∈ settingMembers, (settingNameBytes.lookup m.2).isSome := by decide +kernel

theorem find?_fst_map {β γ : Type} (g : β → γ) (l : List (Nat × β)) (k : Nat) :
    (l.map fun p => (p.1, g p.2)).find? (·.1 == k) = (l.lookup k).map fun b => (k, g b) := by
  induction l with
  | nil => rfl
  | cons p ps ih =>
    by_cases h : p.1 = k
    · simp [List.lookup, h]
    · have h' : (k == p.1) = false := by simpa using fun e => h e.symm
      simp [List.lookup, h, h', ih]

theorem members_find (d : Bool) (idx : Nat) :
    (indexCls d).members.find? (·.1 == idx) = (C02.enumName d idx).map fun n => (idx, strOfBytes n) := by
  unfold C02.enumName
  cases d
  · simp only [indexCls, Gen.PyBeaconCfg.BeaconSetting, Bool.false_eq_true, if_false, List.find?_append, names_of_bytes.1,
      find?_fst_map]
    cases h : settingNameBytes.lookup idx with
    | some n => rfl
    | none =>
      have : (settingMembers.map fun p => (p.2, p.1)).find? (·.1 == idx) = none := by
        rw [List.find?_eq_none]
        intro x hx hxi
        obtain ⟨m, hm, rfl⟩ := List.mem_map.mp hx
        have := members_covered m hm
        rw [show m.2 = idx from beq_iff_eq.mp hxi, h] at this
        cases this
      rw [this]
      rfl
  · simp only [indexCls, Gen.PyBeaconCfg.DeprecatedBeaconSetting, if_true, names_of_bytes.2, find?_fst_map]

/-- `setting.index.name` -/
theorem getAttr_name (d : Bool) (idx : Nat) :
    getAttr (.enum (indexCls d) (idx : Int)) "name"
      = .ok (match C02.enumName d idx with | some n => encAscii n | none => .none) := by
  have hneg : ¬ ((idx : Int) < 0) := by omega
  simp only [getAttr, hneg, if_false, Int.toNat_natCast, members_find]
  cases C02.enumName d idx with
  | none => rfl
  | some n =>
    simp only [Option.map_some, lit, cps_strOfBytes, encAscii]
    rfl

theorem digitChar_toNat : ∀ m < 10, (Nat.digitChar m).toNat = 48 + m := by decide

theorem toDigits10 (n : Nat) : (Nat.toDigits 10 n).map Char.toNat = (C02.decimal n).map (·.toNat) := by
  induction n using Nat.strongRecOn with
  | _ n ih =>
    rw [C02.decimal]
    by_cases h : n < 10
    · simp only [h, if_true, Nat.toDigits_of_lt_base h, digitChar_toNat n h, C02.digit_toNat n h, List.map_cons, List.map_nil]
    · have hq : 0 < n / 10 := by omega
      have hr : n % 10 < 10 := by omega
      have e := Nat.toDigits_append_toDigits (b := 10) (n := n / 10) (d := n % 10) (by decide) hq hr
      have e2 : 10 * (n / 10) + n % 10 = n := by omega
      rw [e2] at e
      simp only [h, if_false, ← e, List.map_append, ih (n / 10) (by omega), Nat.toDigits_of_lt_base hr, List.map_cons, List.map_nil,
        digitChar_toNat _ hr, C02.digit_toNat _ hr]

theorem decStr_nat (n : Nat) : decStr (n : Int) = (C02.decimal n).map (·.toNat) := by
  have h : ¬ ((n : Int) < 0) := by omega
  simp [decStr, h, toDigits10]

theorem decimal_digits (n : Nat) : ∀ c ∈ (C02.decimal n).map (·.toNat), 48 ≤ c ∧ c ≤ 57 := by
  induction n using Nat.strongRecOn with
  | _ n ih =>
    rw [C02.decimal]
    by_cases h : n < 10
    · simp [h]; omega
    · have hr : n % 10 < 10 := by omega
      intro c hc
      simp only [h, if_false, List.map_append, List.mem_append, List.map_cons, List.map_nil, List.mem_singleton] at hc
      rcases hc with hc | hc
      · exact ih (n / 10) (by omega) c hc
      · rw [hc, C02.digit_toNat _ hr]; omega

theorem replaceGo_notin (c c' : Nat) (l : List Nat) (h : c ∉ l) : replaceGo [c] [c'] l 0 = l := by
  induction l with
  | nil => rfl
  | cons x xs ih =>
    have hx : ¬ (c = x) := fun e => h (e ▸ List.mem_cons_self)
    have hxs : c ∉ xs := fun m => h (List.mem_cons_of_mem _ m)
    simp [replaceGo, List.isPrefixOf, hx, ih hxs]

theorem replaceGo_dot (c c' : Nat) (a rest : List Nat) (h : c ∉ a) :
    replaceGo [c] [c'] (a ++ c :: rest) 0 = a ++ c' :: replaceGo [c] [c'] rest 0 := by
  induction a with
  | nil => simp [replaceGo, List.isPrefixOf]
  | cons x xs ih =>
    have hx : ¬ (c = x) := fun e => h (e ▸ List.mem_cons_self)
    have hxs : c ∉ xs := fun m => h (List.mem_cons_of_mem _ m)
    simp [replaceGo, List.isPrefixOf, hx, ih hxs]

/-- the class name in front of the dot (code points below: 46 = `.`, 95 = `_`, 48 … 57 = `0` … `9`) -/
def clsName (d : Bool) : String := if d then "DeprecatedBeaconSetting" else "BeaconSetting"

theorem clsName_facts : ∀ d : Bool,
    List.find? (fun x => x.1 == (indexCls d).cid) Gen.PyBeaconCfg.enumNames = some ((indexCls d).cid, clsName d) ∧
    46 ∉ cps (clsName d) ∧
    cps (clsName d) ++ [95] = (if d then deprecatedUnknownPrefixBytes else unknownPrefixBytes).map (·.toNat) := by
  decide +kernel

/-- `str(setting.index)` of a nameless member, as code points -/
def namelessStr (d : Bool) (idx : Nat) : List Nat := cps (clsName d) ++ [46] ++ (C02.decimal idx).map (·.toNat)

theorem strOf_nameless (d : Bool) (idx : Nat) (h : C02.enumName d idx = none) :
    strOf Gen.PyBeaconCfg.enumNames (.enum (indexCls d) (idx : Int)) = .ok (.str (namelessStr d idx)) := by
  obtain ⟨f1, _, _⟩ := clsName_facts d
  have hneg : ¬ ((idx : Int) < 0) := by omega
  simp only [strOf, f1, hneg, if_false, Int.toNat_natCast, members_find, h, Option.map_none, decStr_nat, namelessStr]

/-- `….replace(".", "_")` of that string -/
theorem replace_nameless (d : Bool) (idx : Nat) (h : C02.enumName d idx = none) :
    strReplace (.str (namelessStr d idx)) (lit ".") (lit "_") = .ok (encAscii (C02.nameKey d idx)) := by
  obtain ⟨_, f2, f3⟩ := clsName_facts d
  have e1 : cps "." = [46] := by decide
  have e2 : cps "_" = [95] := by decide
  have hd : (46 : Nat) ∉ (C02.decimal idx).map (·.toNat) := by
    intro hm
    have := decimal_digits idx 46 hm
    omega
  simp only [strReplace, lit, namelessStr, e1, e2, List.isEmpty_cons, Bool.false_eq_true, if_false, List.append_assoc, List.singleton_append,
    replaceGo_dot 46 95 _ _ f2, replaceGo_notin 46 95 _ hd, C02.nameKey, h, encAscii, List.map_append, ← f3]

theorem indexCls_cid (d d' : Bool) : ((indexCls d).cid == (indexCls d').cid) = (d == d') := by
  cases d <;> cases d' <;> decide

theorem keyEq_enc (a b : C02.Key) : keyEq (encKey a) (encKey b) = decide (a = b) := by
  cases a <;> cases b <;> simp only [encKey, encAscii, keyEq, PyU.eq, Bool.and_true, Bool.and_false, reduceCtorEq, decide_false]
  · rename_i x y
    by_cases h : x = y
    · simp [h]
    · have : ¬ (x.map (·.toNat) = y.map (·.toNat)) := fun e => h (map_toNat_inj e)
      simp [h, this]
  · rename_i x y
    by_cases h : x = y
    · simp [h]
    · have : ¬ ((x : Int) = (y : Int)) := by omega
      simp [h, this]
  · rename_i d x d' y
    rw [indexCls_cid]
    by_cases h : x = y
    · cases d <;> cases d' <;> simp [h]
    · have : ¬ ((x : Int) = (y : Int)) := by omega
      simp [h, this]

theorem hashable_encKey (k : C02.Key) : hashable (encKey k) = true := by
  cases k <;> simp [encKey, encAscii, hashable]

def ek (p : C02.Key × C02.Val) : V := encKey p.1
def ev (p : C02.Key × C02.Val) : V := encVal p.2

theorem encMap_eq (m : List (C02.Key × C02.Val)) : encMap m = .dict (m.map ek) (m.map ev) := by rfl

theorem dictSet_eq_assocSet (m : List (C02.Key × C02.Val)) (k : C02.Key) (v : C02.Val) :
    C02.dictSet m k v = assocSet m k v := by
  induction m with
  | nil => rfl
  | cons p ps ih => simp only [C02.dictSet, assocSet, ih]

theorem setItem_enc (m : List (C02.Key × C02.Val)) (k : C02.Key) (v : C02.Val) :
    setItem (encMap m) (encKey k) (encVal v) = .ok (encMap (C02.dictSet m k v)) := by
  rw [dictSet_eq_assocSet]
  exact setItem_assoc encKey encVal hashable_encKey keyEq_enc m k v

theorem findKey_pretty (d : Bool) (idx : Nat) (l : List Nat) :
    findKey (.enum (indexCls d) (idx : Int)) (l.map fun (k : Nat) => V.enum Gen.PyBeaconCfg.BeaconSetting (k : Int))
        (l.map fun (k : Nat) => V.inst Gen.PyBeaconCfg.PrettyFn [V.int (k : Int)])
      = if !d && l.contains idx then some (V.inst Gen.PyBeaconCfg.PrettyFn [V.int (idx : Int)]) else none := by
  induction l with
  | nil => simp [findKey]
  | cons x xs ih =>
    simp only [List.map_cons, findKey, keyEq, PyU.eq, Bool.and_true, ih, List.contains_cons]
    cases d
    · by_cases h : idx = x
      · subst h; simp [indexCls]
      · have h1 : ¬ ((idx : Int) = (x : Int)) := by omega
        simp [indexCls, h, h1]
    · have : ((indexCls true).cid == Gen.PyBeaconCfg.BeaconSetting.cid) = false := by decide
      simp [this]

theorem prettyGet (d : Bool) (idx : Nat) :
    dictGet Gen.PyBeaconCfg.prettyTable (.enum (indexCls d) (idx : Int)) .none
      = .ok (if !d && prettyKeys.contains idx then V.inst Gen.PyBeaconCfg.PrettyFn [V.int (idx : Int)] else .none) := by
  simp only [dictGet, Gen.PyBeaconCfg.prettyTable, hashable, if_true, findKey_pretty]
  split <;> rfl

theorem decArg_convert (p q : Bool) (s : C02.Setting) : decArg (encVal (C02.convert p q s)) = some (C02.convert p q s) := by
  unfold C02.convert
  split
  · split
    · simp [encVal, decArg]
    · split <;> simp [encVal, decArg]
  · simp [encVal, decArg]

theorem callX_pretty (content : Nat → C02.Val → Py C02.Val) (idx : Nat) (p q : Bool) (s : C02.Setting) :
    callX content (V.inst Gen.PyBeaconCfg.PrettyFn [V.int (idx : Int)]) (encVal (C02.convert p q s))
      = (content idx (C02.convert p q s)).map encVal := by
  have h : (0 : Int) ≤ (idx : Int) := by omega
  simp only [callX, h, and_self, if_true, decArg_convert, Int.toNat_natCast]

theorem truthy_encAscii (n : Bytes) (h : n ≠ []) : truthy (encAscii n) = true := by
  cases n with
  | nil => exact absurd rfl h
  | cons _ _ => rfl

theorem enumName_nonempty {d : Bool} {v : Nat} {n : Bytes} (h : C02.enumName d v = some n) : n ≠ [] := by
  have hm := C02.enumName_mem h
  have := C02.allNames_head _ hm
  intro e; rw [e] at this; simp at this

/-- the three ways `settings_map` computes the key collapse to the model's `keyOf`; `F`: the rest of the loop body -/
theorem key_collapse {α : Type} (it : V) (s : C02.Setting) (F : V → Py α) :
    (if PyU.eq it (lit "name") = true then
      if (!truthy (match C02.enumName s.deprecated s.index with | some n => encAscii n | none => V.none)) = true then do
        let str ← strOf Gen.PyBeaconCfg.enumNames (V.enum (indexCls s.deprecated) (s.index : Int))
        let name ← strReplace str (lit ".") (lit "_")
        F name
      else F (match C02.enumName s.deprecated s.index with | some n => encAscii n | none => V.none)
    else if PyU.eq it (lit "const") = true then F (V.int (s.index : Int))
    else F (V.enum (indexCls s.deprecated) (s.index : Int))) = F (encKey (C02.keyOf (itOf it) s)) := by
  unfold itOf
  by_cases h1 : PyU.eq it (lit "name") = true
  · simp only [h1, if_true, C02.keyOf, encKey]
    cases hn : C02.enumName s.deprecated s.index with
    | none =>
      simp only [truthy, Bool.not_false, if_true, strOf_nameless _ _ hn, PyU.ok_bind, replace_nameless _ _ hn]
    | some n =>
      simp only [truthy_encAscii n (enumName_nonempty hn), Bool.not_true, Bool.false_eq_true, if_false, C02.nameKey, hn]
  · by_cases h2 : PyU.eq it (lit "const") = true
    · simp [h1, h2, C02.keyOf, encKey]
    · simp [h1, h2, C02.keyOf, encKey]

/-- the `TYPE_SHORT` / `TYPE_INT` conversion collapses to the model's `convert`; `G`: the rest of the loop body -/
theorem val_collapse {α : Type} (pretty parse : V) (s : C02.Setting) (G : V → Py α) :
    (if (truthy parse || truthy pretty) = true then
      if decide (s.type = typeShort) = true then do
        let n ← Gen.PyBeaconCfg.u16be (V.bytes s.value)
        G n
      else if decide (s.type = typeInt) = true then do
        let n ← Gen.PyBeaconCfg.u32be (V.bytes s.value)
        G n
      else G (V.bytes s.value)
    else G (V.bytes s.value)) = G (encVal (C02.convert (truthy pretty) (truthy parse) s)) := by
  unfold C02.convert
  by_cases h : (truthy parse || truthy pretty) = true
  · simp only [h, if_true]
    by_cases t1 : s.type = typeShort
    · simp [t1, u16be_bytes, encVal]
    · by_cases t2 : s.type = typeInt
      · have : ¬ (typeInt = typeShort) := by decide
        simp [t2, this, u32be_bytes, encVal]
      · simp [t1, t2, encVal]
  · simp only [h, Bool.false_eq_true, if_false, encVal]

theorem truthy_prettyFn (k : Int) : truthy (V.inst Gen.PyBeaconCfg.PrettyFn [V.int k]) = true := by rfl

/-- the call of the pretty function collapses to the model's `valueOf`; `H`: the rest of the loop body -/
theorem pretty_collapse {α : Type} (content : Nat → C02.Val → Py C02.Val) (p q : Bool) (s : C02.Setting) (H : V → Py α) :
    (if p = true then
      if truthy (if (!s.deprecated && prettyKeys.contains s.index) = true then V.inst Gen.PyBeaconCfg.PrettyFn [V.int (s.index : Int)]
          else V.none) = true then do
        let v ← callX content (if (!s.deprecated && prettyKeys.contains s.index) = true then V.inst Gen.PyBeaconCfg.PrettyFn [V.int (s.index : Int)]
          else V.none) (encVal (C02.convert p q s))
        H v
      else H (encVal (C02.convert p q s))
    else H (encVal (C02.convert p q s)))
      = (match C02.valueOf (C02.dispatch content) p q s with
          | .error e => .error e
          | .ok v => H (encVal v)) := by
  unfold C02.valueOf C02.prettyLookup C02.dispatch
  cases p
  · simp
  · simp only [if_true]
    cases hd : s.deprecated
    · by_cases hc : prettyKeys.contains s.index = true
      · simp only [hc, Bool.not_false, Bool.and_self, if_true, truthy_prettyFn, callX_pretty, Bool.false_eq_true, if_false]
        cases content s.index (C02.convert true q s) <;> rfl
      · have hc' : prettyKeys.contains s.index = false := by simpa using hc
        have tn : truthy V.none = false := rfl
        simp only [hc', Bool.and_false, Bool.false_eq_true, if_false, tn]
    · have tn : truthy V.none = false := rfl
      simp only [Bool.not_true, Bool.false_and, Bool.false_eq_true, if_false, tn, if_true]

theorem gen_settings_map_loop1_spec (content : Nat → C02.Val → Py C02.Val) (it pretty parse : V) (s : C02.Setting) (m : List (C02.Key × C02.Val)) :
    Gen.PyBeaconCfg.settings_map_loop1 (callX content) it pretty parse (encSetting s) (encMap m)
      = (C02.valueOf (C02.dispatch content) (truthy pretty) (truthy parse) s).map
          (fun v => (Ctl.cont, encMap (C02.dictSet m (C02.keyOf (itOf it) s) v))) := by
  simp only [Gen.PyBeaconCfg.settings_map_loop1, encSetting, getAttr_index, getAttr_type, getAttr_value, PyU.ok_bind, getAttr_name,
    getAttr_enum_value, member_short, member_int, eq_enum_same, prettyGet, pure_ok]
  rw [key_collapse, val_collapse, pretty_collapse]
  cases C02.valueOf (C02.dispatch content) (truthy pretty) (truthy parse) s with
  | error e => rfl
  | ok v => simp only [setItem_enc, PyU.ok_bind, Except.map]

theorem gen_settings_map_loop (content : Nat → C02.Val → Py C02.Val) (it pretty parse : V) (ss : List C02.Setting) (m : List (C02.Key × C02.Val)) :
    forList (ss.map encSetting) (Gen.PyBeaconCfg.settings_map_loop1 (callX content) it pretty parse) (encMap m)
      = (C02.buildDict (C02.keyOf (itOf it)) (C02.valueOf (C02.dispatch content) (truthy pretty) (truthy parse)) ss m).map encMap := by
  induction ss generalizing m with
  | nil => rfl
  | cons s ss ih =>
    simp only [List.map_cons, forList, gen_settings_map_loop1_spec, C02.buildDict]
    cases C02.valueOf (C02.dispatch content) (truthy pretty) (truthy parse) s with
    | error e => rfl
    | ok v => simp only [Except.map, ih]

end C02Gen

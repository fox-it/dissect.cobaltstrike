import CsVerif.Gen.PyGuard
import CsVerif.Lemmas.C20Gen
import CsVerif.Model.C17
/-! helper lemmas for Props/C17Gen.lean: the translated `payload_checksum` loop -/
namespace C17Gen
open PyRt C20Gen

theorem band255 (n : Nat) (h : n < 256) : band (n : Int) 255 = (n : Int) := by
  rw [show (255 : Int) = ((2 ^ 8 - 1 : Nat) : Int) from rfl, band_natCast, Nat.and_two_pow_sub_one_eq_mod, Nat.mod_eq_of_lt h]

theorem range1_eq (n : Nat) : range1 (n : Int) = (List.range' 0 n).map fun (k : Nat) => (0 : Int) + 1 * (k : Int) := by
  unfold range1 range3
  have : (((n : Int) - 0 + 1 - 1) / 1).toNat = n := by simp
  rw [this, List.range_eq_range']

/-- the `for` loop of the translated `payload_checksum` from position `|pre|` with accumulator `acc` is `checksumGo` -/
theorem payload_checksum_loop (rest pre : Bytes) (acc : Nat) :
    (forIn (m := Except PyExc) ((List.range' pre.length rest.length).map fun (k : Nat) => (0 : Int) + 1 * (k : Int)) (acc : Int)
      fun i r => do
        let t1 ← getItem (pre ++ rest) i
        pure (ForInStep.yield ((add r (mul (band t1 (255 : Int)) (add (i % (3 : Int)) (1 : Int)))) % (99999999 : Int))))
    = .ok ((C17.checksumGo rest pre.length acc : Nat) : Int) := by
  induction rest generalizing pre acc with
  | nil => simp [C17.checksumGo]; rfl
  | cons x rest ih =>
    simp only [List.length_cons, List.range'_succ, List.map_cons, List.forIn_cons]
    rw [getItem_ok (pre ++ x :: rest) (0 + 1 * (pre.length : Int)) pre.length (by omega) (by simp)]
    simp only [PyU.ok_bind, pure_bind]
    have hx : (pre ++ x :: rest)[pre.length]'(by simp) = x := by simp
    rw [hx, band255 _ x.toNat_lt]
    have := ih (pre ++ [x]) ((acc + x.toNat * (pre.length % 3 + 1)) % 99999999)
    simp only [List.length_append, List.length_cons, List.length_nil, List.append_assoc, List.cons_append, List.nil_append] at this
    rw [C17.checksumGo]
    rw [← this]
    congr 1
    simp only [add, mul]
    have e1 : ((0 : Int) + 1 * (pre.length : Int)) % 3 + 1 = ((pre.length % 3 + 1 : Nat) : Int) := by omega
    rw [e1, ← Int.natCast_mul]
    generalize x.toNat * (pre.length % 3 + 1) = q
    omega

theorem payload_checksum_eq (d : Bytes) : Gen.PyGuard.payload_checksum d = .ok ((C17.payloadChecksum d : Nat) : Int) := by
  unfold Gen.PyGuard.payload_checksum C17.payloadChecksum
  have h := payload_checksum_loop d [] 0
  simp only [List.length_nil, List.nil_append] at h
  simp only [show (len d : Int) = ((d.length : Nat) : Int) from rfl, range1_eq]
  simpa using h

end C17Gen

import CsVerif.Model.C12Gen
import CsVerif.Lemmas.C12
import CsVerif.Lemmas.PyULib
/-! The run-time operations of `PyU` / `PyU_T12` against the primitives of the C12 model, then the definitions of
`Gen/PyC2Prof.lean` against `C12.valueToString`, `C12.valueToStringStr`, `C12.decodeLoop`. -/
namespace C12Gen
open PyU

theorem drop_min_len {α : Type} (xs ys : List α) (i : Nat) (h : ys.length ≤ xs.length) : ys.drop (min i xs.length) = ys.drop i := by
  by_cases h' : i ≤ xs.length
  · rw [Nat.min_eq_left h']
  · rw [Nat.min_eq_right (by omega), List.drop_of_length_le h, List.drop_of_length_le (by omega)]

theorem slice_nat_m1 {α : Type} (xs : List α) (k : Nat) :
    PyRt.slice xs (some (k : Int)) (some (-1 : Int)) = (xs.take (xs.length - 1)).drop k := by
  simp only [PyRt.slice, PyRt.Bound.bound, id, PyRt.clampIdx]
  have h1 : ¬ ((k : Int) < 0) := by omega
  have e : ((-1 : Int) + (xs.length : Int)).toNat = xs.length - 1 := by omega
  simp only [h1, if_false, Int.toNat_natCast, show ((-1 : Int) < 0) from by decide, if_true, e]
  rw [drop_min_len]
  simp [List.length_take]

theorem slice_1_m1 {α : Type} (xs : List α) :
    PyRt.slice xs (some (1 : Int)) (some (-1 : Int)) = pySliceTo (pySliceFrom xs 1) (some (-1)) := by
  have := slice_nat_m1 xs 1
  rw [show ((1 : Nat) : Int) = 1 from rfl] at this
  rw [this]
  simp [pySliceTo, pySliceFrom, List.drop_take]

theorem slice_3_m1 {α : Type} (xs : List α) :
    PyRt.slice xs (some (3 : Int)) (some (-1 : Int)) = pySliceFrom (pySliceTo xs (some (-1))) 3 := by
  have := slice_nat_m1 xs 3
  rw [show ((3 : Nat) : Int) = 3 from rfl] at this
  rw [this]
  simp [pySliceTo, pySliceFrom]

/-! ### repr(bytes) -/
theorem beq_toNat (x y : UInt8) : (x.toNat == y.toNat) = (x == y) := by
  rw [Bool.eq_iff_iff, beq_iff_eq, beq_iff_eq, UInt8.toNat_inj]

theorem contains_map_toNat (b : Bytes) (x : UInt8) : (b.map (·.toNat)).contains x.toNat = b.contains x := by
  induction b with
  | nil => rfl
  | cons y ys ih => simp only [List.map_cons, List.contains_cons, ih, beq_toNat]

theorem reprQuote_eq (b : Bytes) : PyU.reprQuote (b.map (·.toNat)) = (C12.reprQuote b).toNat := by
  have h1 := contains_map_toNat b 39
  have h2 := contains_map_toNat b 34
  simp only [show (39 : UInt8).toNat = 39 from rfl, show (34 : UInt8).toNat = 34 from rfl] at h1 h2
  simp only [PyU.reprQuote, C12.reprQuote, h1, h2, C12.sq, C12.dq]
  split <;> rfl

set_option maxRecDepth 100000 in
theorem reprUnit_eq (q : UInt8) (hq : q = 39 ∨ q = 34) (x : UInt8) :
    (if x.toNat ≥ 128 then [92, 120, PyU.hexDigit (x.toNat / 16), PyU.hexDigit (x.toNat % 16)] else PyU.reprByte q.toNat x.toNat)
      = (C12.reprUnit q x).map (·.toNat) := by
  rcases hq with rfl | rfl <;> (revert x; apply C12.forall_byte; decide +kernel)

theorem reprQuote_cases (b : Bytes) : C12.reprQuote b = 39 ∨ C12.reprQuote b = 34 := by
  simp only [C12.reprQuote, C12.sq, C12.dq]; split <;> simp

theorem reprBytes_eq (b : Bytes) : PyU.reprBytes b = (C12.reprBytes b).map (·.toNat) := by
  simp only [PyU.reprBytes, C12.reprBytes, reprQuote_eq, List.map_append, List.map_cons, List.map_nil, List.cons_append, List.nil_append,
    List.map_flatMap, List.flatMap_map]
  have hf : (fun (a : UInt8) => if a.toNat ≥ 128 then [92, 120, hexDigit (a.toNat / 16), hexDigit (a.toNat % 16)]
              else reprByte (C12.reprQuote b).toNat a.toNat) = fun a => List.map (fun x => x.toNat) (C12.reprUnit (C12.reprQuote b) a) :=
    funext fun a => reprUnit_eq _ (reprQuote_cases b) a
  rw [hf]; rfl

/-! ### str.replace -/
abbrev tn (t : C12.Txt) : List Nat := t.map (·.toNat)

theorem isPrefixOf_tn : ∀ (a b : C12.Txt), (tn a).isPrefixOf (tn b) = a.isPrefixOf b
  | [], _ => by simp [tn]
  | _ :: _, [] => by simp [tn]
  | x :: a, y :: b => by
    have ih := isPrefixOf_tn a b
    simp only [tn, List.map_cons, List.isPrefixOf] at ih ⊢
    rw [ih, beq_toNat]

theorem replaceGo_tn (old new : C12.Txt) : ∀ (s : C12.Txt) (k : Nat),
    PyU.replaceGo (tn old) (tn new) (tn s) k = tn (C12.replaceGo old new s k)
  | [], k => by simp [tn, PyU.replaceGo, C12.replaceGo]
  | c :: cs, k + 1 => by
    have ih := replaceGo_tn old new cs k
    simp only [tn, List.map_cons] at ih ⊢
    simp only [PyU.replaceGo, C12.replaceGo, ih]
  | c :: cs, 0 => by
    have ih1 := replaceGo_tn old new cs (old.length - 1)
    have ih2 := replaceGo_tn old new cs 0
    have hp := isPrefixOf_tn old (c :: cs)
    simp only [tn, List.map_cons] at ih1 ih2 hp ⊢
    simp only [PyU.replaceGo, C12.replaceGo, hp, List.length_map, ih1, ih2]
    split <;> simp

theorem replaceL_tn (old new s : C12.Txt) : PyU.replaceL (tn old) (tn new) (tn s) = tn (C12.strReplace old new s) := by
  simp only [PyU.replaceL, C12.strReplace]
  by_cases h : old = []
  · subst h
    simp [tn, List.map_flatMap, List.flatMap_map]
  · have : (tn old).isEmpty = false := by cases old with | nil => exact absurd rfl h | cons _ _ => rfl
    simp only [this, h, if_false, Bool.false_eq_true, replaceGo_tn]

theorem lit_dq : PyU.lit "\"" = .str (tn [C12.dq]) := by decide
theorem lit_bsl_dq : PyU.lit "\\\"" = .str (tn [C12.bsl, C12.dq]) := by decide
theorem lit_bsl_sq : PyU.lit "\\'" = .str (tn [C12.bsl, C12.sq]) := by decide
theorem lit_sq : PyU.lit "'" = .str (tn [C12.sq]) := by decide
theorem cps_dq : PyU.cps "\"" = tn [C12.dq] := by decide

theorem pySliceTo_map {α β : Type} (f : α → β) (xs : List α) (o : Option Int) : pySliceTo (xs.map f) o = (pySliceTo xs o).map f := by
  cases o with
  | none => rfl
  | some n => simp only [pySliceTo, List.length_map]; split <;> simp [List.map_take]

theorem pySliceFrom_map {α β : Type} (f : α → β) (xs : List α) (n : Int) : pySliceFrom (xs.map f) n = (pySliceFrom xs n).map f := by
  simp only [pySliceFrom, List.length_map]; split <;> simp [List.map_drop]

theorem gen_value_to_string_proof (bs : Bytes) :
    Gen.PyC2Prof.value_to_string (.bytes bs) = .ok (latin (C12.valueToString bs)) := by
  simp only [↓reduceIte, Gen.PyC2Prof.value_to_string, latin, PyU.isInstance, List.any, PyU.isInst1, Bool.or_false, 
    PyU.add, PyU.asInt, PyU.reprV, PyU.repr, reprBytes_eq, Except.map, PyU.slice, PyU.bound, pure, Except.pure,
    bind, Except.bind, slice_3_m1, pySliceTo_map, pySliceFrom_map,
    lit_dq, lit_bsl_dq, lit_bsl_sq, lit_sq, PyU.strReplace, replaceL_tn, PyU.fmt, beq_self_eq_true, cps_dq,
    C12.valueToStringStr, C12.valueToString, tn, List.map_append]

/-! ### StringIterator -/
/-- a list of characters as `StringIterator` keeps them: one-character strings -/
def encBuf (b : C12.Txt) : V := .list (b.map fun c => .str [c.toNat])
def encIt (b : C12.Txt) (i : Nat) : V := .inst Gen.PyC2Prof.StringIteratorCls [encBuf b, .int i]
/-- the list `buffer` of `string_token_to_bytes` -/
def encOut (out : List Int) : V := .list (out.map .int)
/-- `[chr(ord(c) & 0xFF) for c in string]` on code points -/
def maskCP (s : List Nat) : C12.Txt := s.map fun c => UInt8.ofNat (c &&& 0xFF)

theorem band255 (c : Nat) : PyRt.band (c : Int) 255 = ((c &&& 255 : Nat) : Int) := rfl

theorem chr_small (n : Nat) (h : n < 256) : PyU.chr (.int n) = .ok (.str [n]) := by
  simp only [PyU.chr, PyU.asInt]
  have h1 : ¬ ((n : Int) < -2147483648 ∨ 2147483647 < (n : Int)) := by omega
  have h2 : (0 ≤ (n : Int) ∧ (n : Int) < 0x110000) := by omega
  simp only [h1, h2, if_false, if_true, and_self, Int.toNat_natCast]

theorem gen_StringIterator_init_comp1 (c : Nat) (acc : List V) :
    Gen.PyC2Prof.__init___comp1 (.str [c]) (.list acc) = .ok (.cont, .list (acc ++ [.str [(UInt8.ofNat (c &&& 0xFF)).toNat]])) := by
  have hlt : c &&& 255 < 256 := Nat.lt_succ_of_le Nat.and_le_right
  have e : (UInt8.ofNat (c &&& 255)).toNat = c &&& 255 := UInt8.toNat_ofNat_of_lt' hlt
  simp only [Gen.PyC2Prof.__init___comp1, PyU.ord, PyU.ok_bind, PyU.band, PyU.bitop, PyU.ints2, PyU.asInt, Except.map, band255,
    chr_small _ hlt, PyU.append, e]
  rfl

theorem gen_StringIterator_init_forList (s : List Nat) : ∀ acc : List V,
    PyU.forList (s.map fun c => V.str [c]) Gen.PyC2Prof.__init___comp1 (.list acc)
      = (.ok (.list (acc ++ (maskCP s).map fun c => .str [c.toNat])) : Py V)  := by
  induction s with
  | nil => intro acc; simp [PyU.forList, maskCP]
  | cons c cs ih =>
    intro acc
    simp only [List.map_cons, PyU.forList, gen_StringIterator_init_comp1, ih, maskCP, List.append_assoc, List.singleton_append]

theorem gen_StringIterator_init (s : List Nat) : Gen.PyC2Prof.StringIterator (.str s) = .ok (encIt (maskCP s) 0) := by
  simp only [Gen.PyC2Prof.StringIterator, PyU.iterList, PyU.ok_bind, gen_StringIterator_init_forList, List.nil_append]
  rfl

theorem getAttr_index (b : C12.Txt) (i : Nat) : PyU.getAttr (encIt b i) "index" = .ok (.int i) := by
  simp [PyU.getAttr, encIt, Gen.PyC2Prof.StringIteratorCls, PyU.lookupField]
theorem getAttr_buffer (b : C12.Txt) (i : Nat) : PyU.getAttr (encIt b i) "buffer" = .ok (encBuf b) := by
  simp [PyU.getAttr, encIt, Gen.PyC2Prof.StringIteratorCls, PyU.lookupField]
theorem setAttr_index (b : C12.Txt) (i j : Nat) : PyU.setAttrObj (encIt b i) "index" (.int j) = .ok (encIt b j) := by
  simp [PyU.setAttrObj, encIt, Gen.PyC2Prof.StringIteratorCls, PyU.setField]
theorem len_encBuf (b : C12.Txt) : PyU.len (encBuf b) = .ok (.int b.length) := by
  simp [PyU.len, encBuf]

theorem gen_StringIterator_has_next (b : C12.Txt) (i k : Nat) :
    Gen.PyC2Prof.StringIterator_has_next (encIt b i) (.int k) = .ok (.bool (C12.hasNext b i k)) := by
  simp only [Gen.PyC2Prof.StringIterator_has_next, getAttr_index, getAttr_buffer, len_encBuf, add_int, ← Int.natCast_add, PyU.ok_bind, PyU.le, PyU.lt,
    PyU.asInt, Except.map, C12.hasNext]
  congr 3
  rw [Bool.eq_iff_iff, Bool.not_eq_true', decide_eq_false_iff_not, decide_eq_true_eq]
  omega

theorem gen_StringIterator_next (b : C12.Txt) (i k : Nat) :
    Gen.PyC2Prof.StringIterator_next (encIt b i) (.int k) = .ok (.tuple [encBuf (C12.nextN b i k).1, encIt b (i + k)]) := by
  simp only [Gen.PyC2Prof.StringIterator_next, getAttr_index, getAttr_buffer, add_int, iadd_int, ← Int.natCast_add, setAttr_index, 
    encBuf, PyU.slice, PyU.bound, PyU.asInt, bind, Except.bind, pure, Except.pure, PyRt.slice_nat, C12.nextN, List.map_drop, List.map_take]

theorem gen_StringIterator_iter (b : C12.Txt) (i : Nat) :
    Gen.PyC2Prof.StringIterator___iter__ (encIt b i) = .ok (.tuple [encIt b 0, encIt b 0]) := by
  have := setAttr_index b i 0
  simp only [Gen.PyC2Prof.StringIterator___iter__]
  rw [show (V.int 0) = V.int ((0 : Nat) : Int) from rfl, this]
  rfl

@[simp] theorem lift_ok {α : Type} (a : α) : (monadLift (Except.ok a : Py α) : PyS α) = .ok a := rfl
@[simp] theorem lift_err {α : Type} (e : PyExc) : (monadLift (Except.error e : Py α) : PyS α) = .error (.py e) := rfl
@[simp] theorem okS_bind {α β : Type} (a : α) (f : α → PyS β) : (Except.ok a >>= f) = f a := rfl
@[simp] theorem errS_bind {α β : Type} (e : ExcS) (f : α → PyS β) : ((Except.error e : PyS α) >>= f) = .error e := rfl

theorem getItem_encBuf (b : C12.Txt) (i : Nat) (h : i < b.length) : PyU.getItem (encBuf b) (.int i) = .ok (.str [(b[i]).toNat]) := by
  have h1 : ¬ ((i : Int) < 0) := by omega
  have h2 : (0 ≤ (i : Int) ∧ (i : Int) < ((b.map fun c => V.str [c.toNat]).length : Int)) := by simp only [List.length_map]; omega
  simp only [PyU.getItem, encBuf, PyU.asInt, PyRt.normIdx, h1, if_false, h2, and_self, if_true, Except.map, Int.toNat_natCast]
  simp [List.getD_eq_getElem?_getD, h]

theorem gen_StringIterator___next__ (b : C12.Txt) (i : Nat) :
    Gen.PyC2Prof.StringIterator___next__ (encIt b i)
      = if h : i < b.length then .ok (.tuple [.str [(b[i]).toNat], encIt b (i + 1)]) else .error .stop := by
  simp only [Gen.PyC2Prof.StringIterator___next__, getAttr_index, getAttr_buffer, len_encBuf, lift_ok, okS_bind, PyU.lt, PyU.asInt]
  by_cases h : i < b.length
  · have h' : ((i : Int) < (b.length : Int)) := by omega
    simp only [h, h', decide_true, if_true, dite_true, getItem_encBuf b i h, lift_ok, okS_bind, iadd_int]
    rfl
  · have h' : ¬ ((i : Int) < (b.length : Int)) := by omega
    simp only [h, h', decide_false, if_false, dite_false, Bool.false_eq_true]
    rfl

/-! ### int(hexstr, 16) on two masked characters -/
/-- `C12.hexVal` on code points -/
def hexValN (c : Nat) : Option Nat :=
  if 48 ≤ c ∧ c ≤ 57 then some (c - 48)
  else if 97 ≤ c ∧ c ≤ 102 then some (c - 87)
  else if 65 ≤ c ∧ c ≤ 70 then some (c - 55)
  else none
/-- `C12.pyIntHex [a, b]` on code points (`pyIntHex_tr`) -/
def pyIntHexN (a b : Nat) : Py Int :=
    match hexValN a, hexValN b with
    | some x, some y => .ok ((16 * x + y : Nat) : Int)
    | none, some y =>
      if PyU.isSpace a ∨ a = 43 then .ok (y : Int)
      else if a = 45 then .ok (-(y : Int))
      else .error .valueError
    | some x, none => if PyU.isSpace b then .ok (x : Int) else .error .valueError
    | none, none => .error .valueError
/-- `_PyUnicode_TransformDecimalAndSpaceToASCII` on latin-1 -/
def trAscii (c : Nat) : Nat := if c < 127 then c else if c = 133 ∨ c = 160 then 32 else 63

/-- a first character that `int(·, 16)` does not reject outright: white space, a sign or a hex digit -/
def intStart (c : Nat) : Bool := PyU.isSpace c || c == 43 || c == 45 || (hexValN c).isSome

/-- the thirty of them: `f` = 102 is the last (`intStart_of_ge`) -/
def intStarts : List Nat := (List.range 103).filter intStart

theorem intStart_of_ge {c : Nat} (h : 103 ≤ c) : intStart c = false := by
  have c1 : ¬ (48 ≤ c ∧ c ≤ 57) := by omega
  have c2 : ¬ (97 ≤ c ∧ c ≤ 102) := by omega
  have c3 : ¬ (65 ≤ c ∧ c ≤ 70) := by omega
  simp only [intStart, PyU.isSpace, hexValN, c1, c2, c3, if_false, Option.isSome_none, Bool.or_false, Bool.or_eq_false_iff,
    beq_eq_false_iff_ne, ne_eq, Bool.and_eq_false_iff, decide_eq_false_iff_not]
  omega

theorem mem_intStarts {c : Nat} : c ∈ intStarts ↔ intStart c = true := by
  rw [intStarts, List.mem_filter, List.mem_range, and_iff_right_iff_imp]
  intro h
  by_cases hc : 103 ≤ c
  · rw [intStart_of_ge hc] at h; cases h
  · omega

theorem of_intStart_false {c : Nat} (h : intStart c = false) :
    PyU.isSpace c = false ∧ c ≠ 43 ∧ c ≠ 45 ∧ hexValN c = none := by
  simpa only [intStart, Bool.or_eq_false_iff, beq_eq_false_iff_ne, Option.isSome_eq_false_iff, Option.isNone_iff_eq_none,
    and_assoc] using h

/-- Only white space, a hex digit or `_` can continue a literal: `parse16_second_other` rejects every other second
character, the `x` of a `0x` prefix included. The two signs in `intStarts` ride along. -/
theorem parse16_table : ∀ x ∈ intStarts, ∀ y ∈ 95 :: intStarts, PyU.parseBase 16 [x, y] = pyIntHexN x y := by
  decide +kernel

theorem isDigit16_of_hexValN_none {c : Nat} (h : hexValN c = none) : PyU.isDigitOrUnderscoreB 16 c = (c == 95) := by
  simp only [hexValN] at h
  simp only [PyU.isDigitOrUnderscoreB, PyU.digitValN]
  by_cases c1 : 48 ≤ c ∧ c ≤ 57
  · simp [c1] at h
  · by_cases c2 : 97 ≤ c ∧ c ≤ 102
    · simp [c1, c2] at h
    · by_cases c3 : 65 ≤ c ∧ c ≤ 70
      · simp [c1, c2, c3] at h
      · simp only [c1, if_false]
        by_cases d2 : 97 ≤ c ∧ c ≤ 122
        · have : ¬ (c - 87 < 16) := by omega
          simp [d2, this]
        · by_cases d3 : 65 ≤ c ∧ c ≤ 90
          · have : ¬ (c - 55 < 16) := by omega
            simp [d2, d3, this]
          · simp [d2, d3]

theorem dropBasePrefix_one (y : Nat) : PyU.dropBasePrefix 16 [y] = [y] := by
  unfold PyU.dropBasePrefix
  split
  · rename_i heq
    simp at heq
  · rfl

theorem dropBasePrefix_two (x y : Nat) : PyU.dropBasePrefix 16 [x, y] = [] ∨ PyU.dropBasePrefix 16 [x, y] = [x, y] := by
  unfold PyU.dropBasePrefix
  split
  · rename_i heq
    simp only [List.cons.injEq] at heq
    obtain ⟨rfl, rfl, rfl⟩ := heq
    split
    · exact .inl rfl
    · exact .inr rfl
  · exact .inr rfl

theorem parse16_first_other (x y : Nat) (h1 : PyU.isSpace x = false) (h2 : x ≠ 43) (h3 : x ≠ 45) (h4 : hexValN x = none) :
    PyU.parseBase 16 [x, y] = .error .valueError := by
  simp only [PyU.parseBase, List.dropWhile_cons, h1, Bool.false_eq_true, if_false, List.head?_cons, Option.some_beq_some,
    beq_eq_false_iff_ne.2 h2, beq_eq_false_iff_ne.2 h3, Bool.or_self, PyU.parseBaseBody]
  rcases dropBasePrefix_two x y with h | h
  · rw [h]
    rfl
  · simp only [h, List.takeWhile_cons, isDigit16_of_hexValN_none h4]
    cases h95 : x == 95 <;> simp [h95]

theorem parseBaseBody_nil (neg : Bool) : PyU.parseBaseBody 16 neg [] = .error .valueError := rfl

theorem parseBaseBody_one (neg : Bool) (y : Nat) (hd : PyU.isDigitOrUnderscoreB 16 y = false) :
    PyU.parseBaseBody 16 neg [y] = .error .valueError := by
  simp only [PyU.parseBaseBody, dropBasePrefix_one, List.takeWhile_cons, hd]
  rfl

/-- Whatever `x` is: no digits at all, or digits and then `y`, which is no white space. -/
theorem parseBaseBody_two (neg : Bool) (x y : Nat) (hd : PyU.isDigitOrUnderscoreB 16 y = false) (hs : PyU.isSpace y = false) :
    PyU.parseBaseBody 16 neg [x, y] = .error .valueError := by
  rcases dropBasePrefix_two x y with h | h
  · simp only [PyU.parseBaseBody, h]
    rfl
  · simp only [PyU.parseBaseBody, h, List.takeWhile_cons, List.dropWhile_cons, hd]
    cases hx : PyU.isDigitOrUnderscoreB 16 x
    · rfl
    · simp [hs]

theorem parse16_second_other (x y : Nat) (hd : PyU.isDigitOrUnderscoreB 16 y = false) (hs : PyU.isSpace y = false) :
    PyU.parseBase 16 [x, y] = .error .valueError := by
  simp only [PyU.parseBase, List.dropWhile_cons, List.dropWhile_nil, hs]
  cases hx : PyU.isSpace x
  · simp only [Bool.false_eq_true, if_false, List.head?_cons]
    split
    · exact parseBaseBody_one _ y hd
    · exact parseBaseBody_two _ x y hd hs
  · simp only [if_true, Bool.false_eq_true, if_false, List.head?_cons]
    split
    · exact parseBaseBody_nil _
    · exact parseBaseBody_one _ y hd

theorem parse16_two (x y : Nat) : PyU.parseBase 16 [x, y] = pyIntHexN x y := by
  cases a1 : intStart x
  · obtain ⟨h1, n43, n45, h4⟩ := of_intStart_false a1
    rw [parse16_first_other x y h1 n43 n45 h4]
    cases hv : hexValN y <;> simp [pyIntHexN, h4, hv, h1, n43, n45]
  by_cases a2 : y ∈ 95 :: intStarts
  · exact parse16_table x (mem_intStarts.2 a1) y a2
  · rw [List.mem_cons, mem_intStarts, not_or, Bool.not_eq_true] at a2
    obtain ⟨hs, -, -, hv⟩ := of_intStart_false a2.2
    rw [parse16_second_other x y (by rw [isDigit16_of_hexValN_none hv, beq_eq_false_iff_ne]; exact a2.1) hs]
    cases hx : hexValN x <;> simp [pyIntHexN, hx, hv, hs]

set_option maxRecDepth 100000 in
theorem toAscii_eq (a : UInt8) : PyU.toAsciiDigitSpace Gen.PyC2Prof.intTables a.toNat = trAscii a.toNat := by
  revert a; apply C12.forall_byte; decide +kernel
set_option maxRecDepth 100000 in
theorem hexVal_tr (a : UInt8) : C12.hexVal a = hexValN (trAscii a.toNat) := by
  revert a; apply C12.forall_byte; decide +kernel
set_option maxRecDepth 100000 in
theorem intSpace_tr (a : UInt8) : C12.intSpace a = PyU.isSpace (trAscii a.toNat) := by
  revert a; apply C12.forall_byte; decide +kernel
theorem tr_eq_iff (a n : UInt8) (hn : n.toNat < 127) (h32 : n.toNat ≠ 32) (h63 : n.toNat ≠ 63) :
    (a = n) = (trAscii a.toNat = n.toNat) := by
  rw [← UInt8.toNat_inj]
  unfold trAscii
  apply propext
  split
  · rfl
  · split <;> omega
theorem eq43_tr (a : UInt8) : (a = 43) = (trAscii a.toNat = 43) := tr_eq_iff a 43 (by decide) (by decide) (by decide)
theorem eq45_tr (a : UInt8) : (a = 45) = (trAscii a.toNat = 45) := tr_eq_iff a 45 (by decide) (by decide) (by decide)

theorem pyIntHex_tr (a b : UInt8) : C12.pyIntHex [a, b] = pyIntHexN (trAscii a.toNat) (trAscii b.toNat) := by
  simp only [C12.pyIntHex, pyIntHexN, hexVal_tr, intSpace_tr, eq43_tr, eq45_tr]
  cases hexValN (trAscii a.toNat) <;> cases hexValN (trAscii b.toNat) <;> rfl

theorem intBase_two (a b : UInt8) :
    PyU.intBase Gen.PyC2Prof.intTables (.str [a.toNat, b.toNat]) (.int 16) = (C12.pyIntHex [a, b]).map .int := by
  simp only [PyU.intBase, PyU.asInt, List.map_cons, List.map_nil, toAscii_eq]
  rw [pyIntHex_tr, ← parse16_two]
  rfl

/-- one run of the loop body of `C12.decodeLoop` inside the buffer: the new index and output -/
def stepM (b : C12.Txt) (i : Nat) (out : List Int) (h : i < b.length) : Py (Nat × List Int) :=
  if h1 : b[i] = C12.bsl ∧ C12.hasNext b (i + 1) = true then
    C12.stepEsc b i out (b[i + 1]'(by simp only [C12.hasNext, decide_eq_true_eq] at h1; omega))
  else .ok (i + 1, out ++ [(b[i].toNat : Int)])

theorem decodeLoop_step (b : C12.Txt) (i : Nat) (out : List Int) :
    C12.decodeLoop b i out = if h : i < b.length then
      (match stepM b i out h with
       | .error e => .error e
       | .ok p => C12.decodeLoop b p.1 p.2) else .ok out := by
  by_cases h : i < b.length
  · rw [dif_pos h, stepM]
    by_cases h1 : b[i] = C12.bsl ∧ C12.hasNext b (i + 1) = true
    · rw [dif_pos h1, C12.decodeLoop_esc out (of_decide_eq_true h1.2) h1.1]; rfl
    · rw [dif_neg h1, C12.decodeLoop_plain out h h1]
  · rw [dif_neg h, C12.decodeLoop_end out h]

/-! ### the loop body of `string_token_to_bytes` -/
theorem eq_str1 (c d : UInt8) (s : String) (h : PyU.lit s = .str [d.toNat]) :
    PyU.eq (.str [c.toNat]) (PyU.lit s) = decide (c = d) := by
  rw [h]
  show ([c.toNat] == [d.toNat]) = _
  rw [List.cons_beq_cons, beq_toNat, show (([] : List Nat) == []) = true from rfl, Bool.and_true]
  rfl

theorem eq_bsl (c : UInt8) : PyU.eq (.str [c.toNat]) (PyU.lit "\\") = decide (c = C12.bsl) := eq_str1 c _ _ (by decide)
theorem eq_u (c : UInt8) : PyU.eq (.str [c.toNat]) (PyU.lit "u") = decide (c = 117) := eq_str1 c _ _ (by decide)
theorem eq_x (c : UInt8) : PyU.eq (.str [c.toNat]) (PyU.lit "x") = decide (c = 120) := eq_str1 c _ _ (by decide)
theorem eq_n (c : UInt8) : PyU.eq (.str [c.toNat]) (PyU.lit "n") = decide (c = 110) := eq_str1 c _ _ (by decide)
theorem eq_r (c : UInt8) : PyU.eq (.str [c.toNat]) (PyU.lit "r") = decide (c = 114) := eq_str1 c _ _ (by decide)
theorem eq_t (c : UInt8) : PyU.eq (.str [c.toNat]) (PyU.lit "t") = decide (c = 116) := eq_str1 c _ _ (by decide)
theorem eq_dq (c : UInt8) : PyU.eq (.str [c.toNat]) (PyU.lit "\"") = decide (c = C12.dq) := eq_str1 c _ _ (by decide)
theorem eq_sq (c : UInt8) : PyU.eq (.str [c.toNat]) (PyU.lit "'") = decide (c = C12.sq) := eq_str1 c _ _ (by decide)

theorem ord_nl : PyU.ord (PyU.lit "\u000a") = .ok (.int 10) := by decide
theorem ord_cr : PyU.ord (PyU.lit "\u000d") = .ok (.int 13) := by decide
theorem ord_tab : PyU.ord (PyU.lit "\u0009") = .ok (.int 9) := by decide
theorem ord_bsl : PyU.ord (PyU.lit "\\") = .ok (.int 0x5c) := by decide
theorem ord_dq : PyU.ord (PyU.lit "\"") = .ok (.int 0x22) := by decide
theorem ord_sq : PyU.ord (PyU.lit "'") = .ok (.int 0x27) := by decide

theorem ord_str1 (c : UInt8) : PyU.ord (.str [c.toNat]) = .ok (.int (c.toNat : Int)) := rfl

theorem append_out (out : List Int) (v : Int) : PyU.append (encOut out) (.int v) = .ok (encOut (out ++ [v])) := by
  simp [PyU.append, encOut]

theorem joinStrs_enc : ∀ t : C12.Txt, PyU.joinStrs [] (t.map fun c => V.str [c.toNat]) = .ok (tn t)
  | [] => rfl
  | [c] => rfl
  | c :: d :: r => by
    have ih := joinStrs_enc (d :: r)
    simp only [List.map_cons] at ih ⊢
    simp only [PyU.joinStrs, ih, Except.map, List.append_nil, List.singleton_append]

theorem join_enc (t : C12.Txt) : PyU.join (PyU.lit "") (encBuf t) = .ok (.str (tn t)) := by
  simp only [PyU.join, show PyU.lit "" = .str [] from rfl, encBuf, PyU.iterList, joinStrs_enc, Except.map]

theorem nextN_two (b : C12.Txt) (j : Nat) (h : j + 2 ≤ b.length) : ∃ x y, (C12.nextN b j 2).1 = [x, y] := by
  have hl : ((b.take (j + 2)).drop j).length = 2 := by simp [List.length_drop, List.length_take]; omega
  simp only [C12.nextN]
  match hm : (b.take (j + 2)).drop j, hl with
  | [x, y], _ => exact ⟨x, y, rfl⟩

theorem intBase_nextN (b : C12.Txt) (j : Nat) (h : j + 2 ≤ b.length) :
    PyU.intBase Gen.PyC2Prof.intTables (.str (tn (C12.nextN b j 2).1)) (.int 16) = (C12.pyIntHex (C12.nextN b j 2).1).map .int := by
  obtain ⟨x, y, e⟩ := nextN_two b j h
  rw [e]; exact intBase_two x y

/-- at the numerals of the source: `simp only` does not see `((2 : Nat) : Int)` in the literal `(2 : Int)` -/
theorem gen_StringIterator_has_next_1 (b : C12.Txt) (i : Nat) :
    Gen.PyC2Prof.StringIterator_has_next (encIt b i) (.int 1) = .ok (.bool (C12.hasNext b i 1)) :=
  gen_StringIterator_has_next b i 1
theorem gen_StringIterator_has_next_2 (b : C12.Txt) (i : Nat) :
    Gen.PyC2Prof.StringIterator_has_next (encIt b i) (.int 2) = .ok (.bool (C12.hasNext b i 2)) :=
  gen_StringIterator_has_next b i 2
theorem gen_StringIterator_has_next_4 (b : C12.Txt) (i : Nat) :
    Gen.PyC2Prof.StringIterator_has_next (encIt b i) (.int 4) = .ok (.bool (C12.hasNext b i 4)) :=
  gen_StringIterator_has_next b i 4
theorem gen_StringIterator_next_2 (b : C12.Txt) (i : Nat) :
    Gen.PyC2Prof.StringIterator_next (encIt b i) (.int 2) = .ok (.tuple [encBuf (C12.nextN b i 2).1, encIt b (i + 2)]) :=
  gen_StringIterator_next b i 2

theorem unpack2_tuple (a b : V) : PyU.unpack2 (.tuple [a, b]) = .ok (a, b) := rfl

theorem gen_string_token_to_bytes_loop1_end (b : C12.Txt) (i : Nat) (out : List Int) (h : ¬ i < b.length) :
    Gen.PyC2Prof.string_token_to_bytes_loop1 (encOut out, encIt b i) = .ok (.brk, (encOut out, encIt b i)) := by
  simp only [↓reduceIte, Gen.PyC2Prof.string_token_to_bytes_loop1, gen_StringIterator___next__, h, dite_false, PyU.catchStop, okS_bind]
  rfl

theorem truthy_bool (x : Bool) : PyU.truthy (.bool x) = x := rfl
theorem throwS_bind {α β : Type} (e : ExcS) (f : α → PyS β) : ((throw e : PyS α) >>= f) = .error e := rfl
theorem throwS {α : Type} (e : ExcS) : (throw e : PyS α) = .error e := rfl
theorem pureS {α : Type} (a : α) : (pure a : PyS α) = .ok a := rfl

theorem gen_string_token_to_bytes_loop1_step (b : C12.Txt) (i : Nat) (out : List Int) (h : i < b.length) :
    Gen.PyC2Prof.string_token_to_bytes_loop1 (encOut out, encIt b i)
      = match stepM b i out h with
        | .error e => .error (.py e)
        | .ok p => .ok (.cont, (encOut p.2, encIt b p.1)) := by
  simp only [↓reduceIte, Gen.PyC2Prof.string_token_to_bytes_loop1, gen_StringIterator___next__, h, dite_true, PyU.catchStop, okS_bind, Bool.false_eq_true,
    unpack2_tuple, lift_ok, eq_bsl, gen_StringIterator_has_next_1, truthy_bool]
  by_cases h1 : b[i] = C12.bsl ∧ C12.hasNext b (i + 1) = true
  · have hlt : i + 1 < b.length := of_decide_eq_true h1.2
    rw [stepM, dif_pos h1, C12.stepEsc]
    simp only [↓reduceIte, h1.1, h1.2, decide_true, okS_bind, lift_ok, hlt, dite_true, unpack2_tuple,
      eq_bsl, eq_u, eq_x, eq_n, eq_r, eq_t, eq_dq, eq_sq, decide_eq_true_eq, gen_StringIterator_has_next_2, gen_StringIterator_has_next_4, truthy_bool,
      ord_nl, ord_cr, ord_tab, ord_bsl, ord_dq, ord_sq, append_out, pureS,
      gen_StringIterator_next_2, join_enc, Nat.add_assoc, Nat.reduceAdd]
    by_cases hu : b[i + 1] = 117
    · rw [if_pos hu, if_pos hu]
      by_cases h4 : C12.hasNext b (i + 2) 4 = true
      · have hb : i + 4 + 2 ≤ b.length := by have := of_decide_eq_true h4; omega
        simp only [↓reduceIte, h4, Bool.not_true, Bool.false_eq_true, intBase_nextN b (i + 4) hb]
        cases C12.pyIntHex (C12.nextN b (i + 4) 2).1 with
        | error e => rfl
        | ok v => simp only [Except.map, lift_ok, okS_bind, append_out]
      · simp only [↓reduceIte, h4, Bool.not_false, Bool.false_eq_true, throwS_bind]
    rw [if_neg hu, if_neg hu]
    by_cases hx : b[i + 1] = 120
    · rw [if_pos hx, if_pos hx]
      by_cases h2 : C12.hasNext b (i + 2) 2 = true
      · have hb : i + 2 + 2 ≤ b.length := of_decide_eq_true h2
        simp only [↓reduceIte, h2, Bool.not_true, Bool.false_eq_true, intBase_nextN b (i + 2) hb]
        cases C12.pyIntHex (C12.nextN b (i + 2) 2).1 with
        | error e => rfl
        | ok v => simp only [Except.map, lift_ok, okS_bind, append_out]
      · simp only [↓reduceIte, h2, Bool.not_false, Bool.false_eq_true, throwS_bind]
    rw [if_neg hx, if_neg hx,
      C12.simpleEsc_cases _ (fun v => (.ok (.cont, encOut (out ++ [v]), encIt b (i + 2)) : PyS (Ctl × V × V)))]
    cases C12.simpleEsc b[i + 1] <;> rfl
  · rw [stepM, dif_neg h1]
    by_cases hc : b[i] = C12.bsl
    · have hn : ¬ C12.hasNext b (i + 1) = true := fun hn => h1 ⟨hc, hn⟩
      simp only [↓reduceIte, decide_eq_true hc, hn, Bool.false_eq_true, ord_str1, lift_ok, okS_bind, append_out]
      rfl
    · simp only [↓reduceIte, decide_eq_false hc, Bool.false_eq_true, ord_str1, lift_ok, okS_bind, append_out]
      rfl

theorem stepM_progress (b : C12.Txt) (i : Nat) (out : List Int) (h : i < b.length) (p : Nat × List Int)
    (hs : stepM b i out h = .ok p) : i < p.1 ∧ p.1 ≤ b.length := by
  rw [stepM] at hs
  by_cases h1 : b[i] = C12.bsl ∧ C12.hasNext b (i + 1) = true
  · have hn := of_decide_eq_true h1.2
    rw [dif_pos h1, C12.stepEsc] at hs
    by_cases hu : b[i + 1] = 117
    · rw [if_pos hu] at hs
      by_cases h4 : C12.hasNext b (i + 2) 4 = true
      · have := of_decide_eq_true h4
        rw [if_pos h4] at hs
        cases hr : C12.pyIntHex (C12.nextN b (i + 4) 2).1 <;> rw [hr] at hs <;> cases hs
        show i < i + 6 ∧ i + 6 ≤ b.length
        omega
      · rw [if_neg h4] at hs; cases hs
    rw [if_neg hu] at hs
    by_cases hx : b[i + 1] = 120
    · rw [if_pos hx] at hs
      by_cases h2 : C12.hasNext b (i + 2) 2 = true
      · have := of_decide_eq_true h2
        rw [if_pos h2] at hs
        cases hr : C12.pyIntHex (C12.nextN b (i + 2) 2).1 <;> rw [hr] at hs <;> cases hs
        show i < i + 4 ∧ i + 4 ≤ b.length
        omega
      · rw [if_neg h2] at hs; cases hs
    rw [if_neg hx] at hs
    cases hr : C12.simpleEsc b[i + 1] <;> rw [hr] at hs <;> cases hs <;> exact ⟨Nat.lt_add_of_pos_right (by decide), hn⟩
  · rw [dif_neg h1] at hs; cases hs
    exact ⟨Nat.lt_succ_self i, h⟩

theorem gen_string_token_to_bytes_loop (b : C12.Txt) : ∀ (fuel i : Nat) (out : List Int), i ≤ b.length → b.length - i < fuel →
    PyU.whileFuelS fuel Gen.PyC2Prof.string_token_to_bytes_loop1 (encOut out, encIt b i)
      = match C12.decodeLoop b i out with
        | .error e => .error (.py e)
        | .ok o => .ok (encOut o, encIt b b.length) := by
  intro fuel
  induction fuel with
  | zero => intro i out _ h; omega
  | succ f ih =>
    intro i out h1 h2
    rw [decodeLoop_step]
    by_cases hlt : i < b.length
    · simp only [PyU.whileFuelS, gen_string_token_to_bytes_loop1_step b i out hlt, hlt, dite_true]
      cases hs : stepM b i out hlt with
      | error e => rfl
      | ok p =>
        have hp := stepM_progress b i out hlt p hs
        exact ih p.1 p.2 hp.2 (by omega)
    · have hi : i = b.length := by omega
      subst hi
      simp only [PyU.whileFuelS, gen_string_token_to_bytes_loop1_end b _ out hlt, hlt, dite_false]

theorem bytesItems_ints : ∀ out : List Int, PyU.bytesItems (out.map V.int) = C12.pyBytes out
  | [] => rfl
  | v :: vs => by
    have ih := bytesItems_ints vs
    simp only [List.map_cons, PyU.bytesItems, PyU.asInt, C12.pyBytes, ih]
    split
    · cases C12.pyBytes vs <;> rfl
    · rfl

theorem bytesOf_out (out : List Int) : PyU.bytesOf (encOut out) = (C12.pyBytes out).map .bytes := by
  simp only [PyU.bytesOf, encOut, bytesItems_ints]

theorem body_length (text : List Nat) : (pySliceTo (pySliceFrom text 1) (some (-1))).length = text.length - 2 := by
  simp [pySliceTo, pySliceFrom]; omega

theorem isInstance_token (a b : V) : PyU.isInstance (tokenV a b) [PyU.Ty.cls Gen.PyC2Prof.Token] = true := by
  simp [PyU.isInstance, PyU.isInst1, tokenV]

theorem getAttr_token_type (ty value : V) : PyU.getAttr (tokenV ty value) "type" = .ok ty := by
  simp [PyU.getAttr, tokenV, Gen.PyC2Prof.Token, PyU.lookupField]

theorem getAttr_token_value (ty value : V) : PyU.getAttr (tokenV ty value) "value" = .ok value := by
  simp [PyU.getAttr, tokenV, Gen.PyC2Prof.Token, PyU.lookupField]

theorem slice_str_body (t : List Nat) :
    PyU.slice (.str t) (.int 1) (.int (-1)) = .ok (.str (pySliceTo (pySliceFrom t 1) (some (-1)))) := by
  simp only [PyU.slice, PyU.bound, PyU.asInt, bind, Except.bind, pure, Except.pure, slice_1_m1]

theorem gen_string_token_to_bytes_proof (text : List Nat) (fuel : Nat) (hf : text.length - 2 < fuel) :
    Gen.PyC2Prof.string_token_to_bytes fuel (stringToken text) = liftS ((C12.stringTokenToBytesCP text).map .bytes) := by
  have heq : PyU.eq (PyU.lit "STRING") (PyU.lit "STRING") = true := by decide
  have hlen : (maskCP (pySliceTo (pySliceFrom text 1) (some (-1)))).length - 0 < fuel := by
    simp only [maskCP, List.length_map, body_length]; omega
  have hloop := gen_string_token_to_bytes_loop (maskCP (pySliceTo (pySliceFrom text 1) (some (-1)))) fuel 0 [] (Nat.zero_le _) hlen
  rw [show encOut [] = V.list [] from rfl] at hloop
  have hm : C12.stringTokenToBytesCP text = (match C12.decodeLoop (maskCP (pySliceTo (pySliceFrom text 1) (some (-1)))) 0 [] with
      | .error e => .error e
      | .ok out => C12.pyBytes out) := rfl
  simp only [↓reduceIte, Gen.PyC2Prof.string_token_to_bytes, stringToken, isInstance_token, lift_ok, okS_bind, getAttr_token_type,
    getAttr_token_value, heq, slice_str_body,
    gen_StringIterator_init, gen_StringIterator_iter, unpack2_tuple, hloop, hm]
  cases C12.decodeLoop (maskCP (pySliceTo (pySliceFrom text 1) (some (-1)))) 0 [] with
  | error e => rfl
  | ok o =>
    simp only [okS_bind, bytesOf_out]
    cases C12.pyBytes o <;> rfl

theorem gen_string_token_to_bytes_not_token_proof (v : V) (fuel : Nat) (h : PyU.isInstance v [PyU.Ty.cls Gen.PyC2Prof.Token] = false) :
    Gen.PyC2Prof.string_token_to_bytes fuel v = .ok v := by
  simp only [↓reduceIte, Gen.PyC2Prof.string_token_to_bytes, h, Bool.false_eq_true]
  rfl

theorem gen_string_token_to_bytes_other_type_proof (ty value : V) (fuel : Nat) (h : PyU.eq ty (PyU.lit "STRING") = false) :
    Gen.PyC2Prof.string_token_to_bytes fuel (tokenV ty value) = .ok (tokenV ty value) := by
  simp only [↓reduceIte, Gen.PyC2Prof.string_token_to_bytes, isInstance_token, getAttr_token_type, lift_ok, okS_bind, h, Bool.false_eq_true]
  rfl

end C12Gen

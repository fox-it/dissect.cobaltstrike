import CsVerif.Model.C10Gen
import CsVerif.Lemmas.PyULib
/-! Helper lemmas for Props/C10Gen.lean: the operations of `PyU` / `PyU_T12` / `PyU_T15` (run-time library of the untyped translator)
against the primitives of the C10 model, and the definitions of `Gen/PyC2Text.lean` translated from the generator `postproc` of
`C2Profile.as_text` against `C10.postproc` (`postprocGo`, `renderLine`).  No property statements. -/
namespace C10Gen
open PyU

theorem pure_ok {α : Type} (a : α) : (pure a : Py α) = .ok a := PyU.pure_ok a

theorem contains_substr (y t : C10.Text) : (y.isEmpty || (PyU.splitAt? y t).isSome) = C10.isSubstr y t := by
  induction t with
  | nil => simp [PyU.splitAt?, C10.isSubstr]
  | cons c cs ih =>
    simp only [PyU.splitAt?, C10.isSubstr]
    by_cases hp : y.isPrefixOf (c :: cs) = true
    · simp [hp]
    · have hp' : y.isPrefixOf (c :: cs) = false := Bool.eq_false_iff.mpr hp
      have hy : y.isEmpty = false := by
        cases y with
        | nil => simp [List.isPrefixOf] at hp'
        | cons _ _ => rfl
      simp only [hp', Bool.false_eq_true, if_false, Option.isSome_map, Bool.false_or, ← ih, hy]

theorem contains_flush (item : C10.Text) : PyU.contains (PyU.lit "{};") (.str item) = .ok (C10.isFlush item) := by
  have : PyU.lit "{};" = .str [123, 125, 59] := by decide
  simp only [this, PyU.contains, contains_substr, C10.isFlush]

theorem any_eq_str (r : C10.Text) (l : List C10.Text) : (l.map V.str).any (PyU.eq (.str r)) = l.contains r := by
  induction l with
  | nil => rfl
  | cons x xs ih => simp only [List.map_cons, List.any_cons, PyU.eq_str, List.contains_cons, ih]

theorem contains_line (l : List C10.Text) :
    PyU.contains (encItems l) (PyU.lit "}") = .ok (l.contains C10.rbrace) ∧
    PyU.contains (encItems l) (PyU.lit "{") = .ok (l.contains C10.lbrace) := by
  have h1 : PyU.lit "}" = .str C10.rbrace := by decide
  have h2 : PyU.lit "{" = .str C10.lbrace := by decide
  simp only [h1, h2, PyU.contains, encItems, any_eq_str, and_self]

theorem rep4 : ∀ k : Nat, (List.replicate k ([32, 32, 32, 32] : List Nat)).flatten = List.replicate (4 * k) 32
  | 0 => rfl
  | k + 1 => by
    rw [List.replicate_succ, List.flatten_cons, rep4 k, show 4 * (k + 1) = (4 * k) + 4 from by omega]
    simp only [List.replicate_succ, List.cons_append, List.nil_append]

theorem mul_space4 : PyU.mul (PyU.lit " ") (V.int 4) = .ok (.str [32, 32, 32, 32]) := by decide
theorem mul_str4 (n : Int) : PyU.mul (.str [32, 32, 32, 32]) (V.int n) = .ok (.str (List.replicate (4 * n).toNat 32)) := by
  simp only [PyU.mul, PyU.asInt]
  rw [rep4, show 4 * n.toNat = (4 * n).toNat from by omega]

/-! ### the inner loop: `for i, x in enumerate(line)` -/
theorem enumFrom_map (k : Nat) (l : List C10.Text) :
    PyU.enumFrom k (l.map V.str) = (l.zipIdx k).map fun p => V.tuple [.int p.2, .str p.1] := by
  induction l generalizing k with
  | nil => rfl
  | cons x xs ih => simp only [List.map_cons, PyU.enumFrom, ih, List.zipIdx_cons]

theorem add_int (a b : Int) : PyU.add (.int a) (.int b) = .ok (.int (a + b)) := PyU.add_int a b
theorem gt_int (a b : Int) : PyU.gt (.int a) (.int b) = .ok (decide (b < a)) := PyU.gt_int a b
theorem len_items (l : List C10.Text) : PyU.len (encItems l) = .ok (.int (l.length : Int)) := by simp [PyU.len, encItems]
theorem unpack2_tuple (a b : V) : PyU.unpack2 (.tuple [a, b]) = .ok (a, b) := PyU.unpack2_tuple a b
theorem getItem_items (l : List C10.Text) (k : Nat) (h : k < l.length) : PyU.getItem (encItems l) (.int (k : Int)) = .ok (.str l[k]) := by
  have h1 : ¬ ((k : Int) < 0) := by omega
  have h2 : (0 ≤ (k : Int) ∧ (k : Int) < ((l.map V.str).length : Int)) := by simp only [List.length_map]; omega
  simp only [PyU.getItem, encItems, PyU.asInt, PyRt.normIdx, h1, if_false, h2, and_self, if_true, Except.map, Int.toNat_natCast]
  simp [List.getD_eq_getElem?_getD, h]
theorem eq_semi (y : C10.Text) : PyU.eq (.str y) (PyU.lit ";") = decide (y = C10.semi) := by
  rw [show PyU.lit ";" = .str C10.semi by decide, PyU.eq_str]
  exact Bool.beq_eq_decide_eq _ _

/-- what one run of the inner loop yields: the item, and a blank unless it is the last one or `;` follows -/
def unitOf (x : C10.Text) : List C10.Text → List C10.Text
  | [] => [x]
  | y :: _ => if y = C10.semi then [x] else [x, [32]]

theorem renderLine_cons (x : C10.Text) (rest : List C10.Text) : C10.renderLine (x :: rest) = unitOf x rest ++ C10.renderLine rest := by
  cases rest with
  | nil => rfl
  | cons y r => simp only [C10.renderLine, unitOf]; split <;> rfl

theorem gen_as_text_postproc_loop2_step (pre : List C10.Text) (x : C10.Text) (rest : List C10.Text) (ys : List V) :
    Gen.PyC2Text.postproc_loop2 (encItems (pre ++ x :: rest)) (.tuple [.int pre.length, .str x]) (.list ys)
      = .ok (.cont, .list (ys ++ (unitOf x rest).map V.str)) := by
  simp only [Gen.PyC2Text.postproc_loop2, unpack2_tuple, PyU.ok_bind, len_items, add_int, gt_int, PyU.yieldTo]
  cases rest with
  | nil =>
    have : ¬ ((pre.length : Int) + 1 < ((pre ++ [x]).length : Int)) := by simp only [List.length_append, List.length_cons, List.length_nil]; omega
    simp only [this, decide_false, Bool.false_eq_true, ↓reduceIte, pure_ok, unitOf, List.map_cons, List.map_nil]
  | cons y r =>
    have h1 : ((pre.length : Int) + 1 < ((pre ++ x :: y :: r).length : Int)) := by simp only [List.length_append, List.length_cons]; omega
    have hk : pre.length + 1 < (pre ++ x :: y :: r).length := by simp only [List.length_append, List.length_cons]; omega
    have hg := getItem_items (pre ++ x :: y :: r) (pre.length + 1) hk
    have he : (pre ++ x :: y :: r)[pre.length + 1] = y := by simp
    rw [he] at hg
    rw [show (((pre.length + 1 : Nat)) : Int) = (pre.length : Int) + 1 from by omega] at hg
    simp only [h1, decide_true, ↓reduceIte, hg, PyU.ok_bind, eq_semi, unitOf]
    by_cases hy : y = C10.semi
    · simp [hy, pure_ok]
    · simp [hy, pure_ok]; rfl

theorem gen_as_text_postproc_loop2 : ∀ (s : List C10.Text) (pre : List C10.Text) (ys : List V),
    PyU.forList (PyU.enumFrom pre.length (s.map V.str)) (Gen.PyC2Text.postproc_loop2 (encItems (pre ++ s))) (.list ys)
      = (.ok (.list (ys ++ (C10.renderLine s).map V.str)) : Py V) := by
  intro s
  induction s with
  | nil => intro pre ys; simp [PyU.enumFrom, PyU.forList, C10.renderLine]
  | cons x rest ih =>
    intro pre ys
    have ih' := ih (pre ++ [x]) (ys ++ (unitOf x rest).map V.str)
    simp only [List.length_append, List.length_cons, List.length_nil, List.append_assoc, List.singleton_append, Nat.zero_add] at ih'
    simp only [List.map_cons, PyU.enumFrom, PyU.forList, gen_as_text_postproc_loop2_step, ih', renderLine_cons, List.map_append]

/-! ### the outer loop -/
theorem append_items (l : List C10.Text) (x : C10.Text) : PyU.append (encItems l) (.str x) = .ok (encItems (l ++ [x])) := by
  simp [PyU.append, encItems]
theorem sub_int (a b : Int) : PyU.sub (.int a) (.int b) = .ok (.int (a - b)) := PyU.sub_int a b
theorem iadd_int (a b : Int) : PyU.iadd (.int a) (.int b) = .ok (.int (a + b)) := PyU.iadd_int a b
theorem enumerate_items (l : List C10.Text) : PyU.enumerate (encItems l) = .ok (.list (PyU.enumFrom 0 (l.map V.str))) := by rfl
theorem iterList_list (l : List V) : PyU.iterList (.list l) = .ok l := PyU.iterList_list l
theorem lit_nl : PyU.lit "\u000a" = .str [10] := by decide

/-- the outer loop yields what `postprocGo` does (the `line` and `indent` it ends with are not observed) -/
theorem gen_as_text_postproc_loop1 (items : List C10.Text) : ∀ (line : List C10.Text) (indent : Int) (ys : List V),
    (PyU.forList (items.map V.str) Gen.PyC2Text.postproc_loop1 (.list ys, encItems line, .int indent)).map (·.1)
      = (.ok (.list (ys ++ (C10.postprocGo line indent items).map V.str)) : Py V) := by
  induction items with
  | nil => intro line indent ys; simp [PyU.forList, C10.postprocGo, Except.map]
  | cons item rest ih =>
    intro line indent ys
    have ih0 : ∀ (i : Int) (ys : List V), (PyU.forList (rest.map V.str) Gen.PyC2Text.postproc_loop1
        (.list ys, .list [], .int i)).map (·.1) = .ok (.list (ys ++ (C10.postprocGo [] i rest).map V.str)) :=
      fun i ys => ih [] i ys
    have h2 := gen_as_text_postproc_loop2 (line ++ [item]) []
    simp only [List.length_nil, List.nil_append] at h2
    simp only [List.map_cons, PyU.forList, Gen.PyC2Text.postproc_loop1, append_items, PyU.ok_bind, contains_flush, C10.postprocGo]
    by_cases hf : C10.isFlush item = true
    · simp only [hf, ↓reduceIte, (contains_line _).1, (contains_line _).2, PyU.ok_bind]
      cases hr : (line ++ [item]).contains C10.rbrace <;> cases hl : (line ++ [item]).contains C10.lbrace
      all_goals
        simp only [Bool.false_eq_true, ↓reduceIte, pure_ok, PyU.ok_bind, sub_int, iadd_int, mul_space4, mul_str4, PyU.yieldTo,
          enumerate_items, iterList_list, h2, lit_nl, ih0]
        simp only [List.map_append, List.map_cons, List.append_assoc, List.nil_append, List.cons_append]
    · have hf' : C10.isFlush item = false := Bool.eq_false_iff.mpr hf
      simp only [hf', Bool.false_eq_true, ↓reduceIte, pure_ok, ih]

end C10Gen

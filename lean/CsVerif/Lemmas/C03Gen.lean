import CsVerif.Gen.PyBeacon
import CsVerif.Lemmas.C03
import CsVerif.Props.C20Gen
import CsVerif.Lemmas.PyULib
/-! Helper lemmas for Props/C03Gen.lean: the operations of `PyU` (run-time library of the untyped translator) against the
primitives of the C03 model, and the translated functions of `Gen/PyBeacon.lean` against the model functions.
The encodings `enc*` of model results as `PyU.V` values are defined here. -/
namespace C03Gen
open PyU

/-! ### encodings of the model's result types as Python values -/

/-- `str` or `None` -/
def encOptStr : Option String → V
  | none => .none
  | some s => lit s

/-- second component of a `parse_transform_binary` item: `str` / `True` / `bytes` -/
def encTVal : C03.TVal → V
  | .str s => lit s
  | .flag => .bool true
  | .bytes b => .bytes b

/-- `(name, value)` of `parse_transform_binary` -/
def encTOut (o : C03.TOut) : V := .tuple [encOptStr o.1, encTVal o.2]

/-- second component of a `parse_recover_binary` item: `int` / `True` -/
def encRVal : C03.RVal → V
  | .len n => .int n
  | .flag => .bool true

/-- `(name, value)` of `parse_recover_binary` -/
def encROut (o : String × C03.RVal) : V := .tuple [lit o.1, encRVal o.2]

/-- an entry of `parse_execute_list`: `str` (code points) or `None` -/
def encEx : Option (List Nat) → V
  | none => .none
  | some cs => .str cs

/-- `(name, bytes)` of `parse_process_injection_transform_steps` -/
def encInj (o : String × Bytes) : V := .tuple [lit o.1, .bytes o.2]

/-- a latin-1 `str` (the model keeps it as bytes) -/
def encLatin (b : Bytes) : V := .str (b.map (·.toNat))

theorem pure_ok {α : Type} (a : α) : (pure a : Py α) = .ok a := by rfl
theorem map_ok {α β : Type} (f : α → β) (a : α) : (f <$> (Except.ok a : Py α)) = .ok (f a) := by rfl
theorem throw_err {α : Type} (e : PyExc) : (throw e : Py α) = .error e := by rfl

theorem fromLE_eq_leNat (d : Bytes) : C20.fromLE d = C03.leNat d := by
  induction d with
  | nil => rfl
  | cons b bs ih => simp only [C20.fromLE, C03.leNat, ih]

theorem beNat_eq (d : Bytes) (acc : Nat) : C03.beNat d acc = acc * 256 ^ d.length + C20.fromLE d.reverse := by
  rw [← C20.foldl_be]
  induction d generalizing acc with
  | nil => rfl
  | cons b bs ih => exact ih _

theorem u32_bytes (d : Bytes) : Gen.PyBeacon.u32 (.bytes d) = .ok (.int (C03.u32le d)) := by
  have := C20Gen.gen_u32 d .little false
  simp only [C20Gen.orderStr] at this
  simp only [Gen.PyBeacon.u32, liftBytesInt, this, Except.map]
  simp [C20.unpack, C20.fromBytes, C20.fromBytesU, pySliceTo, C03.u32le, fromLE_eq_leNat]

theorem u32be_bytes (d : Bytes) : Gen.PyBeacon.u32be (.bytes d) = .ok (.int (C03.u32be d)) := by
  simp only [Gen.PyBeacon.u32be, liftBytesInt, C20Gen.gen_u32be, Except.map]
  simp [C20.unpack, C20.fromBytes, C20.fromBytesU, pySliceTo, C03.u32be, beNat_eq]

theorem u16be_bytes (d : Bytes) : Gen.PyBeacon.u16be (.bytes d) = .ok (.int (C03.u16be d)) := by
  simp only [Gen.PyBeacon.u16be, liftBytesInt, C20Gen.gen_u16be, Except.map]
  simp [C20.unpack, C20.fromBytes, C20.fromBytesU, pySliceTo, C03.u16be, beNat_eq]

/-- a `BytesIO` whose consumed prefix is `pre` and whose unread rest is `s` -/
def mk (pre s : Bytes) : V := .bytesIO (pre ++ s) pre.length

theorem newBytesIO_bytes (d : Bytes) : newBytesIO (.bytes d) = .ok (mk [] d) := by rfl

theorem read_mk (pre s : Bytes) (k : Int) :
    PyU.read (mk pre s) (.int k) = .ok (.bytes (C03.rdInt k s).1, mk (pre ++ (C03.rdInt k s).1) (C03.rdInt k s).2) := by
  simp only [PyU.read, mk, asInt, C03.rdInt, List.drop_left]
  split
  · simp
  · simp [List.append_assoc]

theorem rdInt_nat (k : Nat) (s : Bytes) : C03.rdInt (k : Int) s = (s.take k, s.drop k) := by
  rw [C03.rdInt, if_neg (by omega), Int.toNat_natCast]

theorem rdInt1 (s : Bytes) : C03.rdInt 1 s = (s.take 1, s.drop 1) := rdInt_nat 1 s
theorem rdInt2 (s : Bytes) : C03.rdInt 2 s = (s.take 2, s.drop 2) := rdInt_nat 2 s
theorem rdInt4 (s : Bytes) : C03.rdInt 4 s = (s.take 4, s.drop 4) := rdInt_nat 4 s

/-- `data.partition(b"\x00")[0]` -/
theorem splitAt_zero_fst (d : Bytes) :
    (match splitAt? [(0 : UInt8)] d with | some p => p.1 | none => d) = C03.nullTerminatedBytes d := by
  induction d with
  | nil => rfl
  | cons b bs ih =>
    by_cases hb : b = 0
    · subst hb; simp [splitAt?, List.isPrefixOf, C03.nullTerminatedBytes]
    · have h1 : ([(0 : UInt8)].isPrefixOf (b :: bs)) = false := by
        simp [List.isPrefixOf]; exact fun h => hb h.symm
      simp only [splitAt?, h1, Bool.false_eq_true, ↓reduceIte, C03.nullTerminatedBytes] at ih ⊢
      rw [List.takeWhile_cons_of_pos (by simpa using hb), ← ih]
      cases splitAt? [(0 : UInt8)] bs <;> rfl

theorem truthy_bytes (b : Bytes) : truthy (.bytes b) = !b.isEmpty := by rfl

theorem append_list (l : List V) (x : V) : PyU.append (.list l) x = .ok (.list (l ++ [x])) := by rfl

theorem isEmpty_false {α : Type} {l : List α} (h : ¬ l = []) : l.isEmpty = false := by
  cases l with
  | nil => exact absurd rfl h
  | cons _ _ => rfl

theorem cps_append (a b : String) : cps (a ++ b) = cps a ++ cps b := by
  simp [cps, String.toList_append]

theorem cps_ofList (l : List Char) : cps (String.ofList l) = l.map Char.toNat := by
  simp [cps]

theorem fmt_x_nat (n : Nat) : fmt (.int (n : Int)) "x" = .ok (cps (C03.hexStr n)) := by
  have h : ¬ ((n : Int) < 0) := by omega
  simp [fmt, hexStr, h, C03.hexStr, cps_ofList]

theorem eq_pair_zero (a b : Nat) :
    PyU.eq (.tuple [.int (a : Int), .int (b : Int)]) (.tuple [.int 0, .int 0]) = decide ((a, b) = (0, 0)) := by
  simp only [PyU.eq, eqL, Bool.and_true, Prod.mk.injEq]
  by_cases ha : a = 0 <;> by_cases hb : b = 0 <;> simp [ha, hb]

/-- first component of a loop result -/
def fstOk (r : Py (V × V)) : Py V := r.map Prod.fst

theorem fstOk_error (e : PyExc) : fstOk (.error e) = .error e := by rfl
theorem fstOk_ok (a b : V) : fstOk (.ok (a, b)) = .ok a := by rfl

theorem bind_fst (r : Py (V × V)) : (r >>= fun t => (pure t.1 : Py V)) = fstOk r := by
  cases r <;> rfl

/-- One run of a loop body against one unfolding of the decoder `parse`.  With `acc` decoded so far and `s` unread,
the body answers `r` and `parse s` is `m`: both stop, both raise the same exception, or the body appends the encodings
of `items` and leaves a shorter rest `s'` while the decoder puts `items` in front of what it makes of `s'`. -/
inductive Iter {α : Type} (parse : Bytes → Py (List α)) (enc : α → V) (acc : List V) (s : Bytes) :
    Py (Ctl × (V × V)) → Py (List α) → Prop
  | stop (p : V) : Iter parse enc acc s (.ok (.brk, (.list acc, p))) (.ok [])
  | fail (e : PyExc) : Iter parse enc acc s (.error e) (.error e)
  | emit (items : List α) {acc' : List V} {pre' s' : Bytes} {m : Py (List α)} (hacc : acc' = acc ++ items.map enc)
      (hlt : s'.length < s.length) (hm : m = (parse s').map (items ++ ·)) :
      Iter parse enc acc s (.ok (.cont, (.list acc', mk pre' s'))) m

theorem Iter.ite_ok {α : Type} {parse : Bytes → Py (List α)} {enc : α → V} {acc : List V} {s : Bytes} {c : Prop}
    [Decidable c] {r r' : Py (Ctl × (V × V))} {l l' : List α} (h : c → Iter parse enc acc s r (.ok l))
    (h' : ¬ c → Iter parse enc acc s r' (.ok l')) :
    Iter parse enc acc s (if c then r else r') (.ok (if c then l else l')) := by
  by_cases hc : c
  · rw [if_pos hc, if_pos hc]; exact h hc
  · rw [if_neg hc, if_neg hc]; exact h' hc

theorem whileFuel_decode {α : Type} (body : V × V → Py (Ctl × (V × V))) (parse : Bytes → Py (List α)) (enc : α → V)
    (step : ∀ pre s acc, Iter parse enc acc s (body (.list acc, mk pre s)) (parse s)) :
    ∀ (fuel : Nat) (pre s : Bytes) (acc : List V), s.length < fuel →
      fstOk (whileFuel fuel body (.list acc, mk pre s)) = (parse s).map fun l => .list (acc ++ l.map enc) := by
  intro fuel
  induction fuel with
  | zero => intro _ s _ h; exact absurd h (Nat.not_lt_zero _)
  | succ f ih =>
    intro pre s acc h
    have hstep := step pre s acc
    rw [whileFuel]
    generalize body (.list acc, mk pre s) = r at hstep ⊢
    generalize parse s = m at hstep ⊢
    cases hstep with
    | stop p => simp only [fstOk_ok, Except.map, List.map_nil, List.append_nil]
    | fail e => rfl
    | emit items hacc hlt hm =>
      subst hacc hm
      rw [ih _ _ _ (by omega)]
      cases parse _ <;> simp only [Except.map, List.map_append, List.append_assoc]

theorem gargle_iter (pre s : Bytes) (acc : List V) :
    Iter (fun s => .ok (C03.parseGargle s)) lit acc s (Gen.PyBeacon.parse_gargle_loop1 (.list acc, mk pre s))
      (.ok (C03.parseGargle s)) := by
  rw [Gen.PyBeacon.parse_gargle_loop1, C03.parseGargle, C03.parseGarglePairs, read_mk, PyU.ok_bind]
  by_cases h4 : List.take 4 s = []
  · simp only [rdInt4, truthy_bytes, h4, List.isEmpty_nil, Bool.not_true, Bool.not_false, ↓reduceIte, pure_ok, ↓reduceDIte,
      List.map_nil]
    exact .stop _
  · have hlt : (List.drop 4 (List.drop 4 s)).length < s.length := by
      have := List.length_pos_iff.mpr (fun hs : s = [] => h4 (by rw [hs]; rfl))
      simp only [List.length_drop]; omega
    simp only [read_mk, rdInt4, PyU.ok_bind, truthy_bytes, u32_bytes, isEmpty_false h4, Bool.not_false, Bool.not_true,
      Bool.false_eq_true, ↓reduceIte, eq_pair_zero, h4, ↓reduceDIte, ne_eq]
    by_cases hz : (C03.u32le (List.take 4 s), C03.u32le (List.take 4 (List.drop 4 s))) = (0, 0)
    · simp only [hz, decide_true, Bool.not_true, Bool.false_eq_true, ↓reduceIte, pure_ok, not_true_eq_false]
      exact .emit [] (List.append_nil _).symm hlt rfl
    · simp only [hz, decide_false, Bool.not_false, ↓reduceIte, fmt_x_nat, PyU.ok_bind, append_list, pure_ok,
        not_false_eq_true, List.map_cons]
      refine .emit [C03.fmtRange _] ?_ hlt rfl
      simp only [List.map_cons, List.map_nil, C03.fmtRange, lit, cps_append, List.append_assoc]

theorem enumMember_of (c : EnumCls) (n : String) (v : Nat) (h : C03.enumVal c.members n = some v) :
    enumMember c n = .ok (.enum c v) := by
  simp only [C03.enumVal] at h
  simp only [enumMember]
  cases hf : List.find? (fun x => x.2 == n) c.members with
  | none => rw [hf] at h; simp at h
  | some m => rw [hf] at h; simp at h; simp [h]

theorem enumMember_ts (n : String) (v : Nat) (h : C03.tsv n = some v) :
    enumMember Gen.PyBeacon.TransformStep n = .ok (.enum Gen.PyBeacon.TransformStep v) :=
  enumMember_of _ n v h

theorem enumMember_ie (n : String) (v : Nat) (h : C03.iev n = some v) :
    enumMember Gen.PyBeacon.InjectExecutor n = .ok (.enum Gen.PyBeacon.InjectExecutor v) :=
  enumMember_of _ n v h

theorem getAttr_name (c : EnumCls) (v : Nat) :
    getAttr (.enum c (v : Int)) "name" = .ok (encOptStr (C03.enumName c.members v)) := by
  have h : ¬ ((v : Int) < 0) := by omega
  simp only [getAttr, beq_self_eq_true, if_true, h, if_false, Int.toNat_natCast, C03.enumName]
  cases List.find? (fun x => x.1 == v) c.members <;> rfl

theorem members_ts : Gen.PyBeacon.TransformStep.members = Gen.Beacon.transformStep := by rfl
theorem members_ie : Gen.PyBeacon.InjectExecutor.members = Gen.Beacon.injectExecutor := by rfl

theorem eq_enum (c : EnumCls) (a b : Nat) : PyU.eq (.enum c (a : Int)) (.enum c (b : Int)) = (a == b) := by
  simp only [PyU.eq, beq_self_eq_true, Bool.true_and, int_beq_nat]

theorem eq_int_enum (a : Int) (c : EnumCls) (b : Int) : PyU.eq (.int a) (.enum c b) = (a == b) := by rfl

theorem eq_int_4 (a : Nat) : PyU.eq (.int (a : Int)) (.int 4) = (a == 4) := eq_int_nat a 4
theorem eq_int_0 (a : Nat) : PyU.eq (.int (a : Int)) (.int 0) = (a == 0) := eq_int_nat a 0

theorem len_bytes (b : Bytes) : PyU.len (.bytes b) = .ok (.int (b.length : Int)) := by rfl

theorem isNone_enum (c : EnumCls) (v : Int) : isNone (.enum c v) = false := by rfl

theorem recover_iter (pre s : Bytes) (acc : List V) :
    Iter (fun s => .ok (C03.parseRecover s)) encROut acc s
      (Gen.PyBeacon.parse_recover_binary_loop1 (.list acc, mk pre s)) (.ok (C03.parseRecover s)) := by
  obtain ⟨a1, a2, a3, a4, a8, a11, a13, a15⟩ := C03.tsv_vals
  rw [Gen.PyBeacon.parse_recover_binary_loop1, C03.parseRecover, read_mk, PyU.ok_bind]
  by_cases h4 : List.take 4 s = []
  · simp only [rdInt4, truthy_bytes, h4, List.isEmpty_nil, Bool.not_true, Bool.not_false, ↓reduceIte, pure_ok, ↓reduceDIte]
    exact .stop _
  · have hpos := List.length_pos_iff.mpr (fun hs : s = [] => h4 (by rw [hs]; rfl))
    have hl4 : (List.drop 4 s).length < s.length := by simp only [List.length_drop]; omega
    have hl8 : (List.drop 4 (List.drop 4 s)).length < s.length := by simp only [List.length_drop]; omega
    simp only [read_mk, rdInt4, PyU.ok_bind, truthy_bytes, u32be_bytes, isEmpty_false h4, Bool.not_false,
      Bool.not_true, Bool.false_eq_true, ↓reduceIte, enumMember_ts _ _ a1, enumMember_ts _ _ a2, enumMember_ts _ _ a3,
      enumMember_ts _ _ a4, enumMember_ts _ _ a8, enumMember_ts _ _ a11, enumMember_ts _ _ a13, enumMember_ts _ _ a15, eq_int_enum,
      int_beq_nat, eq_int_0, append_list, fmt_int, pure_ok, h4, ↓reduceDIte, a1, a2, a3, a4, a8, a11, a13, a15, Option.some_beq_some,
      beq_iff_eq]
    generalize C03.u32be (List.take 4 s) = v
    -- body and model test `v` against the same opcodes in the same order: one `ite_ok` per test; 0 stops, the rest is skipped
    refine .ite_ok (fun _ => .emit [("append", .len _)] rfl hl8 rfl) fun _ => ?_
    refine .ite_ok (fun _ => .emit [("prepend", .len _)] rfl hl8 rfl) fun _ => ?_
    refine .ite_ok (fun _ => .emit [("base64", .flag)] rfl hl4 rfl) fun _ => ?_
    refine .ite_ok (fun _ => .emit [("print", .flag)] rfl hl4 rfl) fun _ => ?_
    refine .ite_ok (fun _ => .emit [("netbios", .flag)] rfl hl4 rfl) fun _ => ?_
    refine .ite_ok (fun _ => .emit [("netbiosu", .flag)] rfl hl4 rfl) fun _ => ?_
    refine .ite_ok (fun _ => .emit [("base64url", .flag)] rfl hl4 rfl) fun _ => ?_
    refine .ite_ok (fun _ => .emit [("mask", .flag)] rfl hl4 rfl) fun _ => ?_
    exact .ite_ok (fun _ => .stop _) fun _ => .emit [] (List.append_nil _).symm hl4 rfl

theorem tsv_more : C03.tsv "URI_APPEND" = some 12 ∧ C03.tsv "_HEADER" = some 10 ∧ C03.tsv "HEADER" = some 6 ∧
    C03.tsv "PARAMETER" = some 5 ∧ C03.tsv "_PARAMETER" = some 9 ∧ C03.tsv "_HOSTHEADER" = some 16 := by decide +kernel

/-- the value of `ENABLE_STEPS` / `ARGUMENT_STEPS` -/
def tsList (vals : List Nat) : V := .list (vals.map fun (k : Nat) => .enum Gen.PyBeacon.TransformStep (k : Int))

/-- the value of `BUILD_MAP` -/
def buildMapV (build : String) : V := .dict [.int 0, .int 1] [lit build, lit "output"]

theorem mkDict_build (build : String) :
    mkDict [(.int 0, lit build), (.int 1, lit "output")] = .ok (buildMapV build) := by
  rfl

theorem buildMap_get (build : String) (b : Nat) :
    dictGet (buildMapV build) (.int (b : Int)) (lit "UNKNOWN BUILD ARG") = .ok (lit (C03.buildMap build b)) := by
  simp only [dictGet, buildMapV, hashable, ↓reduceIte, findKey, keyEq, PyU.eq, Bool.and_true, C03.buildMap]
  by_cases h0 : b = 0
  · subst h0; simp
  · by_cases h1 : b = 1
    · subst h1; simp
    · have e0 : ((b : Int) == 0) = false := by simp; omega
      have e1 : ((b : Int) == 1) = false := by simp; omega
      simp [e0, e1, h0, h1]

theorem contains_tsList (vals : List Nat) (v : Nat) :
    contains (tsList vals) (.enum Gen.PyBeacon.TransformStep (v : Int)) = .ok ((vals.map some).contains (some v)) := by
  simp only [contains, tsList]
  congr 1
  induction vals with
  | nil => rfl
  | cons k ks ih =>
    simp only [List.map_cons, List.any_cons, ih, List.contains_cons, eq_enum, Option.some_beq_some]

theorem enumCall_ts_int (v : Int) :
    enumCall Gen.PyBeacon.TransformStep (.int v) = .ok (.enum Gen.PyBeacon.TransformStep v) := by rfl

theorem transform_iter (build : String) (pre s : Bytes) (acc : List V) :
    Iter (fun s => .ok (C03.parseTransform build s)) encTOut acc s
      (Gen.PyBeacon.parse_transform_binary_loop1 (tsList C03.refEnable) (tsList C03.refArg) (buildMapV build)
        (.list acc, mk pre s)) (.ok (C03.parseTransform build s)) := by
  have mB := enumMember_ts _ _ C03.tsv_build
  rw [Gen.PyBeacon.parse_transform_binary_loop1, C03.parseTransform, read_mk, PyU.ok_bind]
  simp only [read_mk, rdInt4, PyU.ok_bind, u32be_bytes, len_bytes, eq_int_4, eq_int_0, beq_iff_eq, Bool.or_eq_true,
    Bool.not_eq_true', beq_eq_false_iff_ne, ne_eq, enumCall_ts_int, getAttr_name, members_ts, isNone_enum, Bool.false_eq_true, ↓reduceIte,
    mB, eq_enum, contains_tsList, buildMap_get, append_list, rdInt_nat, pure_ok, C03.tsv_build, C03.enableVals_eq,
    C03.argVals_eq, Option.some_beq_some]
  by_cases c0 : ¬(List.take 4 s).length = 4 ∨ C03.u32be (List.take 4 s) = 0
  · simp only [c0, ↓reduceIte, ↓reduceDIte]
    exact .stop _
  · have hl : 4 ≤ s.length := by
      have : (List.take 4 s).length = 4 := Decidable.not_not.mp fun h => c0 (Or.inl h)
      simp only [List.length_take] at this
      omega
    have hl4 : (List.drop 4 s).length < s.length := by simp only [List.length_drop]; omega
    have hl8 : (List.drop 4 (List.drop 4 s)).length < s.length := by simp only [List.length_drop]; omega
    simp only [c0, ↓reduceIte, ↓reduceDIte]
    generalize C03.u32be (List.take 4 s) = v
    -- an argument step reads a length and that many bytes: its length goal is the one left open below
    refine .ite_ok (fun _ => .emit [(_, .str _)] rfl hl8 rfl) fun _ => ?_
    refine .ite_ok (fun _ => .emit [(_, .flag)] rfl hl4 rfl) fun _ => ?_
    refine .ite_ok (fun _ => .emit [(_, .bytes _)] rfl ?_ rfl) fun _ => .emit [] (List.append_nil _).symm hl4 rfl
    simp only [List.length_drop]; omega

theorem utf8_eq_aux (n : Nat) : ∀ s : Bytes, s.length ≤ n → PyU.utf8 s = C03.utf8Decode s := by
  induction n with
  | zero =>
    intro s h
    have : s = [] := List.eq_nil_of_length_eq_zero (by omega)
    subst this
    rw [PyU.utf8.eq_def, C03.utf8Decode.eq_def]
  | succ n ih =>
    intro s h
    match s, h with
    | [], _ => rw [PyU.utf8.eq_def, C03.utf8Decode.eq_def]
    | [b0], _ =>
      rw [PyU.utf8.eq_def, C03.utf8Decode.eq_def]
      simp only [ih [] (by simp)]
      try rfl
    | [b0, b1], h =>
      rw [PyU.utf8.eq_def, C03.utf8Decode.eq_def]
      simp only [ih [b1] (by simp at h ⊢; omega), ih [] (by simp), PyU.isCont, C03.isCont]
      try rfl
    | [b0, b1, b2], h =>
      rw [PyU.utf8.eq_def, C03.utf8Decode.eq_def]
      simp only [ih [b1, b2] (by simp at h ⊢; omega), ih [b2] (by simp at h ⊢; omega), ih [] (by simp), PyU.isCont,
        C03.isCont]
      try rfl
    | b0 :: b1 :: b2 :: b3 :: r, h =>
      rw [PyU.utf8.eq_def, C03.utf8Decode.eq_def]
      simp only [ih (b1 :: b2 :: b3 :: r) (by simp at h ⊢; omega), ih (b2 :: b3 :: r) (by simp at h ⊢; omega),
        ih (b3 :: r) (by simp at h ⊢; omega), ih r (by simp at h ⊢; omega), PyU.isCont, C03.isCont]
      try rfl

theorem utf8_eq (s : Bytes) : PyU.utf8 s = C03.utf8Decode s := utf8_eq_aux s.length s (Nat.le_refl _)

theorem enumCall_ie_byte (b : UInt8) :
    enumCall Gen.PyBeacon.InjectExecutor (.bytes [b]) = .ok (.enum Gen.PyBeacon.InjectExecutor (b.toNat : Int)) := by
  simp [enumCall, Gen.PyBeacon.InjectExecutor, beNat]

theorem rstrip_nul (x : Bytes) : rstrip (.bytes x) (.bytes [0]) = .ok (.bytes (C03.rstripNul x)) := by
  simp only [rstrip, rstripL, C03.rstripNul]
  congr 4
  funext c
  simp [BEq.beq]

theorem rstrip_underscore (n : String) :
    rstrip (lit n) (lit "_") = .ok (.str (C03.rstripUnderscore (C03.strCps n))) := by
  have : cps "_" = [95] := by decide
  simp only [rstrip, lit, rstripL, C03.rstripUnderscore, C03.strCps, this]
  congr 4
  funext c
  simp [BEq.beq]

theorem rstrip_none (c : V) : rstrip .none c = .error .attributeError := by rfl

theorem decodeUtf8_bytes (b : Bytes) : decodeUtf8 (.bytes b) = (C03.utf8Decode b).map .str := by
  simp [decodeUtf8, utf8_eq]

theorem truthy_int_nat (n : Nat) : truthy (.int (n : Int)) = (n != 0) := by
  show ((n : Int) != ((0 : Nat) : Int)) = (n != 0)
  simp only [bne, int_beq_nat]

theorem iadd_str (a b : PyRt.Str) : iadd (.str a) (.str b) = .ok (.str (a ++ b)) := by rfl

theorem execute_iter (pre s : Bytes) (acc : List V) :
    Iter C03.parseExecute encEx acc s (Gen.PyBeacon.parse_execute_list_loop1 (.list acc, mk pre s))
      (C03.parseExecute s) := by
  obtain ⟨i6, i7⟩ := C03.iev_vals
  rw [Gen.PyBeacon.parse_execute_list_loop1, C03.parseExecute.eq_def, read_mk, PyU.ok_bind]
  cases s with
  | nil =>
    rw [if_pos]
    · exact .stop _
    · rfl
  | cons b s1 =>
    have eb : PyU.eq (V.bytes [b]) (V.bytes [0]) = (b == 0) := by simp [PyU.eq]
    have hd : (!truthy (V.bytes (C03.rdInt 1 (b :: s1)).1) || PyU.eq (V.bytes (C03.rdInt 1 (b :: s1)).1) (V.bytes [0])) = (b == 0) := by
      simp only [rdInt1, List.take_succ_cons, List.take_zero, truthy_bytes, List.isEmpty_cons, Bool.not_false, Bool.not_true,
        Bool.false_or, eb]
    dsimp only
    rw [hd]
    by_cases hb : b = 0
    · rw [if_pos (beq_iff_eq.mpr hb), if_pos hb]
      exact .stop _
    rw [if_neg (fun h => hb (beq_iff_eq.mp h)), if_neg hb]
    simp only [rdInt1, List.take_succ_cons, List.take_zero, List.drop_succ_cons, List.drop_zero, enumCall_ie_byte,
      enumMember_ie _ _ i6, enumMember_ie _ _ i7, PyU.ok_bind, contains, List.any_cons, List.any_nil, eq_enum, Bool.or_false, i6, i7,
      Option.some_beq_some]
    by_cases hc : (b.toNat == 6 || b.toNat == 7) = true
    · have q1 : cps " \"" = [32, 34] := by decide
      have q2 : cps "!" = [33] := by decide
      have q3 : cps "\"" = [34] := by decide
      simp only [hc, ↓reduceIte, rdInt2, rdInt4, u16be_bytes, u32be_bytes, PyU.ok_bind, read_mk, rdInt_nat, rstrip_nul,
        decodeUtf8_bytes, truthy_int_nat, getAttr_name, members_ie]
      -- `t3`: what follows the module name; `M`, `F`: the two names; `s4`: the offset
      generalize ht3 : List.drop (C03.u32be (List.take 4 (List.drop 2 s1))) (List.drop 4 (List.drop 2 s1)) = t3
      have hl3 : t3.length ≤ s1.length := by rw [← ht3]; simp only [List.length_drop]; omega
      generalize C03.rstripNul (List.take (C03.u32be (List.take 4 (List.drop 2 s1))) (List.drop 4 (List.drop 2 s1))) = M
      generalize C03.rstripNul (List.take (C03.u32be (List.take 4 t3)) (List.drop 4 t3)) = F
      generalize C03.u16be (List.take 2 s1) = s4
      cases C03.utf8Decode M with
      | error e => exact .fail e
      | ok ms =>
        cases C03.utf8Decode F with
        | error e => exact .fail e
        | ok fs =>
          simp only [Except.map, PyU.ok_bind]
          -- both arms of `if s4:` go on in the same way with the text `module!function[+0xoffset]`
          have hoff : ∀ K : V → Py (Ctl × (V × V)),
              (if (s4 != 0) = true then
                (fmt (.int (s4 : Int)) "x" >>= fun t21 =>
                  iadd (.str (ms ++ cps "!" ++ fs)) (.str (cps "+0x" ++ t21)) >>= K)
              else K (.str (ms ++ cps "!" ++ fs))) =
              K (.str (ms ++ [33] ++ fs ++ if s4 ≠ 0 then C03.strCps ("+0x" ++ C03.hexStr s4) else [])) := by
            intro K
            by_cases h4 : s4 = 0
            · simp [h4, q2]
            · have hsc : C03.strCps ("+0x" ++ C03.hexStr s4) = cps "+0x" ++ cps (C03.hexStr s4) := cps_append _ _
              simp [h4, fmt_x_nat, iadd_str, q2, hsc]
          rw [fmt_str ms, PyU.ok_bind, fmt_str fs, PyU.ok_bind, hoff]
          cases C03.enumName Gen.Beacon.injectExecutor b.toNat with
          | none => exact .fail _
          | some nm =>
            simp only [encOptStr, rstrip_underscore, PyU.ok_bind, fmt_str, append_list, pure_ok]
            refine .emit [some (C03.rstripUnderscore (C03.strCps nm) ++ [32, 34] ++
              (ms ++ [33] ++ fs ++ if s4 ≠ 0 then C03.strCps ("+0x" ++ C03.hexStr s4) else []) ++ [34])] ?_ ?_ ?_
            · simp only [List.map_cons, List.map_nil, encEx, q1, q3, List.append_assoc]
            · simp only [List.length_drop, List.length_cons]; omega
            · cases C03.parseExecute (List.drop (C03.u32be (List.take 4 t3)) (List.drop 4 t3)) <;> rfl
    · simp only [hc, Bool.false_eq_true, ↓reduceIte, getAttr_name, members_ie, PyU.ok_bind, append_list, pure_ok]
      refine .emit [(C03.enumName Gen.Beacon.injectExecutor b.toNat).map C03.strCps] ?_ (Nat.lt_succ_self _) ?_
      · cases C03.enumName Gen.Beacon.injectExecutor b.toNat <;> rfl
      · cases C03.parseExecute s1 <;> rfl

end C03Gen

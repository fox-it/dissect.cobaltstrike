import CsVerif.Model.C05
import CsVerif.Lemmas.C20
/-! Helper lemmas for C05.  The equation of one loop iteration (`iterClientStep_eq`) and the read lemmas it rests on stand in
`Model/C05.lean`, in front of the loop whose termination they prove. -/
namespace C05
open C20

theorem iterClientPackets_nil : iterClientPackets [] = ([], none) := by
  rw [iterClientPackets]; rfl

theorem iterClientPackets_error {data : Bytes} {e : PyExc} (hne : data ≠ [])
    (h : iterClientStep data = .error e) : iterClientPackets data = ([], some e) := by
  rw [iterClientPackets]
  have : data.isEmpty = false := by cases data <;> simp_all
  simp only [this, Bool.false_eq_true, ↓reduceIte]
  split
  · rename_i e' h'; rw [h] at h'; cases h'; rfl
  · rename_i p rest h'; rw [h] at h'; cases h'

theorem iterClientPackets_ok {data : Bytes} {p : Packet} {rest : Bytes}
    (h : iterClientStep data = .ok (p, rest)) :
    iterClientPackets data = (p :: (iterClientPackets rest).1, (iterClientPackets rest).2) := by
  rw [iterClientPackets]
  have : data.isEmpty = false := by
    have := iterClientStep_consumes h
    cases data
    · simp at this
    · rfl
  simp only [this, Bool.false_eq_true, ↓reduceIte]
  split
  · rename_i e' h'; rw [h] at h'; cases h'
  · rename_i p' rest' h'; rw [h] at h'; cases h'; rfl

theorem p32be_ok (n : Nat) (h : n < 2 ^ 32) : p32be n = .ok (toBytesU .big 4 n) := by
  unfold p32be pack toBytes
  simp only [Bool.false_eq_true, ↓reduceIte]
  rw [if_pos (by constructor <;> omega)]
  simp

theorem p32be_overflow (n : Nat) (h : 2 ^ 32 ≤ n) : p32be n = .error .overflowError := by
  unfold p32be pack toBytes
  simp only [Bool.false_eq_true, ↓reduceIte]
  rw [if_neg (by omega)]

theorem dumps_ok (p : Packet) (h : p.ciphertext.length + p.signature.length < 2 ^ 32) :
    dumps p = .ok (toBytesU .big 4 (p.ciphertext.length + p.signature.length) ++ (p.ciphertext ++ p.signature)) := by
  unfold dumps
  rw [List.length_append, p32be_ok _ h]
  rfl

theorem iterClientStep_append (hdr body : Bytes) (hh : hdr.length = 4) :
    iterClientStep (hdr ++ body) =
      if fromBytesU .big hdr < 16 then .ok (⟨body, []⟩, [])
      else .ok (⟨body.take (fromBytesU .big hdr - 16), (body.drop (fromBytesU .big hdr - 16)).take 16⟩,
        body.drop (fromBytesU .big hdr)) := by
  rw [iterClientStep_eq, if_neg (by rw [List.length_append, hh]; omega), List.take_left' hh, List.drop_left' hh]

theorem iterClientStep_frame (ct sig more : Bytes) (hs : sig.length = 16) (hl : ct.length + 16 < 2 ^ 32) :
    iterClientStep (toBytesU .big 4 (ct.length + 16) ++ (ct ++ sig) ++ more) = .ok (⟨ct, sig⟩, more) := by
  rw [List.append_assoc, iterClientStep_append _ _ (toBytesU_length _ _ _), fromBytesU_toBytesU _ _ _ (by omega),
    if_neg (by omega), Nat.add_sub_cancel, List.drop_left' (l₁ := ct ++ sig) (i := ct.length + 16) (by rw [List.length_append, hs]),
    List.append_assoc, List.take_left' rfl, List.drop_left' rfl, List.take_left' hs]

theorem padTo_length (bs : Nat) (d : Bytes) :
    (padTo bs d).length = d.length + (bs - d.length % bs) := by
  simp [padTo]

theorem pad_length_mod (d : Bytes) : (pad d).length % 16 = 0 := by
  rw [pad, padTo_length]; omega

/-- The packet is accepted by `decrypt_packet(..., verify=True)`: an HMAC key is present, not empty,
and the first 16 bytes of the MAC over the ciphertext equal the signature. -/
def Verifies (c : Crypto) (p : Packet) : Option Bytes → Prop
  | none => False
  | some k => k ≠ [] ∧ mac16 c k p.ciphertext = p.signature

instance (c : Crypto) (p : Packet) (hk : Option Bytes) : Decidable (Verifies c p hk) := by
  cases hk <;> unfold Verifies <;> infer_instance

/-- the primitive calls of a rejected packet: the one MAC computation, unless there was no usable key -/
def rejectLog (p : Packet) : Option Bytes → List Call
  | some (b :: bs) => [.hmac (b :: bs) p.ciphertext]
  | _ => []

theorem decryptPacketT_reject (c : Crypto) (p : Packet) (ak hk : Option Bytes) (iv : Bytes) (h : ¬ Verifies c p hk) :
    decryptPacketT c p ak hk iv true = (.error .valueError, rejectLog p hk) := by
  rcases hk with _ | _ | ⟨b, bs⟩
  · rfl
  · rfl
  · have hm : mac16 c (b :: bs) p.ciphertext ≠ p.signature := fun hm => h ⟨List.cons_ne_nil b bs, hm⟩
    simp only [decryptPacketT, raiseForSignatureT, ↓reduceIte, if_pos hm, rejectLog]

theorem decryptPacketT_accept (c : Crypto) (p : Packet) (ak : Option Bytes) (k iv : Bytes) (h : Verifies c p (some k)) :
    decryptPacketT c p ak (some k) iv true =
      ((decryptDataT c p.ciphertext ak iv).1, Call.hmac k p.ciphertext :: (decryptDataT c p.ciphertext ak iv).2) := by
  obtain ⟨hne, hm⟩ := h
  cases k with
  | nil => exact absurd rfl hne
  | cons b bs =>
    simp only [decryptPacketT, raiseForSignatureT, ↓reduceIte, hm, ne_eq, not_true_eq_false]
    rfl

theorem toy_laws : CryptoLaws toyCrypto where
  dec_enc k iv p h :=
    have h' : AesArgsOk k iv (C20.xor p (k ++ iv)) := ⟨h.1, h.2.1, by rw [length_xor]; exact h.2.2⟩
    ⟨C20.xor p (k ++ iv), if_pos h, length_xor _ _, (if_pos h').trans (congrArg _ (xor_xor _ _))⟩
  dec_total k iv ct h := ⟨C20.xor ct (k ++ iv), if_pos h, length_xor _ _⟩
  enc_raises k iv p h := if_neg h
  dec_raises k iv p h := if_neg h
  hmac_len k m := by simp [toyCrypto]; omega

end C05

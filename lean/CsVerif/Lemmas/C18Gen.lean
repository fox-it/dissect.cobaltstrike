import CsVerif.Model.C18Gen
import CsVerif.Lemmas.PyUFile
import CsVerif.Lemmas.PyULib15
import CsVerif.Lemmas.C18
/-! The cstruct reads of `Model/PyU_T18.lean` against `readStruct` / `fieldVal` / `readSections` of `Model/C18.lean`, and the
definitions of `Gen/PyPe.lean` against the model: loop bodies against `C18.probe`, scan loops against `C18.scanLoop`, the
straight-line parts against `compileStampsAt` / `magicMzAt` / `magicPeAt` / `prependAppendAt`. -/
namespace C18Gen
open PyU
open C15Gen (encFile encOptNat encOptInt fileTell_enc fileRead_enc fileRead_nat fileRead_4 fileSeek_set fileSeek_nat nat_ne_neg1)
open Gen.PeStruct
-- one simp list serves the branches of a step; which equations fire differs between them

theorem isNone_int (n : Int) : isNone (.int n) = false := rfl
theorem isNone_bytes (b : Bytes) : isNone (.bytes b) = false := rfl
theorem isNone_none : isNone .none = true := rfl
theorem iterList_list (xs : List V) : iterList (.list xs) = .ok xs := rfl
theorem unpack2_tuple (a b : V) : unpack2 (.tuple [a, b]) = .ok (a, b) := rfl

theorem leNat_eq (b : Bytes) : t18LeNat b = C18.leNat b := by
  induction b with
  | nil => rfl
  | cons x t ih => simp only [t18LeNat, C18.leNat, ih]

theorem intVal_eq (buf : Bytes) (o s : Nat) (sg : Bool) : t18IntVal buf ⟨o, s, sg⟩ = C18.fieldVal buf ⟨o, s, sg⟩ := by
  simp only [t18IntVal, C18.fieldVal, C18.slice, leNat_eq]
  rfl

/-- `h` (by `rfl`) says that the two introspected layouts, `Gen/PyPe` and `Gen/PeStruct`, agree on the field -/
theorem attr_field {ty : T18Ty} {b : Bytes} {name : String} (fld : Field)
    (h : getAttr (t18Value ty b) name = .ok (.int (t18IntVal b ⟨fld.off, fld.size, fld.signed⟩))) :
    getAttr (t18Value ty b) name = .ok (.int (C18.fieldVal b fld)) := by
  rw [h, intVal_eq]

theorem readE_enc (ty : T18Ty) (f : PyFile) :
    t18ReadE ty (encFile f) = .ok ((C18.readStruct f ty.size).1.map (t18Value ty), encFile (C18.readStruct f ty.size).2) := by
  simp only [t18ReadE, fileRead_nat, C18.readStruct]
  split <;> rfl

theorem dos_lfanew (b : Bytes) :
    getAttr (t18Value Gen.PyPe.IMAGE_DOS_HEADER b) "e_lfanew" = .ok (.int (C18.fieldVal b dosLfanew)) :=
  attr_field dosLfanew rfl

theorem fh_machine (b : Bytes) :
    getAttr (t18Value Gen.PyPe.IMAGE_FILE_HEADER b) "Machine" = .ok (.int (C18.fieldVal b fhMachine)) :=
  attr_field fhMachine rfl

theorem dosHeader_size : Gen.PyPe.IMAGE_DOS_HEADER.size = dosHeaderSize := by rfl
theorem fileHeader_size : Gen.PyPe.IMAGE_FILE_HEADER.size = fileHeaderSize := by rfl
theorem amd64_int : ((machineAmd64 : Nat) : Int) = 34404 := by decide
theorem i386_int : ((machineI386 : Nat) : Int) = 332 := by decide

/-- what one iteration of a scan loop answers: the loop control, the file, `ret0` -/
def bodyAns {α : Type} (classify : Int → Option α) (enc : Nat → α → V) (base : Nat) (r : Option Int × PyFile) : Ctl × V × V :=
  match r with
  | (some m, f1) =>
    (match classify m with
     | some a => (Ctl.brk, encFile f1, t18Ret (enc base a))
     | none => (Ctl.cont, encFile f1, t18NoRet))
  | (none, f1) => (Ctl.cont, encFile f1, t18NoRet)

theorem gen_find_mz_offset_loop1 (start maxrange off : Nat) (f : PyFile) :
    Gen.PyPe.find_mz_offset_loop1 (.int (start : Int)) (.int (maxrange : Int)) (.int (off : Int)) (encFile f, t18NoRet) =
      .ok (bodyAns C18.classifyMz (fun o _ => V.int (o : Int)) (start + off) (C18.probe f (start + off) maxrange)) := by
  unfold Gen.PyPe.find_mz_offset_loop1 C18.probe bodyAns
  have h0 : ((start : Int) + (off : Int)) = ((start + off : Nat) : Int) := by omega
  simp only [add_int, h0, fileSeek_nat, PyU.ok_bind, readE_enc, dosHeader_size, C18.seekNat]
  generalize C18.readStruct { data := f.data, pos := start + off, kind := f.kind } dosHeaderSize = r
  rcases r with ⟨_ | mz, f2⟩
  · rfl
  · simp only [Option.map, dos_lfanew, PyU.ok_bind, gt_int, lt_int, add_int]
    by_cases h1 : 0 < C18.fieldVal mz dosLfanew
    · by_cases h2 : C18.fieldVal mz dosLfanew < (maxrange : Int)
      · have hsk : ((start + off : Nat) : Int) + 4 + C18.fieldVal mz dosLfanew = ((start + off + 4 + (C18.fieldVal mz dosLfanew).toNat : Nat) : Int) := by omega
        simp only [h1, h2, decide_true, and_self, hsk, fileSeek_nat, PyU.ok_bind, readE_enc, fileHeader_size, ↓reduceIte]
        generalize C18.readStruct { data := f2.data, pos := start + off + 4 + (C18.fieldVal mz dosLfanew).toNat, kind := f2.kind } fileHeaderSize = r4
        rcases r4 with ⟨_ | img, f4⟩
        · rfl
        · simp only [Option.map, fh_machine, PyU.ok_bind, contains, List.any, PyU.eq, C18.classifyMz]
          rw [amd64_int, i386_int]
          by_cases hA : C18.fieldVal img fhMachine = 34404
          · simp [hA, pure_ok]
          · by_cases hI : C18.fieldVal img fhMachine = 332
            · simp [hI, pure_ok]
            · simp [hA, hI, pure_ok]
      · simp only [h1, h2, decide_true, decide_false, and_false, Bool.false_eq_true, ↓reduceIte]
        rfl
    · simp only [h1, decide_false, false_and, Bool.false_eq_true, ↓reduceIte]
      rfl

/-- a scan loop of pe.py (`for offset in range(maxrange): … return …`) run by `forList`, against `C18.scanLoop` -/
theorem gen_scan_forList {α : Type} (classify : Int → Option α) (enc : Nat → α → V) (body : V → V × V → Py (Ctl × V × V))
    (start maxrange : Nat)
    (hbody : ∀ (off : Nat) (f : PyFile), body (.int (off : Int)) (encFile f, t18NoRet) =
      .ok (bodyAns classify enc (start + off) (C18.probe f (start + off) maxrange)))
    (l : List Nat) (f : PyFile) :
    forList (l.map fun (i : Nat) => V.int (i : Int)) body (encFile f, t18NoRet) =
      .ok (match C18.scanLoop classify start maxrange l f with
        | (some (o, a), f1) => (encFile f1, t18Ret (enc o a))
        | (none, f1) => (encFile f1, t18NoRet)) := by
  induction l generalizing f with
  | nil => rfl
  | cons off rest ih =>
    simp only [List.map_cons, forList, hbody, C18.scanLoop, bodyAns]
    rcases C18.probe f (start + off) maxrange with ⟨_ | m, f1⟩
    · simp only; exact ih f1
    · simp only
      cases classify m with
      | none => simp only; exact ih f1
      | some a => rfl

theorem gen_find_mz_offset_proof (f : PyFile) (start : Option Nat) (maxrange : Nat) :
    Gen.PyPe.find_mz_offset (encFile f) (encOptNat start) (.int (maxrange : Int)) = encRes encOptNat (C18.findMzOffset f start maxrange) := by
  unfold Gen.PyPe.find_mz_offset C18.findMzOffset
  have hl := gen_scan_forList C18.classifyMz (fun o _ => V.int (o : Int)) (Gen.PyPe.find_mz_offset_loop1 (.int ((C18.startOf f start : Nat) : Int)) (.int (maxrange : Int)))
    (C18.startOf f start) maxrange (fun off g => gen_find_mz_offset_loop1 _ _ off g) (List.range maxrange) f
  cases start with
  | none =>
    simp only [encOptNat, isNone, Bool.not_true, Bool.false_eq_true, fileTell_enc, PyU.ok_bind, rangeV_nat, iterList_list, ↓reduceIte]
    simp only [C18.startOf, PyFile.tell] at hl ⊢
    simp only [hl, PyU.ok_bind]
    rcases C18.scanLoop C18.classifyMz f.pos maxrange (List.range maxrange) f with ⟨_ | ⟨o, u⟩, f1⟩ <;> rfl
  | some s =>
    simp only [encOptNat, isNone, Bool.not_false, PyU.ok_bind, rangeV_nat, iterList_list, ↓reduceIte]
    simp only [C18.startOf] at hl ⊢
    simp only [hl, PyU.ok_bind]
    rcases C18.scanLoop C18.classifyMz s maxrange (List.range maxrange) f with ⟨_ | ⟨o, u⟩, f1⟩ <;> rfl


/-- what every caller of `find_mz_offset` does with the answer: `N` when it is `None`, `K` otherwise. Used through `Eq.trans`, which
matches the caller's whole remaining body against `K` as it stands, before any `simp` has walked through it -/
theorem gen_find_mz_offset_bind (f : PyFile) (start : Option Nat) (maxrange : Nat) (N K : V × V → Py V) :
    (do let t1 ← Gen.PyPe.find_mz_offset (encFile f) (encOptNat start) (.int (maxrange : Int))
        let t2 ← unpack2 t1
        if isNone t2.1 = true then N t2 else K t2)
    = match C18.findMzOffset f start maxrange with
      | (none, f1) => N (V.none, encFile f1)
      | (some o, f1) => K (V.int (o : Int), encFile f1) := by
  rw [gen_find_mz_offset_proof]
  rcases C18.findMzOffset f start maxrange with ⟨_ | o, f1⟩ <;> rfl

theorem gen_find_architecture_loop1 (start maxrange off : Nat) (f : PyFile) :
    Gen.PyPe.find_architecture_loop1 (.int (start : Int)) (.int (maxrange : Int)) (.int (off : Int)) (encFile f, t18NoRet) =
      .ok (bodyAns C18.classifyArch (fun _ a => encArch (some a)) (start + off) (C18.probe f (start + off) maxrange)) := by
  unfold Gen.PyPe.find_architecture_loop1 C18.probe bodyAns
  have h0 : ((start : Int) + (off : Int)) = ((start + off : Nat) : Int) := by omega
  simp only [add_int, h0, fileSeek_nat, PyU.ok_bind, readE_enc, dosHeader_size, C18.seekNat]
  generalize C18.readStruct { data := f.data, pos := start + off, kind := f.kind } dosHeaderSize = r
  rcases r with ⟨_ | mz, f2⟩
  · rfl
  · simp only [Option.map, dos_lfanew, PyU.ok_bind, gt_int, lt_int, add_int]
    by_cases h1 : 0 < C18.fieldVal mz dosLfanew
    · by_cases h2 : C18.fieldVal mz dosLfanew < (maxrange : Int)
      · have hsk : ((start + off : Nat) : Int) + 4 + C18.fieldVal mz dosLfanew = ((start + off + 4 + (C18.fieldVal mz dosLfanew).toNat : Nat) : Int) := by omega
        simp only [h1, h2, decide_true, and_self, hsk, fileSeek_nat, PyU.ok_bind, readE_enc, fileHeader_size, ↓reduceIte]
        generalize C18.readStruct { data := f2.data, pos := start + off + 4 + (C18.fieldVal mz dosLfanew).toNat, kind := f2.kind } fileHeaderSize = r4
        rcases r4 with ⟨_ | img, f4⟩
        · rfl
        · simp only [Option.map, fh_machine, PyU.ok_bind, PyU.eq, C18.classifyArch]
          rw [amd64_int, i386_int]
          by_cases hA : C18.fieldVal img fhMachine = 34404
          · simp [hA, pure_ok]; rfl
          · by_cases hI : C18.fieldVal img fhMachine = 332
            · simp [hI, pure_ok]; rfl
            · simp [hA, hI, pure_ok]
      · simp only [h1, h2, decide_true, decide_false, and_false, Bool.false_eq_true, ↓reduceIte]
        rfl
    · simp only [h1, decide_false, false_and, Bool.false_eq_true, ↓reduceIte]
      rfl

theorem gen_find_architecture_proof (f : PyFile) (start : Option Nat) (maxrange : Nat) :
    Gen.PyPe.find_architecture (encFile f) (encOptNat start) (.int (maxrange : Int)) = encRes encArch (C18.findArchitecture f start maxrange) := by
  unfold Gen.PyPe.find_architecture C18.findArchitecture
  have hl := gen_scan_forList C18.classifyArch (fun _ a => encArch (some a)) (Gen.PyPe.find_architecture_loop1 (.int ((C18.startOf f start : Nat) : Int)) (.int (maxrange : Int)))
    (C18.startOf f start) maxrange (fun off g => gen_find_architecture_loop1 _ _ off g) (List.range maxrange) f
  cases start with
  | none =>
    simp only [encOptNat, isNone, Bool.not_true, Bool.false_eq_true, fileTell_enc, PyU.ok_bind, rangeV_nat, iterList_list, ↓reduceIte]
    simp only [C18.startOf, PyFile.tell] at hl ⊢
    simp only [hl, PyU.ok_bind]
    rcases C18.scanLoop C18.classifyArch f.pos maxrange (List.range maxrange) f with ⟨_ | ⟨o, u⟩, f1⟩ <;> rfl
  | some s =>
    simp only [encOptNat, isNone, Bool.not_false, PyU.ok_bind, rangeV_nat, iterList_list, ↓reduceIte]
    simp only [C18.startOf] at hl ⊢
    simp only [hl, PyU.ok_bind]
    rcases C18.scanLoop C18.classifyArch s maxrange (List.range maxrange) f with ⟨_ | ⟨o, u⟩, f1⟩ <;> rfl


theorem findFrom_eq (needle hay : Bytes) (i : Nat) : findFrom needle hay i = C18.findSub needle hay i := by
  induction hay generalizing i with
  | nil => unfold findFrom C18.findSub; rfl
  | cons x t ih => unfold findFrom C18.findSub; simp only [ih]

/-- `data.find(needle)` as an int (`-1` = not found) -/
def findInt (needle hay : Bytes) : Int := match C18.findSub needle hay 0 with | some p => (p : Int) | none => -1

theorem find_none (hay needle : Bytes) : PyU.find (.bytes hay) (.bytes needle) .none = .ok (.int (findInt needle hay)) := by
  rw [find_bytes_none, show (0 : Int) = ((0 : Nat) : Int) from rfl, findList_natCast, if_neg (Nat.not_lt_zero _), List.drop_zero,
    findFrom_eq, findInt]
  cases C18.findSub needle hay 0 <;> rfl

theorem findInt_spec (needle hay : Bytes) :
    (∃ p : Nat, C18.findSub needle hay 0 = some p ∧ findInt needle hay = (p : Int)) ∨
    (C18.findSub needle hay 0 = none ∧ findInt needle hay = -1) := by
  unfold findInt
  cases C18.findSub needle hay 0 with
  | some p => exact Or.inl ⟨p, rfl, rfl⟩
  | none => exact Or.inr ⟨rfl, rfl⟩

theorem findSub_le (needle : Bytes) : ∀ (hay : Bytes) (i p : Nat), C18.findSub needle hay i = some p → p ≤ i + hay.length := by
  intro hay
  induction hay with
  | nil => intro i p h; unfold C18.findSub at h; split at h <;> simp_all
  | cons x t ih =>
    intro i p h
    unfold C18.findSub at h
    split at h
    · simp_all
    · have := ih (i + 1) p h
      simp only [List.length_cons]; omega

theorem gen_find_magic_mz_proof (f : PyFile) (start : Option Nat) (maxrange : Nat) :
    Gen.PyPe.find_magic_mz (encFile f) (encOptNat start) (.int (maxrange : Int)) = encRes encOptBytes (C18.findMagicMz f start maxrange) := by
  unfold Gen.PyPe.find_magic_mz C18.findMagicMz
  refine (gen_find_mz_offset_bind f start maxrange _ _).trans ?_
  rcases C18.findMzOffset f start maxrange with ⟨_ | o, f1⟩
  · rfl
  · simp only [encRes, PyU.ok_bind, fileSeek_nat]
    have hr : fileRead (encFile { f1 with pos := o }) (.int 256) = .ok (.bytes (({ f1 with pos := o } : PyFile).read 256).1, encFile (({ f1 with pos := o } : PyFile).read 256).2) :=
      fileRead_enc _ 256 (Or.inl (by omega))
    simp only [hr, PyU.ok_bind, find_none, C18.magicMzAt, C18.seekNat]
    generalize ({ data := f1.data, pos := o, kind := f1.kind } : PyFile).read 256 = r
    obtain ⟨data, g⟩ := r
    have hx86 : dosHeaderX86 = [232, 0, 0, 0, 0, 91] := rfl
    have hx64 : dosHeaderX64 = [85, 72, 137, 229, 72, 129] := rfl
    simp only [hx86, hx64]
    rcases findInt_spec [232, 0, 0, 0, 0, 91] data with ⟨p, hs, hi⟩ | ⟨hs, hi⟩
    · have : ((p : Int) == -1) = false := nat_ne_neg1 p
      have h0 : ¬ ((p : Int) < 0) := by omega
      simp only [hs, hi, eq_int, ge, lt_int, Except.map, PyU.ok_bind, pure_ok, this, Bool.false_eq_true, h0, decide_false, Bool.not_false, slice_to_nat, encOptBytes, ↓reduceIte]
    · simp only [hs, hi, eq_int, BEq.rfl, ↓reduceIte]
      rcases findInt_spec [85, 72, 137, 229, 72, 129] data with ⟨p, hs2, hi2⟩ | ⟨hs2, hi2⟩
      · have h0 : ¬ ((p : Int) < 0) := by omega
        simp only [hs2, hi2, ge, lt_int, Except.map, PyU.ok_bind, pure_ok, h0, decide_false, Bool.not_false, slice_to_nat, encOptBytes, ↓reduceIte]
      · simp only [hs2, hi2, ge, lt_int, Except.map, PyU.ok_bind, pure_ok, show ((-1 : Int) < 0) from by omega, decide_true, Bool.not_true, Bool.false_eq_true, encOptBytes, ↓reduceIte]



theorem read_enc (ty : T18Ty) (f : PyFile) :
    t18Read ty (encFile f) = (match C18.readStruct f ty.size with
      | (none, _) => .error .eofError
      | (some b, f') => .ok (t18Value ty b, encFile f')) := by
  simp only [t18Read, readE_enc]
  rcases C18.readStruct f ty.size with ⟨_ | b, f'⟩ <;> rfl

theorem rstrip_zero (b : Bytes) : PyU.rstrip (.bytes b) (.bytes [0]) = .ok (.bytes (C18.rstrip0 b)) := by
  simp only [PyU.rstrip, rstripL, C18.rstrip0]
  congr 4
  funext c
  simp
  by_cases h : c = 0 <;> simp [h]

theorem gen_find_magic_pe_proof (f : PyFile) (start : Option Nat) (maxrange : Nat) :
    Gen.PyPe.find_magic_pe (encFile f) (encOptNat start) (.int (maxrange : Int)) = encPy encOptBytes (C18.findMagicPe f start maxrange) := by
  unfold Gen.PyPe.find_magic_pe C18.findMagicPe
  refine (gen_find_mz_offset_bind f start maxrange _ _).trans ?_
  rcases C18.findMzOffset f start maxrange with ⟨_ | o, f1⟩
  · rfl
  · simp only [PyU.ok_bind, fileSeek_nat, read_enc, C18.magicPeAt, C18.seekNat]
    rw [dosHeader_size]
    generalize C18.readStruct { data := f1.data, pos := o, kind := f1.kind } dosHeaderSize = r
    rcases r with ⟨_ | mz, f2⟩
    · rfl
    · simp only [PyU.ok_bind, dos_lfanew, add_int, fileSeek_set]
      cases hsk : f2.seekSet (C18.fieldVal mz dosLfanew + (o : Int)) with
      | error e => rfl
      | ok p3 =>
        obtain ⟨n3, f3⟩ := p3
        simp only [Except.map, PyU.ok_bind, fileRead_4, rstrip_zero, encPy, pure_ok, encOptBytes]



theorem fh_stamp (b : Bytes) :
    getAttr (t18Value Gen.PyPe.IMAGE_FILE_HEADER b) "TimeDateStamp" = .ok (.int (C18.fieldVal b fhTimeDateStamp)) :=
  attr_field fhTimeDateStamp rfl
theorem fh_nsec (b : Bytes) :
    getAttr (t18Value Gen.PyPe.IMAGE_FILE_HEADER b) "NumberOfSections" = .ok (.int (C18.fieldVal b fhNumberOfSections)) :=
  attr_field fhNumberOfSections rfl

/-- the optional header read for `is64` -/
def optTy (is64 : Bool) : T18Ty := if is64 then Gen.PyPe.IMAGE_OPTIONAL_HEADER64 else Gen.PyPe.IMAGE_OPTIONAL_HEADER

theorem optTy_size (is64 : Bool) : (optTy is64).size = C18.optSize is64 := by cases is64 <;> rfl

/-- `optional_header.DataDirectory[IMAGE_DIRECTORY_ENTRY_EXPORT]` -/
def exportDD (is64 : Bool) (b : Bytes) : V := .inst Gen.PyPe._IMAGE_DATA_DIRECTORY_cls [.int (C18.fieldVal b (C18.optExportVA is64))]

theorem range_map_head {β : Type} (n : Nat) (g : Nat → β) (d : β) : ((List.range (n + 1)).map g).getD 0 d = g 0 := by
  rw [List.range_succ_eq_map]
  rfl

theorem decode_arr_head (b : Bytes) (off count stride : Nat) (cls : Cls) (sub : List T18Int) :
    ∃ rest, t18Decode b (.arr off (count + 1) stride cls sub)
      = .list (.inst cls (sub.map fun s => .int (t18IntVal b { s with off := off + 0 * stride + s.off })) :: rest) := by
  simp only [t18Decode, List.range_succ_eq_map, List.map_cons]
  exact ⟨_, rfl⟩

/-- `optional_header.DataDirectory`: 16 entries of 8 bytes at offset 96 (32-bit header) / 112 (64-bit) -/
def ddList (is64 : Bool) (b : Bytes) : V :=
  t18Decode b (.arr (if is64 then 112 else 96) (15 + 1) 8 Gen.PyPe._IMAGE_DATA_DIRECTORY_cls [⟨0, 4, false⟩])

theorem opt_dd_attr (is64 : Bool) (b : Bytes) : getAttr (t18Value (optTy is64) b) "DataDirectory" = .ok (ddList is64 b) := by
  cases is64 <;> rfl

theorem dd_item0 (is64 : Bool) (b : Bytes) : getItem (ddList is64 b) (.int 0) = .ok (exportDD is64 b) := by
  obtain ⟨rest, hr⟩ := decode_arr_head b (if is64 then 112 else 96) 15 8 Gen.PyPe._IMAGE_DATA_DIRECTORY_cls [⟨0, 4, false⟩]
  rw [ddList, hr, getItem_list_zero]
  cases is64 <;> simp only [List.map_cons, List.map_nil, intVal_eq, exportDD, C18.optExportVA, Bool.false_eq_true, ↓reduceIte] <;> rfl

theorem opt_dd (is64 : Bool) (b : Bytes) :
    (do let t20 ← getAttr (t18Value (optTy is64) b) "DataDirectory"
        getItem t20 (V.int 0) : Py V) = .ok (exportDD is64 b) := by
  rw [opt_dd_attr]
  exact dd_item0 is64 b

theorem dd_va (is64 : Bool) (b : Bytes) : getAttr (exportDD is64 b) "VirtualAddress" = .ok (.int (C18.fieldVal b (C18.optExportVA is64))) := rfl

theorem sec_attr (b : Bytes) :
    getAttr (t18Value Gen.PyPe.IMAGE_SECTION_HEADER b) "VirtualSize" = .ok (.int (C18.fieldVal b secVirtualSize)) ∧
    getAttr (t18Value Gen.PyPe.IMAGE_SECTION_HEADER b) "VirtualAddress" = .ok (.int (C18.fieldVal b secVirtualAddress)) ∧
    getAttr (t18Value Gen.PyPe.IMAGE_SECTION_HEADER b) "SizeOfRawData" = .ok (.int (C18.fieldVal b secSizeOfRawData)) ∧
    getAttr (t18Value Gen.PyPe.IMAGE_SECTION_HEADER b) "PointerToRawData" = .ok (.int (C18.fieldVal b secPointerToRawData)) :=
  ⟨attr_field secVirtualSize rfl, attr_field secVirtualAddress rfl, attr_field secSizeOfRawData rfl,
    attr_field secPointerToRawData rfl⟩

theorem exp_stamp (b : Bytes) :
    getAttr (t18Value Gen.PyPe.IMAGE_EXPORT_DIRECTORY b) "TimeDateStamp" = .ok (.int (C18.fieldVal b expTimeDateStamp)) :=
  attr_field expTimeDateStamp rfl

/-- the `for section in sections:` loop of find_compile_stamps -/
theorem gen_find_compile_stamps_loop1 (is64 : Bool) (opt : Bytes) (secs : List Bytes) :
    forList (secs.map (t18Value Gen.PyPe.IMAGE_SECTION_HEADER)) (Gen.PyPe.find_compile_stamps_loop1 (exportDD is64 opt)) V.none
      = .ok (match secs.find? (C18.sectionContains (C18.fieldVal opt (C18.optExportVA is64))) with
        | some ds => t18Value Gen.PyPe.IMAGE_SECTION_HEADER ds
        | none => V.none) := by
  induction secs with
  | nil => rfl
  | cons s rest ih =>
    obtain ⟨a1, a2, _, _⟩ := sec_attr s
    simp only [List.map_cons, forList, Gen.PyPe.find_compile_stamps_loop1, a1, a2, dd_va, PyU.ok_bind, le_int, lt_int, add_int, List.find?,
      C18.sectionContains]
    by_cases h1 : C18.fieldVal s secVirtualAddress ≤ C18.fieldVal opt (C18.optExportVA is64)
    · by_cases h2 : C18.fieldVal opt (C18.optExportVA is64) < C18.fieldVal s secVirtualAddress + C18.fieldVal s secVirtualSize
      · simp only [h1, h2, decide_true, and_self, pure_ok, ↓reduceIte]
      · simp only [h1, h2, decide_true, decide_false, and_false, Bool.false_eq_true, pure_ok, ↓reduceIte]
        exact ih
    · simp only [h1, decide_false, false_and, Bool.false_eq_true, pure_ok, ↓reduceIte]
      exact ih

theorem leNat_lt (b : Bytes) : C18.leNat b < 256 ^ b.length := by
  induction b with
  | nil => simp [C18.leNat]
  | cons x t ih =>
    simp only [C18.leNat, List.length_cons, Nat.pow_succ]
    have := x.toNat_lt
    omega

theorem toBytes4 (n : Int) (h0 : 0 ≤ n) (h1 : n < 4294967296) :
    t18ToBytes (.int n) (.int 4) (PyU.lit "little") = .ok (.bytes (PyRt.toLE 4 n.toNat)) := by
  have ho : PyRt.orderLittle (PyU.cps "little") = .ok true := by decide
  have hf : (decide (0 ≤ n ∧ n < ((256 ^ (4:Int).toNat : Nat) : Int))) = true := by
    simp only [decide_eq_true_eq]
    refine ⟨h0, ?_⟩
    have : ((256 ^ (4:Int).toNat : Nat) : Int) = 4294967296 := by decide
    omega
  simp only [t18ToBytes, asInt, PyU.lit, PyRt.intToBytes, ho]
  rw [if_neg (by decide)]
  simp only [Bool.false_eq_true, hf, Bool.not_true, ↓reduceIte]
  have hn : ¬ n < 0 := by omega
  simp only [hn, Except.map, ↓reduceIte]
  rfl

/-- `pestruct.uint32(fh).to_bytes(4, "little")` never raises -/
theorem toBytes_u32 (b : Bytes) : ∃ v, t18ToBytes (t18Value (.int 4 false) b) (.int 4) (PyU.lit "little") = .ok v := by
  have hlt : C18.leNat (C18.slice b 0 4) < 4294967296 := by
    have h1 := leNat_lt (C18.slice b 0 4)
    have h2 : (C18.slice b 0 4).length ≤ 4 := by simp [C18.slice]; omega
    have h3 : 256 ^ (C18.slice b 0 4).length ≤ 256 ^ 4 := Nat.pow_le_pow_right (by omega) h2
    have h4 : (256 : Nat) ^ 4 = 4294967296 := by decide
    omega
  have hv : t18Value (.int 4 false) b = .int ((C18.leNat (C18.slice b 0 4) : Nat) : Int) := by
    simp only [t18Value, intVal_eq, C18.fieldVal, Bool.false_and, Bool.false_eq_true, ↓reduceIte]
  rw [hv]
  exact ⟨_, toBytes4 _ (by omega) (by omega)⟩

theorem readManyGo_enc (ty : T18Ty) (hs : ty.size = Gen.PeStruct.sectionSize) (n : Nat) (f : PyFile) :
    t18ReadManyGo ty n (encFile f) = .ok ((C18.readSections n f).1.map (List.map (t18Value ty)), encFile (C18.readSections n f).2) := by
  induction n generalizing f with
  | zero => rfl
  | succ n ih =>
    unfold t18ReadManyGo C18.readSections
    rw [readE_enc, hs]
    rcases C18.readStruct f Gen.PeStruct.sectionSize with ⟨_ | b, f1⟩
    · rfl
    · simp only [Option.map]
      rw [ih f1]
      rcases C18.readSections n f1 with ⟨_ | bs, f2⟩ <;> rfl

theorem readManyE_enc (n : Int) (f : PyFile) :
    t18ReadManyE Gen.PyPe.IMAGE_SECTION_HEADER (encFile f) (.int n)
      = .ok ((C18.readSections n.toNat f).1.map (fun bs => V.list (bs.map (t18Value Gen.PyPe.IMAGE_SECTION_HEADER))),
             encFile (C18.readSections n.toNat f).2) := by
  simp only [t18ReadManyE, asInt, readManyGo_enc Gen.PyPe.IMAGE_SECTION_HEADER rfl]
  rcases C18.readSections n.toNat f with ⟨_ | bs, f2⟩ <;> rfl

theorem isNone_value_struct (cls : Cls) (size : Nat) (flds : List T18Fld) (b : Bytes) : isNone (t18Value (.struct cls size flds) b) = false := rfl

theorem isNone_sec (b : Bytes) : isNone (t18Value Gen.PyPe.IMAGE_SECTION_HEADER b) = false := rfl

theorem ite_app {α β : Type} {c : Prop} [Decidable c] (K : α → β) (a b : α) :
    (if c then K a else K b) = K (if c then a else b) := by
  split <;> rfl

/-- `34404` = `IMAGE_FILE_MACHINE_AMD64`, a literal in the translated source -/
theorem ite_optTy (m : Int) :
    (if m = 34404 then Gen.PyPe.IMAGE_OPTIONAL_HEADER64 else Gen.PyPe.IMAGE_OPTIONAL_HEADER) = optTy (decide (m = 34404)) := by
  by_cases h : m = 34404 <;> simp [h, optTy]

theorem ite_app_or {α β : Type} {c₁ c₂ : Prop} [Decidable c₁] [Decidable c₂] (K : α → β) (a b : α) (r : β) :
    (if c₁ then K a else if c₂ then K b else r) = if c₁ ∨ c₂ then K (if c₁ then a else b) else r := by
  by_cases h₁ : c₁ <;> by_cases h₂ : c₂ <;> simp [h₁, h₂]

theorem gen_find_compile_stamps_proof (f : PyFile) (start : Option Nat) (maxrange : Nat) :
    Gen.PyPe.find_compile_stamps (encFile f) (encOptNat start) (.int (maxrange : Int)) = encPy encStamps (C18.findCompileStamps f start maxrange) := by
  unfold Gen.PyPe.find_compile_stamps C18.findCompileStamps
  refine (gen_find_mz_offset_bind f start maxrange _ _).trans ?_
  rcases C18.findMzOffset f start maxrange with ⟨_ | o, f1⟩
  · rfl
  · simp only [PyU.ok_bind, fileSeek_nat, readE_enc, C18.compileStampsAt, C18.seekNat]
    have hsz3 : (T18Ty.int 4 false).size = sigSize := rfl
    have hsz4 : Gen.PyPe.IMAGE_EXPORT_DIRECTORY.size = exportDirSize := rfl
    rw [dosHeader_size]
    generalize C18.readStruct { data := f1.data, pos := o, kind := f1.kind } dosHeaderSize = r
    rcases r with ⟨_ | mz, f2⟩
    · rfl
    · simp only [Option.map, PyU.ok_bind, dos_lfanew, add_int, fileSeek_set]
      cases hsk : f2.seekSet (C18.fieldVal mz dosLfanew + (o : Int)) with
      | error e => rfl
      | ok p3 =>
        obtain ⟨n3, f3⟩ := p3
        simp only [Except.map, PyU.ok_bind, readE_enc, hsz3]
        generalize C18.readStruct f3 sigSize = r4
        rcases r4 with ⟨_ | sg, f4⟩
        · rfl
        · obtain ⟨sv, hsv⟩ := toBytes_u32 sg
          simp only [Option.map, hsv, PyU.ok_bind, fileHeader_size]
          generalize C18.readStruct f4 fileHeaderSize = r5
          rcases r5 with ⟨_ | img, f5⟩
          · rfl
          · simp only [PyU.ok_bind, fh_stamp, fh_machine, PyU.eq, beq_iff_eq]
            rw [amd64_int]
            -- both branches run the same continuation on the header type they read
            refine Eq.trans (b := (?K : T18Ty → Py V) (if C18.fieldVal img fhMachine = 34404
              then Gen.PyPe.IMAGE_OPTIONAL_HEADER64 else Gen.PyPe.IMAGE_OPTIONAL_HEADER)) ?h ?_
            case h =>
              generalize Gen.PyPe.IMAGE_OPTIONAL_HEADER64 = ty64
              generalize Gen.PyPe.IMAGE_OPTIONAL_HEADER = ty32
              exact ite_app (c := C18.fieldVal img fhMachine = 34404) ?K ty64 ty32
            rw [ite_optTy]
            generalize decide (C18.fieldVal img fhMachine = 34404) = is64
            rw [optTy_size]
            generalize C18.readStruct f5 (C18.optSize is64) = r6
            rcases r6 with ⟨_ | opt, f6⟩
            · rfl
            · simp only [PyU.ok_bind, opt_dd_attr, dd_item0, fh_nsec, readManyE_enc]
              generalize C18.readSections (C18.fieldVal img fhNumberOfSections).toNat f6 = r7
              rcases r7 with ⟨_ | secs, f7⟩
              · rfl
              · simp only [Option.map, PyU.ok_bind, iterList_list, gen_find_compile_stamps_loop1]
                cases hfind : List.find? (C18.sectionContains (C18.fieldVal opt (C18.optExportVA is64))) secs with
                | none => rfl
                | some ds =>
                  obtain ⟨_, a2, _, a4⟩ := sec_attr ds
                  simp only [isNone_sec, Bool.not_false, dd_va, a2, a4, sub_int, add_int, PyU.ok_bind, fileSeek_set, ↓reduceIte]
                  cases hsk8 : f7.seekSet (C18.fieldVal opt (C18.optExportVA is64) - C18.fieldVal ds secVirtualAddress + C18.fieldVal ds secPointerToRawData + (o : Int)) with
                  | error e => rfl
                  | ok p8 =>
                    obtain ⟨n8, f8⟩ := p8
                    simp only [Except.map, PyU.ok_bind, readE_enc, hsz4]
                    generalize C18.readStruct f8 exportDirSize = r9
                    rcases r9 with ⟨_ | ed, f9⟩
                    · rfl
                    · simp only [Option.map, PyU.ok_bind, exp_stamp, pure_ok]
                      rfl


theorem opt_soh (is64 : Bool) (b : Bytes) :
    getAttr (t18Value (optTy is64) b) "SizeOfHeaders" = .ok (.int (C18.fieldVal b (C18.optSizeOfHeaders is64))) := by
  cases is64
  · exact attr_field opt32SizeOfHeaders rfl
  · exact attr_field opt64SizeOfHeaders rfl

/-- the `for section in sections: size += section.SizeOfRawData` loop -/
theorem gen_find_stage_prepend_append_loop1 (secs : List Bytes) (init : Int) :
    forList (secs.map (t18Value Gen.PyPe.IMAGE_SECTION_HEADER)) Gen.PyPe.find_stage_prepend_append_loop1 (V.int init)
      = .ok (V.int (secs.foldl (fun acc s => acc + C18.fieldVal s secSizeOfRawData) init)) := by
  induction secs generalizing init with
  | nil => rfl
  | cons s rest ih =>
    obtain ⟨_, _, a3, _⟩ := sec_attr s
    simp only [List.map_cons, forList, Gen.PyPe.find_stage_prepend_append_loop1, a3, PyU.ok_bind, iadd_int, pure_ok, List.foldl_cons]
    exact ih _

theorem attempt_ok {α : Type} (excs : List PyExc) (x : α) : attempt excs (.ok x : Py α) = .ok (some x) := rfl

theorem totalSize_nonneg (opt : Bytes) (is64 : Bool) (secs : List Bytes) : 0 ≤ C18.totalSize opt is64 secs := by
  unfold C18.totalSize
  apply C18.foldl_rawsize_nonneg
  apply C18.leNat_nonneg_field
  cases is64 <;> rfl


/-- `if mz_offset > 0: fh.seek(0); prepend = fh.read(mz_offset)` in front of any continuation `K (prepend, fh)` -/
theorem gen_find_stage_prepend_append_prefix (f1 : PyFile) (o : Nat) (K : V × V → Py V) :
    (do let t3 ← gt (V.int (o : Int)) (V.int 0)
        if t3 = true then
          (do let t4 ← fileSeek (encFile f1) (V.int 0) (V.int 0)
              let t5 ← fileRead t4.snd (V.int (o : Int))
              K t5)
        else K (V.none, encFile f1))
    = K (encOptBytes (if o > 0 then (some ((C18.seekNat f1 0).read (o : Int)).fst, ((C18.seekNat f1 0).read (o : Int)).snd) else (none, f1)).fst,
         encFile (if o > 0 then (some ((C18.seekNat f1 0).read (o : Int)).fst, ((C18.seekNat f1 0).read (o : Int)).snd) else (none, f1)).snd) := by
  have h0 : fileSeek (encFile f1) (V.int 0) (V.int 0) = .ok (.int 0, encFile { f1 with pos := 0 }) := fileSeek_nat f1 0
  rw [gt_int, PyU.ok_bind]
  by_cases ho : 0 < o
  · have ho' : decide ((0 : Int) < (o : Int)) = true := by simpa using ho
    simp only [ho', h0, PyU.ok_bind, fileRead_nat, ho, C18.seekNat, encOptBytes, ↓reduceIte]
  · have ho' : decide ((0 : Int) < (o : Int)) = false := by simpa using ho
    simp only [ho', Bool.false_eq_true, ho, encOptBytes, ↓reduceIte]

theorem gen_find_stage_prepend_append_proof (f : PyFile) (start : Option Nat) (maxrange : Nat) :
    Gen.PyPe.find_stage_prepend_append (encFile f) (encOptNat start) (.int (maxrange : Int))
      = encPy encPair (C18.findStagePrependAppend f start maxrange) := by
  unfold Gen.PyPe.find_stage_prepend_append C18.findStagePrependAppend
  refine (gen_find_mz_offset_bind f start maxrange _ _).trans ?_
  rcases C18.findMzOffset f start maxrange with ⟨_ | o, f1⟩
  · rfl
  · refine (gen_find_stage_prepend_append_prefix f1 o _).trans ?_
    conv => rhs; simp only [C18.prependAppendAt]
    generalize (if o > 0 then (some ((C18.seekNat f1 0).read (o : Int)).fst, ((C18.seekNat f1 0).read (o : Int)).snd) else (none, f1)) = pf
    obtain ⟨p, g⟩ := pf
    simp only [fileSeek_nat, PyU.ok_bind, readE_enc, C18.seekNat]
    rw [dosHeader_size]
    generalize C18.readStruct { data := g.data, pos := o, kind := g.kind } dosHeaderSize = r
    rcases r with ⟨_ | mz, f2⟩
    · rfl
    · simp only [Option.map, PyU.ok_bind, dos_lfanew, add_int, fileSeek_set]
      cases hsk : f2.seekSet (C18.fieldVal mz dosLfanew + (o : Int) + 4) with
      | error e => rfl
      | ok p3 =>
        obtain ⟨n3, f3⟩ := p3
        simp only [Except.map, PyU.ok_bind, readE_enc, fileHeader_size]
        generalize C18.readStruct f3 fileHeaderSize = r5
        rcases r5 with ⟨_ | img, f4⟩
        · rfl
        · simp only [Option.map, PyU.ok_bind, fh_machine, PyU.eq, beq_iff_eq]
          rw [amd64_int, i386_int]
          -- the two accepted machines run the same continuation on the header type they read
          refine Eq.trans (b := if C18.fieldVal img fhMachine = 34404 ∨ C18.fieldVal img fhMachine = 332
            then (?cont : T18Ty → Py V) (if C18.fieldVal img fhMachine = 34404
              then Gen.PyPe.IMAGE_OPTIONAL_HEADER64 else Gen.PyPe.IMAGE_OPTIONAL_HEADER) else ?r) ?h ?_
          case h =>
            generalize Gen.PyPe.IMAGE_OPTIONAL_HEADER64 = ty64
            generalize Gen.PyPe.IMAGE_OPTIONAL_HEADER = ty32
            exact ite_app_or (c₁ := C18.fieldVal img fhMachine = 34404) (c₂ := C18.fieldVal img fhMachine = 332) ?cont ty64 ty32 ?r
          rw [ite_optTy]
          by_cases hor : C18.fieldVal img fhMachine = 34404 ∨ C18.fieldVal img fhMachine = 332
          · rw [if_pos hor, if_pos hor]
            generalize decide (C18.fieldVal img fhMachine = 34404) = is64
            rw [optTy_size]
            generalize C18.readStruct f4 (C18.optSize is64) = r6
            rcases r6 with ⟨_ | opt, f5⟩
            · rfl
            · simp only [Option.map, PyU.ok_bind, opt_soh, fh_nsec, readManyE_enc]
              generalize C18.readSections (C18.fieldVal img fhNumberOfSections).toNat f5 = r7
              rcases r7 with ⟨_ | secs, f6⟩
              · rfl
              · have hnn := totalSize_nonneg opt is64 secs
                have hts : (o : Int) + C18.totalSize opt is64 secs
                    = (o : Int) + secs.foldl (fun acc s => acc + C18.fieldVal s secSizeOfRawData) (C18.fieldVal opt (C18.optSizeOfHeaders is64)) := rfl
                have hsk7 : f6.seekSet ((o : Int) + C18.totalSize opt is64 secs)
                    = .ok (((o : Int) + C18.totalSize opt is64 secs).toNat, { f6 with pos := ((o : Int) + C18.totalSize opt is64 secs).toNat }) := by
                  cases f6; exact C18.seekSet_nonneg _ _ _ _ (by omega)
                simp only [PyU.ok_bind, iterList_list, gen_find_stage_prepend_append_loop1, attempt_ok, add_int, fileSeek_set, ← hts, hsk7, Except.map]
                have hr : fileRead (encFile { f6 with pos := ((o : Int) + C18.totalSize opt is64 secs).toNat }) (.int 1024)
                    = .ok (.bytes (({ f6 with pos := ((o : Int) + C18.totalSize opt is64 secs).toNat } : PyFile).read 1024).1,
                           encFile (({ f6 with pos := ((o : Int) + C18.totalSize opt is64 secs).toNat } : PyFile).read 1024).2) :=
                  fileRead_enc _ 1024 (Or.inl (by omega))
                simp only [hr, PyU.ok_bind, truthy_bytes]
                generalize ({ f6 with pos := ((o : Int) + C18.totalSize opt is64 secs).toNat } : PyFile).read 1024 = r8
                obtain ⟨ab, f8⟩ := r8
                cases hab : ab.isEmpty with
                | true => simp only [Bool.not_true, Bool.not_false, isNone_none, Bool.false_eq_true, pure_ok, ↓reduceIte]; rfl
                | false => simp only [Bool.not_false, Bool.not_true, Bool.false_eq_true, isNone_bytes, rstrip_zero, PyU.ok_bind, pure_ok, ↓reduceIte]; rfl
          · rw [if_neg hor, if_neg hor]
            rfl


theorem dictGet_versionDict (es : List Gen.Version.Entry) (k : Int) :
    dictGet (Gen.PyPe.versionDict es) (.int k) (PyU.lit "Unknown") = .ok (.str (match es.find? (fun e => decide ((e.key : Int) = k)) with
      | some e => e.text
      | none => cps "Unknown")) := by
  simp only [dictGet, Gen.PyPe.versionDict, hashable, findKey_map, keyEq_int, Bool.beq_eq_decide_eq, eq_comm (a := k), ↓reduceIte]
  cases es.find? (fun e => decide ((e.key : Int) = k)) <;> rfl

theorem unknown_cps : cps "Unknown" = Gen.Version.unknownText := by decide +kernel

theorem gen_from_pe_export_stamp_proof (bv : V → Py V) (cls : V) (k : Int) :
    Gen.PyPe.from_pe_export_stamp bv cls (.int k) = bv (.str (C18.lookup Gen.Version.peExportStampEntries k)) := by
  simp only [Gen.PyPe.from_pe_export_stamp, dictGet_versionDict, PyU.ok_bind, C18.lookup, unknown_cps]
  cases bv (V.str _) <;> rfl

theorem gen_from_max_setting_enum_proof (bv : V → Py V) (cls : V) (k : Int) :
    Gen.PyPe.from_max_setting_enum bv cls (.int k) = bv (.str (C18.lookup Gen.Version.maxEnumEntries k)) := by
  simp only [Gen.PyPe.from_max_setting_enum, dictGet_versionDict, PyU.ok_bind, C18.lookup, unknown_cps]
  cases bv (V.str _) <;> rfl

/-- `BeaconConfig.version` for ANY `BeaconVersion` constructor `bv` and any object whose `pe_export_stamp` is `None` or an int and whose
`max_setting_enum` getter answers `max` of the setting indices (ValueError when there are none) -/
theorem gen_config_version_proof (bv : V → Py V) (mse : V → Py V) (self : V) (stamp : Option Int) (enums : List Nat)
    (hattr : getAttr self "pe_export_stamp" = .ok (encOptI stamp))
    (hmse : mse self = (C18.maxEnumOf enums).map fun (n : Nat) => V.int (n : Int)) :
    Gen.PyPe.config_version bv mse self = (C18.configVersion stamp enums).bind (fun t => bv (.str t)) := by
  unfold Gen.PyPe.config_version C18.configVersion C18.enumVersion
  simp only [hattr, PyU.ok_bind, hmse]
  cases stamp with
  | none =>
    simp only [encOptI, truthy, Bool.false_eq_true, ↓reduceIte]
    cases C18.maxEnumOf enums with
    | error e => rfl
    | ok m =>
      simp only [Except.map, PyU.ok_bind, gen_from_max_setting_enum_proof, Except.bind]
  | some s =>
    by_cases hs : s = 0
    · subst hs
      simp only [encOptI, truthy, bne_self_eq_false, Bool.false_eq_true, ne_eq, not_true_eq_false, ↓reduceIte]
      cases C18.maxEnumOf enums with
      | error e => rfl
      | ok m =>
        simp only [Except.map, PyU.ok_bind, gen_from_max_setting_enum_proof, Except.bind]
    · have : (s != 0) = true := by simpa using hs
      simp only [encOptI, truthy, this, gen_from_pe_export_stamp_proof, ne_eq, hs, not_false_eq_true, Except.bind, ↓reduceIte]


/-! ### arguments beyond the model's `Nat` domain: any int `start_offset`, any int `maxrange` -/

/-- `start_offset if start_offset is not None else fh.tell()` -/
def startV (f : PyFile) (start : Option Int) : V := .int (C18.Generic.startOf C18.pyFileLike f start)

/-! ### `maxrange ≤ 0`: nothing is searched -/

theorem mz_nothing (f : PyFile) (start : Option Int) (m : Int) (h : m.toNat = 0) :
    Gen.PyPe.find_mz_offset (encFile f) (encOptInt start) (.int m) = .ok (.tuple [V.none, encFile f]) := by
  unfold Gen.PyPe.find_mz_offset
  cases start with
  | none => simp only [encOptInt, isNone, Bool.not_true, Bool.false_eq_true, fileTell_enc, PyU.ok_bind, rangeV_int, h, List.range_zero, List.map_nil, iterList_list, forList, ↓reduceIte]; rfl
  | some s => simp only [encOptInt, isNone, Bool.not_false, PyU.ok_bind, rangeV_int, h, List.range_zero, List.map_nil, iterList_list, forList, ↓reduceIte]; rfl

theorem arch_nothing (f : PyFile) (start : Option Int) (m : Int) (h : m.toNat = 0) :
    Gen.PyPe.find_architecture (encFile f) (encOptInt start) (.int m) = .ok (.tuple [V.none, encFile f]) := by
  unfold Gen.PyPe.find_architecture
  cases start with
  | none => simp only [encOptInt, isNone, Bool.not_true, Bool.false_eq_true, fileTell_enc, PyU.ok_bind, rangeV_int, h, List.range_zero, List.map_nil, iterList_list, forList, ↓reduceIte]; rfl
  | some s => simp only [encOptInt, isNone, Bool.not_false, PyU.ok_bind, rangeV_int, h, List.range_zero, List.map_nil, iterList_list, forList, ↓reduceIte]; rfl

/-! ### a negative `start_offset` with `maxrange > 0`: the first `fh.seek` raises -/

theorem mz_negstart (f : PyFile) (s : Int) (hs : s < 0) (n : Nat) :
    Gen.PyPe.find_mz_offset (encFile f) (.int s) (.int ((n + 1 : Nat) : Int)) = .error f.negSeekExc := by
  unfold Gen.PyPe.find_mz_offset
  have hsk : f.seekSet (s + ((0 : Nat) : Int)) = .error f.negSeekExc := by simp [PyFile.seekSet, hs]
  simp only [isNone, Bool.not_false, PyU.ok_bind, rangeV_nat, iterList_list, List.range_succ_eq_map, List.map_cons, forList, Gen.PyPe.find_mz_offset_loop1, add_int, fileSeek_set, hsk, Except.map, ↓reduceIte]
  rfl

theorem arch_negstart (f : PyFile) (s : Int) (hs : s < 0) (n : Nat) :
    Gen.PyPe.find_architecture (encFile f) (.int s) (.int ((n + 1 : Nat) : Int)) = .error f.negSeekExc := by
  unfold Gen.PyPe.find_architecture
  have hsk : f.seekSet (s + ((0 : Nat) : Int)) = .error f.negSeekExc := by simp [PyFile.seekSet, hs]
  simp only [isNone, Bool.not_false, PyU.ok_bind, rangeV_nat, iterList_list, List.range_succ_eq_map, List.map_cons, forList, Gen.PyPe.find_architecture_loop1, add_int, fileSeek_set, hsk, Except.map, ↓reduceIte]
  rfl

/-! ### the three cases of an int `start_offset` / `maxrange` (used by `gen_*_any_int`) -/

theorem arg_cases (start : Option Int) (m : Int) :
    m.toNat = 0 ∨ (∃ (n : Nat) (st : Option Nat), m = ((n + 1 : Nat) : Int) ∧ start = st.map Int.ofNat) ∨
    (∃ (n : Nat) (s : Int), m = ((n + 1 : Nat) : Int) ∧ start = some s ∧ s < 0) := by
  by_cases hm : m.toNat = 0
  · exact Or.inl hm
  · have hm' : m = ((m.toNat - 1 + 1 : Nat) : Int) := by omega
    cases start with
    | none => exact Or.inr (Or.inl ⟨m.toNat - 1, none, hm', rfl⟩)
    | some s =>
      by_cases hs : s < 0
      · exact Or.inr (Or.inr ⟨m.toNat - 1, s, hm', rfl, hs⟩)
      · refine Or.inr (Or.inl ⟨m.toNat - 1, some s.toNat, hm', ?_⟩)
        have : ((s.toNat : Nat) : Int) = s := Int.toNat_of_nonneg (by omega)
        simp only [Option.map, Int.ofNat_eq_natCast, this]

theorem encOptInt_map (st : Option Nat) : encOptInt (st.map Int.ofNat) = encOptNat st := by cases st <;> rfl

theorem generic_mz_neg (f : PyFile) (s : Int) (hs : s < 0) (n : Nat) :
    C18.Generic.findMzOffset C18.pyFileLike f (some s) (n + 1) = .error f.negSeekExc := by
  have hsk : f.seekSet (s + ((0 : Nat) : Int)) = .error f.negSeekExc := by simp [PyFile.seekSet, hs]
  simp only [C18.Generic.findMzOffset, C18.Generic.startOf, List.range_succ_eq_map, C18.Generic.scanLoop, C18.Generic.probe, C18.pyFileLike, hsk]

theorem generic_arch_neg (f : PyFile) (s : Int) (hs : s < 0) (n : Nat) :
    C18.Generic.findArchitecture C18.pyFileLike f (some s) (n + 1) = .error f.negSeekExc := by
  have hsk : f.seekSet (s + ((0 : Nat) : Int)) = .error f.negSeekExc := by simp [PyFile.seekSet, hs]
  simp only [C18.Generic.findArchitecture, C18.Generic.startOf, List.range_succ_eq_map, C18.Generic.scanLoop, C18.Generic.probe, C18.pyFileLike, hsk]

theorem generic_mz_zero (f : PyFile) (start : Option Int) : C18.Generic.findMzOffset C18.pyFileLike f start 0 = .ok (none, f) := rfl
theorem generic_arch_zero (f : PyFile) (start : Option Int) : C18.Generic.findArchitecture C18.pyFileLike f start 0 = .ok (none, f) := rfl

theorem encGen_liftPy {α : Type} (enc : α → V) (r : Py α × PyFile) : encGen enc (C18.liftPy r) = encPy enc r := by
  obtain ⟨a, g⟩ := r
  cases a <;> rfl

theorem encRes_file {α : Type} (enc : α → V) (r : α × PyFile) (x fv : V) (h : encRes enc r = .ok (.tuple [x, fv])) :
    fv = encFile r.2 := by
  injection h with h; injection h with h
  simp only [List.cons.injEq, and_true] at h
  exact h.2.symm

theorem encPy_file {α : Type} (enc : α → V) (r : Py α × PyFile) (x fv : V) (h : encPy enc r = .ok (.tuple [x, fv])) :
    fv = encFile r.2 := by
  obtain ⟨a, g⟩ := r
  cases a with
  | error e => cases h
  | ok a => exact encRes_file enc (a, g) x fv h

theorem encOut_file (r : C18.PeOut × PyFile) (x fv : V) (h : encOut r = .ok (.tuple [x, fv])) : fv = encFile r.2 := by
  obtain ⟨out, g⟩ := r
  cases out with
  | mz a => exact encRes_file encOptNat (a, g) x fv h
  | arch a => exact encRes_file encArch (a, g) x fv h
  | mmz a => exact encRes_file encOptBytes (a, g) x fv h
  | stamps a => exact encPy_file encStamps (a, g) x fv h
  | mpe a => exact encPy_file encOptBytes (a, g) x fv h
  | ppa a => exact encPy_file encPair (a, g) x fv h

end C18Gen

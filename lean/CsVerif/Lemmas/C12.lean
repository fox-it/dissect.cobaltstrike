import CsVerif.Model.C12
/-! Lemmas for C12: the encoder byte by byte, the scanner, the decoder loop, the regex as `re` reads it. -/
namespace C12

/-- text of one byte in a generated literal: `reprUnit sq b` after both replaces (`unit_replaces`), `= (escOf b).text` (`escOf_spec`) -/
def escUnit (b : UInt8) : Txt :=
  if b = dq then [bsl, dq]
  else if b = bsl then [bsl, bsl]
  else if b = sq then [sq]
  else if b = 9 then [bsl, 116]
  else if b = 10 then [bsl, 110]
  else if b = 13 then [bsl, 114]
  else if b < 0x20 ∨ b ≥ 0x7f then [bsl, 120, hexDigit (b >>> 4), hexDigit (b &&& 0xf)]
  else [b]

theorem forall_byte {P : UInt8 → Prop} (h : ∀ n, n < 256 → P (UInt8.ofNat n)) (b : UInt8) : P b := by
  have := h b.toNat b.toNat_lt
  simpa using this

theorem replaceGo_cons_zero (old new : Txt) (c : UInt8) (cs : Txt) :
    replaceGo old new (c :: cs) 0 =
      if old.isPrefixOf (c :: cs) then new ++ replaceGo old new cs (old.length - 1)
      else c :: replaceGo old new cs 0 := by
  rw [replaceGo]

theorem replaceGo_cons_succ (old new : Txt) (c : UInt8) (cs : Txt) (k : Nat) :
    replaceGo old new (c :: cs) (k + 1) = replaceGo old new cs k := by
  rw [replaceGo]

theorem replaceGo_single_append (a : UInt8) (new xs ys : Txt) :
    replaceGo [a] new (xs ++ ys) 0 = replaceGo [a] new xs 0 ++ replaceGo [a] new ys 0 := by
  induction xs with
  | nil => simp [replaceGo]
  | cons c cs ih =>
    simp only [List.cons_append, replaceGo_cons_zero, List.isPrefixOf, List.length_singleton, Nat.sub_self, ih]
    split <;> simp

theorem isPrefixOf_pair_append (a b c : UInt8) (cs rest : Txt) (hrest : rest.head? ≠ some b) :
    [a, b].isPrefixOf (c :: (cs ++ rest)) = [a, b].isPrefixOf (c :: cs) := by
  cases cs with
  | cons d ds => simp [List.isPrefixOf]
  | nil =>
    cases rest with
    | nil => rfl
    | cons r rs =>
      have : (b == r) = false := beq_eq_false_iff_ne.mpr fun e => hrest (by rw [e]; rfl)
      simp only [List.nil_append, List.isPrefixOf, this, Bool.false_and, Bool.and_false]

theorem replaceGo_pair_append (a b : UInt8) (new rest : Txt) (hrest : rest.head? ≠ some b) :
    ∀ (u : Txt) (k : Nat), k ≤ u.length →
      replaceGo [a, b] new (u ++ rest) k = replaceGo [a, b] new u k ++ replaceGo [a, b] new rest 0
  | [], k, hk => by rw [Nat.le_zero.mp hk]; simp [replaceGo]
  | c :: cs, k + 1, hk => by
    rw [List.cons_append, replaceGo_cons_succ, replaceGo_cons_succ]
    exact replaceGo_pair_append a b new rest hrest cs k (Nat.le_of_succ_le_succ hk)
  | c :: cs, 0, _ => by
    rw [List.cons_append, replaceGo_cons_zero, replaceGo_cons_zero, isPrefixOf_pair_append _ _ _ _ _ hrest]
    by_cases hp : [a, b].isPrefixOf (c :: cs) = true
    · have hl : 1 ≤ cs.length := by
        cases cs with
        | nil => simp [List.isPrefixOf] at hp
        | cons _ _ => simp
      rw [if_pos hp, if_pos hp, List.append_assoc]
      exact congrArg _ (replaceGo_pair_append a b new rest hrest cs 1 hl)
    · rw [if_neg hp, if_neg hp, replaceGo_pair_append a b new rest hrest cs 0 (Nat.zero_le _), List.cons_append]

/-- unit after the first replace -/
def midUnit (b : UInt8) : Txt := replaceGo [dq] [bsl, dq] (reprUnit sq b) 0

set_option maxRecDepth 100000 in
theorem unit_replaces (b : UInt8) : replaceGo [bsl, sq] [sq] (midUnit b) 0 = escUnit b := by
  revert b
  apply forall_byte
  decide +kernel

theorem midUnit_head (b : UInt8) : (midUnit b).head? ≠ none ∧ (midUnit b).head? ≠ some sq := by
  revert b
  apply forall_byte
  decide +kernel

theorem flatMap_midUnit_head (bs : Bytes) : (bs.flatMap midUnit).head? ≠ some sq := by
  cases bs with
  | nil => simp
  | cons b bs =>
    have ⟨h1, h2⟩ := midUnit_head b
    simp only [List.flatMap_cons]
    cases h : midUnit b with
    | nil => simp [h] at h1
    | cons c cs => simpa [h] using h2

theorem replace1_flatMap (bs : Bytes) :
    replaceGo [dq] [bsl, dq] (bs.flatMap (reprUnit sq)) 0 = bs.flatMap midUnit := by
  induction bs with
  | nil => simp [replaceGo]
  | cons b bs ih => simp only [List.flatMap_cons, replaceGo_single_append, ih, midUnit]

theorem replace2_flatMap (bs : Bytes) :
    replaceGo [bsl, sq] [sq] (bs.flatMap midUnit) 0 = bs.flatMap escUnit := by
  induction bs with
  | nil => simp [replaceGo]
  | cons b bs ih =>
    simp only [List.flatMap_cons]
    rw [replaceGo_pair_append _ _ _ _ (flatMap_midUnit_head bs) _ 0 (Nat.zero_le _), ih]
    congr 1
    exact unit_replaces b

theorem reprQuote_dq (value : Bytes) : reprQuote ([dq] ++ value) = sq := by
  simp [reprQuote]

theorem repr_slice (value : Bytes) :
    pySliceFrom (pySliceTo (reprBytes ([dq] ++ value)) (some (-1))) 3 = value.flatMap (reprUnit sq) := by
  have hu : reprUnit sq dq = [dq] := by decide
  simp only [reprBytes, reprQuote_dq, List.flatMap_append, List.flatMap_cons, List.flatMap_nil, hu]
  simp [pySliceTo, pySliceFrom]

theorem valueToString_eq (bs : Bytes) : valueToString bs = dq :: (bs.flatMap escUnit ++ [dq]) := by
  unfold valueToString valueToStringStr
  simp only [repr_slice, strReplace]
  rw [if_neg (by simp), if_neg (by simp), replace1_flatMap, replace2_flatMap]
  rfl

/-- prepend already-scanned text to a scanner result -/
def pre (u : Txt) (r : Option (Txt × Txt)) : Option (Txt × Txt) := r.map fun (m, r) => (u ++ m, r)

theorem pre_pre (u v : Txt) (r) : pre u (pre v r) = pre (u ++ v) r := by
  cases r <;> simp [pre]

theorem scanBody_plain (c : UInt8) (t : Txt) (h1 : c ≠ dq) (h2 : c ≠ bsl) :
    scanBody (c :: t) true = pre [c] (scanBody t true) := by
  rw [scanBody]; simp [h1, h2, pre]

theorem scanBody_escaped (x : UInt8) (t : Txt) :
    scanBody (bsl :: x :: t) true = pre [bsl, x] (scanBody t true) := by
  have hb : ¬ bsl = dq := by decide
  rw [scanBody, scanBody]
  by_cases hx : x = bsl
  · subst hx; cases h : scanBody t true <;> simp [pre, h, hb]
  · cases h : scanBody t true <;> simp [pre, hx, h, hb]

def passable : Txt → Bool
  | [] => true
  | [c] => c != dq && c != bsl
  | c :: x :: t => if c = bsl then passable t else c != dq && passable (x :: t)

theorem scanBody_passable : ∀ (u t : Txt), passable u = true → scanBody (u ++ t) true = pre u (scanBody t true)
  | [], t, _ => by cases h : scanBody t true <;> simp [pre, h]
  | [c], t, h => by
    simp only [passable, Bool.and_eq_true, bne_iff_ne] at h
    exact scanBody_plain c t h.1 h.2
  | c :: x :: u, t, h => by
    rw [passable] at h
    by_cases hc : c = bsl
    · rw [if_pos hc] at h
      subst hc
      rw [List.cons_append, List.cons_append, scanBody_escaped, scanBody_passable u t h, pre_pre]; rfl
    · rw [if_neg hc] at h
      simp only [Bool.and_eq_true, bne_iff_ne] at h
      rw [List.cons_append, scanBody_plain c _ h.1 hc, scanBody_passable (x :: u) t h.2, pre_pre]; rfl

theorem escUnit_passable (b : UInt8) : passable (escUnit b) = true := by
  revert b
  apply forall_byte
  decide +kernel

theorem scanBody_units (bs : Bytes) (t : Txt) :
    scanBody (bs.flatMap escUnit ++ t) true = pre (bs.flatMap escUnit) (scanBody t true) := by
  induction bs with
  | nil => exact scanBody_passable [] t rfl
  | cons b bs ih =>
    simp only [List.flatMap_cons, List.append_assoc]
    rw [scanBody_passable _ _ (escUnit_passable b), ih, pre_pre]

theorem drop_cons_inv {α} {l : List α} {i : Nat} {c : α} {r : List α} (h : l.drop i = c :: r) :
    ∃ hi : i < l.length, l[i] = c ∧ l.drop (i + 1) = r := by
  have hi : i < l.length := Nat.lt_of_not_le fun h' => by rw [List.drop_eq_nil_of_le h'] at h; cases h
  rw [List.drop_eq_getElem_cons hi] at h
  exact ⟨hi, List.cons.inj h⟩

/-- the one-character escapes and their byte values -/
def simpleEsc (x : UInt8) : Option Int :=
  if x = 110 then some 10 else if x = 114 then some 13 else if x = 116 then some 9
  else if x = bsl then some 0x5c else if x = dq then some 0x22 else if x = sq then some 0x27 else none

theorem simpleEsc_cases {α : Sort _} (x : UInt8) (f : Int → α) (d : α) :
    (if x = 110 then f 10 else if x = 114 then f 13 else if x = 116 then f 9
      else if x = bsl then f 0x5c else if x = dq then f 0x22 else if x = sq then f 0x27 else d) =
    match simpleEsc x with
    | some v => f v
    | none => d := by
  unfold simpleEsc
  simp only [apply_ite (fun o : Option Int => match o with | some v => f v | none => d)]

/-! ### the decoder loop, by index -/

/-- one run of the loop body at a backslash followed by `x` -/
def stepEsc (b : Txt) (i : Nat) (out : List Int) (x : UInt8) : Py (Nat × List Int) :=
  if x = 117 then
    if hasNext b (i + 2) 4 = true then (pyIntHex (nextN b (i + 4) 2).1).map fun v => (i + 6, out ++ [v])
    else .error .valueError
  else if x = 120 then
    if hasNext b (i + 2) 2 = true then (pyIntHex (nextN b (i + 2) 2).1).map fun v => (i + 4, out ++ [v])
    else .error .valueError
  else match simpleEsc x with
    | some v => .ok (i + 2, out ++ [v])
    | none => .ok (i + 2, out)

theorem decodeLoop_end {b : Txt} {i : Nat} (out : List Int) (h : ¬ i < b.length) :
    decodeLoop b i out = .ok out := by
  rw [decodeLoop, dif_neg h]

theorem decodeLoop_plain {b : Txt} {i : Nat} (out : List Int) (h : i < b.length)
    (hc : ¬ (b[i] = bsl ∧ hasNext b (i + 1) = true)) :
    decodeLoop b i out = decodeLoop b (i + 1) (out ++ [(b[i].toNat : Int)]) := by
  rw [decodeLoop, dif_pos h, dif_neg hc]

theorem decodeLoop_after_hex (b : Txt) (out : List Int) (s : Txt) (j : Nat) :
    (match pyIntHex s with
      | .error e => .error e
      | .ok v => decodeLoop b j (out ++ [v]) : Py (List Int)) =
    match (pyIntHex s).map fun v => (j, out ++ [v]) with
    | .error e => .error e
    | .ok p => decodeLoop b p.1 p.2 := by
  cases pyIntHex s <;> rfl

theorem decodeLoop_esc {b : Txt} {i : Nat} (out : List Int) (h : i + 1 < b.length) (hc : b[i] = bsl) :
    decodeLoop b i out =
      match stepEsc b i out b[i + 1] with
      | .error e => .error e
      | .ok p => decodeLoop b p.1 p.2 := by
  rw [decodeLoop, dif_pos (Nat.lt_of_succ_lt h), dif_pos ⟨hc, decide_eq_true h⟩, stepEsc]
  show (if b[i + 1] = 117 then _ else if b[i + 1] = 120 then _ else _) = _
  by_cases hu : b[i + 1] = 117
  · rw [if_pos hu, if_pos hu]
    by_cases h4 : hasNext b (i + 2) 4 = true
    · rw [dif_pos h4, if_pos h4]; exact decodeLoop_after_hex b out _ _
    · rw [dif_neg h4, if_neg h4]
  rw [if_neg hu, if_neg hu]
  by_cases hx : b[i + 1] = 120
  · rw [if_pos hx, if_pos hx]
    by_cases h2 : hasNext b (i + 2) 2 = true
    · rw [dif_pos h2, if_pos h2]; exact decodeLoop_after_hex b out _ _
    · rw [dif_neg h2, if_neg h2]
  rw [if_neg hx, if_neg hx, simpleEsc_cases _ (fun v => decodeLoop b (i + 2) (out ++ [v]))]
  cases simpleEsc b[i + 1] <;> rfl

/-! ### the same, by the text at the index -/

theorem loop_end (buffer : Txt) (i : Nat) (out : List Int) (h : buffer.drop i = []) :
    decodeLoop buffer i out = .ok out :=
  decodeLoop_end out fun hi => by rw [List.drop_eq_getElem_cons hi] at h; cases h

theorem loop_plain (buffer : Txt) (i : Nat) (out : List Int) (c : UInt8) (r : Txt)
    (h : buffer.drop i = c :: r) (hc : c ≠ bsl ∨ r = []) :
    decodeLoop buffer i out = decodeLoop buffer (i + 1) (out ++ [(c.toNat : Int)]) := by
  obtain ⟨hi, h1, h2⟩ := drop_cons_inv h
  rw [decodeLoop_plain out hi ?_, h1]
  rintro ⟨hb, hn⟩
  rcases hc with hc | rfl
  · exact hc (h1 ▸ hb)
  · have hl := congrArg List.length h2
    rw [List.length_drop, List.length_nil] at hl
    have := of_decide_eq_true hn
    omega

theorem drop_esc_inv {buffer : Txt} {i : Nat} {x : UInt8} {r : Txt} (h : buffer.drop i = bsl :: x :: r) :
    ∃ hi : i + 1 < buffer.length, buffer[i] = bsl ∧ buffer[i + 1] = x ∧ buffer.drop (i + 2) = r := by
  obtain ⟨_, h1, h2⟩ := drop_cons_inv h
  obtain ⟨hi, h3, h4⟩ := drop_cons_inv h2
  exact ⟨hi, h1, h3, h4⟩

theorem nextN_of_drop (buffer : Txt) (i n : Nat) (s r : Txt) (h : buffer.drop i = s ++ r)
    (hn : s.length = n) (hpos : 0 < n) :
    hasNext buffer i n = true ∧ nextN buffer i n = (s, i + n) := by
  have hl : buffer.length - i = n + r.length := by
    have := congrArg List.length h
    simpa [hn] using this
  constructor
  · simp [hasNext]; omega
  · simp only [nextN, List.drop_take, Nat.add_sub_cancel_left, h]
    rw [List.take_left' hn]

theorem hasNext_of_drop_short {buffer : Txt} {i n : Nat} {r : Txt} (h : buffer.drop i = r) (hr : r.length < n) :
    ¬ hasNext buffer i n = true := by
  have := congrArg List.length h
  rw [List.length_drop] at this
  simp only [hasNext, decide_eq_true_eq]; omega

theorem loop_hex_short (buffer : Txt) (i : Nat) (out : List Int) (r : Txt)
    (h : buffer.drop i = bsl :: 120 :: r) (hr : r.length < 2) :
    decodeLoop buffer i out = .error .valueError := by
  obtain ⟨hi, hc, hx, hd⟩ := drop_esc_inv h
  rw [decodeLoop_esc out hi hc, hx, stepEsc, if_neg (by decide), if_pos rfl, if_neg (hasNext_of_drop_short hd hr)]

theorem loop_uni_short (buffer : Txt) (i : Nat) (out : List Int) (r : Txt)
    (h : buffer.drop i = bsl :: 117 :: r) (hr : r.length < 4) :
    decodeLoop buffer i out = .error .valueError := by
  obtain ⟨hi, hc, hx, hd⟩ := drop_esc_inv h
  rw [decodeLoop_esc out hi hc, hx, stepEsc, if_pos rfl, if_neg (hasNext_of_drop_short hd hr)]

/-! ### decoder: units of a literal body -/

/-- hexadecimal digit character of a nibble; `up` selects `A-F` instead of `a-f` -/
def hexChar (up : Bool) (x : Fin 16) : UInt8 :=
  if x.val < 10 then UInt8.ofNat (48 + x.val) else if up then UInt8.ofNat (55 + x.val) else UInt8.ofNat (87 + x.val)

/-- the units a literal body is made of, as far as the decoder gives them a meaning -/
inductive Esc
  | plain (c : UInt8)                                   -- any character other than a backslash
  | hex (x y : Fin 16) (ux uy : Bool)                   -- `\xHH`
  | uni (a b : UInt8) (x y : Fin 16) (ux uy : Bool)     -- `\uHHHH` (the first two characters are skipped unread)
  | nl | cr | tab | bslash | dquote | squote            -- `\n \r \t \\ \" \'`
  | unknown (c : UInt8)                                 -- backslash + any other character: dropped

def Esc.text : Esc → Txt
  | .plain c => [c]
  | .hex x y ux uy => [bsl, 120, hexChar ux x, hexChar uy y]
  | .uni a b x y ux uy => [bsl, 117, a, b, hexChar ux x, hexChar uy y]
  | .nl => [bsl, 110]
  | .cr => [bsl, 114]
  | .tab => [bsl, 116]
  | .bslash => [bsl, bsl]
  | .dquote => [bsl, dq]
  | .squote => [bsl, sq]
  | .unknown c => [bsl, c]

/-- decoded bytes of a unit -/
def Esc.vals : Esc → Bytes
  | .plain c => [c]
  | .hex x y _ _ => [UInt8.ofNat (16 * x.val + y.val)]
  | .uni _ _ x y _ _ => [UInt8.ofNat (16 * x.val + y.val)]
  | .nl => [10]
  | .cr => [13]
  | .tab => [9]
  | .bslash => [0x5c]
  | .dquote => [0x22]
  | .squote => [0x27]
  | .unknown _ => []

/-- side conditions: a plain character is not a backslash; an unknown escape is none of the known ones -/
def Esc.WF : Esc → Prop
  | .plain c => c ≠ bsl
  | .unknown c => c ≠ 117 ∧ c ≠ 120 ∧ simpleEsc c = none
  | _ => True

def intsOf (bs : Bytes) : List Int := bs.map fun b => (b.toNat : Int)

theorem hexVal_hexChar (up : Bool) (x : Fin 16) : hexVal (hexChar up x) = some x.val := by
  revert up x
  decide

theorem pyIntHex_hexChar (x y : Fin 16) (ux uy : Bool) :
    pyIntHex [hexChar ux x, hexChar uy y] = .ok ((UInt8.ofNat (16 * x.val + y.val)).toNat : Int) := by
  have h : 16 * x.val + y.val < 256 := by omega
  rw [pyIntHex, hexVal_hexChar, hexVal_hexChar, UInt8.toNat_ofNat_of_lt' h]

theorem loop_unit (buffer : Txt) (i : Nat) (out : List Int) (e : Esc) (hwf : e.WF) (t : Txt)
    (h : buffer.drop i = e.text ++ t) :
    decodeLoop buffer i out = decodeLoop buffer (i + e.text.length) (out ++ intsOf e.vals) := by
  cases e with
  | plain c => exact loop_plain buffer i out c t h (.inl hwf)
  | hex x y ux uy =>
    obtain ⟨hi, hc, hx, hd⟩ := drop_esc_inv h
    obtain ⟨hn, hs⟩ := nextN_of_drop buffer (i + 2) 2 [_, _] t hd rfl (by omega)
    rw [decodeLoop_esc out hi hc, hx, stepEsc, if_neg (by decide), if_pos rfl, if_pos hn, hs, pyIntHex_hexChar]
    rfl
  | uni a b x y ux uy =>
    obtain ⟨hi, hc, hx, hd⟩ := drop_esc_inv h
    have hd4 : buffer.drop (i + 4) = [hexChar ux x, hexChar uy y] ++ t := by
      have := congrArg (List.drop 2) hd
      rwa [List.drop_drop] at this
    obtain ⟨hn, _⟩ := nextN_of_drop buffer (i + 2) 4 [a, b, _, _] t hd rfl (by omega)
    obtain ⟨_, hs⟩ := nextN_of_drop buffer (i + 4) 2 [_, _] t hd4 rfl (by omega)
    rw [decodeLoop_esc out hi hc, hx, stepEsc, if_pos rfl, if_pos hn, hs, pyIntHex_hexChar]
    rfl
  | unknown c =>
    obtain ⟨hi, hc, hx, _⟩ := drop_esc_inv h
    rw [decodeLoop_esc out hi hc, hx, stepEsc, if_neg hwf.1, if_neg hwf.2.1, hwf.2.2]
    exact congrArg _ (List.append_nil out).symm
  | _ =>
    obtain ⟨hi, hc, hx, _⟩ := drop_esc_inv h
    rw [decodeLoop_esc out hi hc, hx]
    rfl

theorem loop_units (us : List Esc) (hwf : ∀ e ∈ us, e.WF) :
    ∀ (buffer : Txt) (i : Nat) (out : List Int) (t : Txt), buffer.drop i = us.flatMap Esc.text ++ t →
      decodeLoop buffer i out =
        decodeLoop buffer (i + (us.flatMap Esc.text).length) (out ++ intsOf (us.flatMap Esc.vals)) := by
  induction us with
  | nil => intro buffer i out t _; simp [intsOf]
  | cons e es ih =>
    intro buffer i out t h
    rw [List.flatMap_cons, List.append_assoc] at h
    have h' : buffer.drop (i + e.text.length) = es.flatMap Esc.text ++ t := by
      rw [← List.drop_drop, h, List.drop_left]
    rw [loop_unit buffer i out e (hwf e List.mem_cons_self) _ h,
      ih (fun e' he' => hwf e' (List.mem_cons_of_mem _ he')) buffer _ _ t h']
    simp [intsOf, List.append_assoc, Nat.add_assoc]

theorem mask_id (b : UInt8) : b &&& 0xFF = b := by
  revert b
  apply forall_byte
  decide +kernel

theorem maskBuffer_id (t : Txt) : maskBuffer t = t := by
  simp [maskBuffer, mask_id]

theorem pyBytes_intsOf (bs : Bytes) : pyBytes (intsOf bs) = .ok bs := by
  induction bs with
  | nil => rfl
  | cons b bs ih =>
    have h1 : (0 : Int) ≤ (b.toNat : Int) ∧ (b.toNat : Int) < 256 := by
      have := b.toNat_lt; omega
    simp only [intsOf, List.map_cons] at ih ⊢
    rw [pyBytes, if_pos h1, ih]
    simp

theorem token_slice (t : Txt) : pySliceTo (pySliceFrom (dq :: (t ++ [dq])) 1) (some (-1)) = t := by
  simp [pySliceTo, pySliceFrom]

theorem decode_after_units (us : List Esc) (hwf : ∀ e ∈ us, e.WF) (post : Txt) :
    stringTokenToBytes ([dq] ++ us.flatMap Esc.text ++ post ++ [dq]) =
      match decodeLoop (us.flatMap Esc.text ++ post) (us.flatMap Esc.text).length (intsOf (us.flatMap Esc.vals)) with
      | .error e => .error e
      | .ok out => pyBytes out := by
  have h := loop_units us hwf _ 0 [] post rfl
  rw [Nat.zero_add, List.nil_append] at h
  rw [← h]
  show stringTokenToBytes (dq :: (us.flatMap Esc.text ++ post ++ [dq])) = _
  unfold stringTokenToBytes
  simp only [token_slice, maskBuffer_id]
  rfl

theorem decode_units_eq (us : List Esc) (hwf : ∀ e ∈ us, e.WF) :
    stringTokenToBytes (dq :: (us.flatMap Esc.text ++ [dq])) = .ok (us.flatMap Esc.vals) := by
  have h := decode_after_units us hwf []
  rw [List.append_nil, List.append_nil, loop_end _ _ _ List.drop_length] at h
  exact h.trans (pyBytes_intsOf _)

instance (e : Esc) : Decidable e.WF := by
  cases e <;> unfold Esc.WF <;> infer_instance

/-- the unit `value_to_string` emits for a byte -/
def escOf (b : UInt8) : Esc :=
  if b = dq then .dquote
  else if b = bsl then .bslash
  else if b = sq then .plain sq
  else if b = 9 then .tab
  else if b = 10 then .nl
  else if b = 13 then .cr
  else if b < 0x20 ∨ b ≥ 0x7f then .hex (Fin.ofNat 16 (b.toNat / 16)) (Fin.ofNat 16 (b.toNat % 16)) false false
  else .plain b

theorem escOf_spec (b : UInt8) : escUnit b = (escOf b).text ∧ (escOf b).vals = [b] ∧ (escOf b).WF := by
  revert b
  apply forall_byte
  decide +kernel

theorem flatMap_escUnit (bs : Bytes) : bs.flatMap escUnit = (bs.map escOf).flatMap Esc.text := by
  induction bs with
  | nil => rfl
  | cons b bs ih => simp only [List.flatMap_cons, List.map_cons, ih, (escOf_spec b).1]

theorem flatMap_escOf_vals (bs : Bytes) : (bs.map escOf).flatMap Esc.vals = bs := by
  induction bs with
  | nil => rfl
  | cons b bs ih => simp only [List.flatMap_cons, List.map_cons, ih, (escOf_spec b).2.1]; rfl

theorem roundtrip (bs : Bytes) : stringTokenToBytes (valueToString bs) = .ok bs := by
  rw [valueToString_eq, flatMap_escUnit, decode_units_eq _ (by
    intro e he
    obtain ⟨b, _, rfl⟩ := List.mem_map.1 he
    exact (escOf_spec b).2.2), flatMap_escOf_vals]

/-! ### `scanString` is the literal (backtracking) reading of the regex -/

/-- the lazy `(.|\n)*?` takes one more character -/
def rxAdv : Txt → Option Nat
  | [] => none
  | c :: t => (rxBody c t).map (· + 1)

/-- `(\\\\)*?"` continued in the middle of a backslash pair -/
def rxMid : Txt → Option Nat
  | [] => none
  | c :: r => if c = bsl then (rxPairsQuote r).map (· + 1) else none

def rxSplit (s : Txt) (o : Option Nat) : Option (Txt × Txt) := o.map fun n => (s.take n, s.drop n)

theorem rxBody_eq (prev : UInt8) (s : Txt) :
    rxBody prev s = if prev ≠ bsl then (rxPairsQuote s).or (rxAdv s) else rxAdv s := by
  cases s with
  | nil => simp [rxBody, rxAdv, rxPairsQuote]
  | cons c cs =>
    rw [rxBody]
    by_cases hp : prev = bsl
    · simp [hp, rxAdv]
    · simp only [ne_eq, hp, not_false_eq_true, if_true, rxAdv]
      cases rxPairsQuote (c :: cs) <;> simp

theorem rxPairsQuote_cons (c : UInt8) (t : Txt) :
    rxPairsQuote (c :: t) = if c = dq then some 1 else if c = bsl then (rxMid t).map (· + 1) else none := by
  cases t with
  | nil => simp [rxPairsQuote, rxMid]
  | cons d r =>
    simp only [rxPairsQuote, rxMid]
    by_cases h1 : c = dq
    · simp [h1]
    · by_cases h2 : c = bsl
      · by_cases h3 : d = bsl
        · simp [h2, h3, Option.map_map, Function.comp_def]
        · simp [h2, h3]
      · simp [h1, h2]

theorem rxSplit_succ (c : UInt8) (t : Txt) (o : Option Nat) :
    rxSplit (c :: t) (o.map (· + 1)) = pre [c] (rxSplit t o) := by
  cases o <;> simp [rxSplit, pre]

theorem scanBody_rx (s : Txt) :
    scanBody s true = rxSplit s ((rxPairsQuote s).or (rxAdv s)) ∧
    scanBody s false = rxSplit s ((rxMid s).or (rxAdv s)) := by
  induction s with
  | nil => simp [scanBody, rxSplit, rxPairsQuote, rxAdv, rxMid]
  | cons c t ih =>
    obtain ⟨ihE, ihO⟩ := ih
    have hadv : rxAdv (c :: t) = (if c ≠ bsl then (rxPairsQuote t).or (rxAdv t) else rxAdv t).map (· + 1) := by
      rw [rxAdv, rxBody_eq]
    constructor
    · rw [scanBody, rxPairsQuote_cons, hadv]
      by_cases h1 : c = dq
      · subst h1; simp [rxSplit]
      · by_cases h2 : c = bsl
        · subst h2
          simp only [h1, false_and, if_false, if_true, Bool.not_true, ne_eq, not_true_eq_false]
          rw [ihO, ← Option.map_or, rxSplit_succ]; rfl
        · simp only [h1, false_and, if_false, h2, ne_eq, not_false_eq_true, if_true, Option.none_or]
          rw [ihE, rxSplit_succ]; rfl
    · rw [scanBody, hadv]
      have hs : (if c = bsl then !false else true) = true := by split <;> rfl
      simp only [Bool.false_eq_true, and_false, if_false, hs, ihE]
      by_cases h2 : c = bsl
      · subst h2
        simp only [rxMid, if_true, ne_eq, not_true_eq_false, if_false]
        rw [← Option.map_or, rxSplit_succ]; rfl
      · simp only [rxMid, h2, if_false, ne_eq, not_false_eq_true, if_true, Option.none_or]
        rw [rxSplit_succ]; rfl

theorem ofNat_mask_toNat (b : UInt8) : UInt8.ofNat (b.toNat &&& 0xFF) = b := by
  revert b
  apply forall_byte
  decide +kernel

theorem escUnit_printable (b : UInt8) : ∀ c ∈ escUnit b, 0x20 ≤ c ∧ c < 0x7f := by
  revert b
  apply forall_byte
  decide +kernel

theorem valueToString_printable' (bs : Bytes) : ∀ c ∈ valueToString bs, 0x20 ≤ c ∧ c < 0x7f := by
  rw [valueToString_eq]
  intro c hc
  simp only [List.mem_cons, List.mem_append, List.mem_flatMap, List.not_mem_nil, or_false] at hc
  rcases hc with rfl | ⟨b, _, hb⟩ | rfl
  · decide
  · exact escUnit_printable b c hb
  · decide

theorem escUnit_length_le (b : UInt8) : (escUnit b).length ≤ 4 := by
  revert b
  apply forall_byte
  decide +kernel

theorem valueToString_length_le (bs : Bytes) : (valueToString bs).length ≤ 4 * bs.length + 2 := by
  rw [valueToString_eq, List.length_cons, List.length_append]
  have : (bs.flatMap escUnit).length ≤ 4 * bs.length := by
    induction bs with
    | nil => exact Nat.le_refl _
    | cons b bs ih =>
      rw [List.flatMap_cons, List.length_append, List.length_cons]
      have := escUnit_length_le b
      omega
  exact Nat.succ_le_succ (Nat.add_le_add_right this 1)

end C12

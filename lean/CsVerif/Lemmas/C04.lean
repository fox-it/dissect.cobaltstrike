import CsVerif.Props.C20
import CsVerif.Model.C04
/-! Helper lemmas for C04 (no property statements here): CPython base64 model, reference codecs,
per-step and chain inverses, frame lemmas for `transform` / the reference encoder, `recover` on placed messages. -/
namespace C04
open Ref

/-- hypotheses of `a2bGo_unsextets` on a decoding table and its alphabet -/
def TableOk (vl : UInt8 → Option Nat) (al : Nat → UInt8) : Prop :=
  ∀ n, n < 64 → vl (al n) = some n ∧ al n ≠ 61

theorem tableOk_std : TableOk b64Val b64Char := by unfold TableOk; decide +kernel

theorem tableOk_ref : ∀ url, TableOk (val url) (alpha url) := by unfold TableOk; decide +kernel

theorem alpha_std : ∀ n, n < 64 →
    alpha false n = b64Char n ∧ urlEncTr (b64Char n) = alpha true n ∧ urlDecTr (alpha true n) = b64Char n := by
  decide +kernel

theorem group3 (a b c : Nat) (ha : a < 256) (hb : b < 256) (hc : c < 256) :
    (a / 4 < 64 ∧ a % 4 * 16 + b / 16 < 64 ∧ b % 16 * 4 + c / 64 < 64 ∧ c % 64 < 64) ∧
    a / 4 * 4 + (a % 4 * 16 + b / 16) / 16 = a ∧
    (a % 4 * 16 + b / 16) % 16 * 16 + (b % 16 * 4 + c / 64) / 4 = b ∧
    (b % 16 * 4 + c / 64) % 4 * 64 + c % 64 = c := by
  refine ⟨⟨Nat.div_lt_of_lt_mul ha, ?_, ?_, Nat.mod_lt _ (by decide)⟩, ?_, ?_, ?_⟩ <;> omega

theorem sextets_lt (d : Bytes) : ∀ s ∈ sextets d, s < 64 := by
  induction d using sextets.induct with
  | case1 => simp [sextets]
  | case2 a =>
    obtain ⟨⟨l0, l1, -, -⟩, -⟩ := group3 a.toNat 0 0 a.toNat_lt (by omega) (by omega)
    simp only [sextets, List.forall_mem_cons]; exact ⟨l0, l1, by simp⟩
  | case3 a b =>
    obtain ⟨⟨l0, l1, l2, -⟩, -⟩ := group3 a.toNat b.toNat 0 a.toNat_lt b.toNat_lt (by omega)
    simp only [sextets, List.forall_mem_cons]; exact ⟨l0, l1, l2, by simp⟩
  | case4 a b c rest ih =>
    obtain ⟨⟨l0, l1, l2, l3⟩, -⟩ := group3 a.toNat b.toNat c.toNat a.toNat_lt b.toNat_lt c.toNat_lt
    simp only [sextets, List.forall_mem_cons]; exact ⟨l0, l1, l2, l3, ih⟩

theorem padLen_add3 (a b c : UInt8) (rest : Bytes) : padLen (a :: b :: c :: rest) = padLen rest := by
  show (3 - (rest.length + 3) % 3) % 3 = _
  rw [Nat.add_mod_right]; rfl

theorem b64encode_eq (d : Bytes) :
    b64encode d = (sextets d).map b64Char ++ List.replicate (padLen d) 61 := by
  induction d using sextets.induct with
  | case1 => rfl
  | case2 a => rfl
  | case3 a b => rfl
  | case4 a b c rest ih =>
    rw [b64encode, ih, padLen_add3]; simp [sextets]

theorem ofNat_eq8 (n : Nat) (a : UInt8) (h : n = a.toNat) : UInt8.ofNat n = a := by subst h; simp

theorem unsextets_sextets (d : Bytes) : unsextets (sextets d) = some d := by
  induction d using sextets.induct with
  | case1 => rfl
  | case2 a =>
    have e1 : a.toNat / 4 * 4 + a.toNat % 4 * 16 / 16 = a.toNat := (group3 a.toNat 0 0 a.toNat_lt (by omega) (by omega)).2.1
    simp only [sextets, unsextets]; rw [ofNat_eq8 _ a e1]
  | case3 a b =>
    obtain ⟨-, e1, e2, -⟩ := group3 a.toNat b.toNat 0 a.toNat_lt b.toNat_lt (by omega)
    have e2 : (a.toNat % 4 * 16 + b.toNat / 16) % 16 * 16 + b.toNat % 16 * 4 / 4 = b.toNat := e2
    simp only [sextets, unsextets]; rw [ofNat_eq8 _ a e1, ofNat_eq8 _ b e2]
  | case4 a b c rest ih =>
    obtain ⟨-, e1, e2, e3⟩ := group3 a.toNat b.toNat c.toNat a.toNat_lt b.toNat_lt c.toNat_lt
    simp only [sextets, unsextets, ih, Option.map_some]
    rw [ofNat_eq8 _ a e1, ofNat_eq8 _ b e2, ofNat_eq8 _ c e3]

/-- In `a2bGo vl q l p acc cs`: `q` = position in the group of four characters, `l` = leftover bits, `p` = `=` seen in the group.
On padding alone the decoder stops cleanly at a group boundary, or when padding completes a group of at least two characters. -/
theorem a2bGo_pad (vl) (q l p : Nat) (acc : Bytes) (k : Nat) (hq : q = 0 ∨ 2 ≤ q ∧ q + p < 4 ∧ 4 ≤ q + p + k) :
    a2bGo vl q l p acc (List.replicate k 61) = .ok acc.reverse := by
  induction k generalizing p with
  | zero =>
    rcases hq with rfl | h
    · rfl
    · omega
  | succ k ih =>
    rw [List.replicate_succ, a2bGo, if_pos rfl]
    rcases hq with rfl | ⟨h2, h3, h4⟩
    · rw [if_neg (by omega)]; exact ih _ (Or.inl rfl)
    · rw [if_pos h2]
      by_cases h : q + (p + 1) ≥ 4
      · rw [if_pos h]
      · rw [if_neg h]; exact ih _ (Or.inr ⟨h2, by omega, by omega⟩)

theorem a2bGo_step {vl al} (h : TableOk vl al) (s : Nat) (hs : s < 64) :
    (∀ l p acc cs, a2bGo vl 0 l p acc (al s :: cs) = a2bGo vl 1 s 0 acc cs) ∧
    (∀ l p acc cs, a2bGo vl 1 l p acc (al s :: cs) = a2bGo vl 2 (s % 16) 0 (UInt8.ofNat (l * 4 + s / 16) :: acc) cs) ∧
    (∀ l p acc cs, a2bGo vl 2 l p acc (al s :: cs) = a2bGo vl 3 (s % 4) 0 (UInt8.ofNat (l * 16 + s / 4) :: acc) cs) ∧
    (∀ l p acc cs, a2bGo vl 3 l p acc (al s :: cs) = a2bGo vl 0 0 0 (UInt8.ofNat (l * 64 + s) :: acc) cs) := by
  obtain ⟨h1, h2⟩ := h s hs
  refine ⟨?_, ?_, ?_, ?_⟩ <;> (intro l p acc cs; rw [a2bGo]; simp [h1, h2])

theorem a2bGo_unsextets {vl al} (h : TableOk vl al) (ss : List Nat) :
    ∀ (d : Bytes), (∀ s ∈ ss, s < 64) → unsextets ss = some d → ∀ (acc : Bytes) (l p k : Nat), 2 ≤ k →
      a2bGo vl 0 l p acc (ss.map al ++ List.replicate k 61) = .ok (acc.reverse ++ d) := by
  induction ss using unsextets.induct with
  | case1 =>
    intro d _ hd acc l p k _
    cases hd
    rw [List.map_nil, List.nil_append, a2bGo_pad _ _ _ _ _ _ (Or.inl rfl), List.append_nil]
  | case2 s0 => intro d _ hd; cases hd
  | case3 s0 s1 =>
    intro d hs hd acc l p k hk
    cases hd
    simp only [List.forall_mem_cons] at hs
    simp only [List.map_cons, List.map_nil, List.cons_append, List.nil_append]
    rw [(a2bGo_step h s0 hs.1).1, (a2bGo_step h s1 hs.2.1).2.1,
      a2bGo_pad _ _ _ _ _ _ (Or.inr ⟨Nat.le_refl 2, by omega, by omega⟩)]
    simp
  | case4 s0 s1 s2 =>
    intro d hs hd acc l p k hk
    cases hd
    simp only [List.forall_mem_cons] at hs
    simp only [List.map_cons, List.map_nil, List.cons_append, List.nil_append]
    rw [(a2bGo_step h s0 hs.1).1, (a2bGo_step h s1 hs.2.1).2.1, (a2bGo_step h s2 hs.2.2.1).2.2.1,
      a2bGo_pad _ _ _ _ _ _ (Or.inr ⟨by omega, by omega, by omega⟩)]
    simp
  | case5 s0 s1 s2 s3 rest ih =>
    intro d hs hd acc l p k hk
    simp only [unsextets] at hd
    obtain ⟨r, hr, rfl⟩ := Option.map_eq_some_iff.1 hd
    simp only [List.forall_mem_cons] at hs
    simp only [List.map_cons, List.cons_append]
    rw [(a2bGo_step h s0 hs.1).1, (a2bGo_step h s1 hs.2.1).2.1, (a2bGo_step h s2 hs.2.2.1).2.2.1,
      (a2bGo_step h s3 hs.2.2.2.1).2.2.2, ih r hs.2.2.2.2 hr _ _ _ _ hk]
    simp

theorem a2bGo_enc {vl al} (h : TableOk vl al) (d : Bytes) (acc : Bytes) (l p k : Nat) (hk : 2 ≤ k) :
    a2bGo vl 0 l p acc ((sextets d).map al ++ List.replicate k 61) = .ok (acc.reverse ++ d) :=
  a2bGo_unsextets h _ d (sextets_lt d) (unsextets_sextets d) acc l p k hk

theorem replicate61_add2 (k : Nat) : List.replicate k (61 : UInt8) ++ [61, 61] = List.replicate (k + 2) 61 := by
  rw [show ([61, 61] : Bytes) = List.replicate 2 61 from rfl, List.replicate_append_replicate]

/-- model: `b64decode(b64encode(x) + b"==") == x` -/
theorem b64_roundtrip (x : Bytes) : b64decode (b64encode x ++ [61, 61]) = .ok x := by
  rw [b64encode_eq, List.append_assoc, replicate61_add2, b64decode,
    a2bGo_enc tableOk_std x [] 0 0 _ (by omega)]
  rfl

theorem map_std_chars (l : List Nat) (h : ∀ s ∈ l, s < 64) :
    (l.map b64Char).map urlEncTr = l.map (alpha true) ∧ (l.map (alpha true)).map urlDecTr = l.map b64Char
      ∧ l.map (alpha false) = l.map b64Char := by
  refine ⟨?_, ?_, ?_⟩
  · rw [List.map_map]; apply List.map_congr_left; intro s hs; exact (alpha_std s (h s hs)).2.1
  · rw [List.map_map]; apply List.map_congr_left; intro s hs; exact (alpha_std s (h s hs)).2.2
  · apply List.map_congr_left; intro s hs; exact (alpha_std s (h s hs)).1

theorem urlsafeB64encode_eq (x : Bytes) :
    urlsafeB64encode x = b64urlenc x ++ List.replicate (padLen x) 61 := by
  rw [urlsafeB64encode, b64encode_eq, List.map_append, (map_std_chars _ (sextets_lt x)).1]
  simp [b64urlenc, b64chars, urlEncTr]

theorem b64enc_eq (x : Bytes) : b64enc x = b64encode x := by
  rw [b64encode_eq, b64enc, b64chars, (map_std_chars _ (sextets_lt x)).2.2]

theorem urlsafe_dec_chars (x : Bytes) (k : Nat) :
    urlsafeB64decode (b64urlenc x ++ List.replicate k 61 ++ [61, 61]) = .ok x := by
  rw [urlsafeB64decode, List.append_assoc, replicate61_add2, List.map_append, b64urlenc, b64chars,
    (map_std_chars _ (sextets_lt x)).2.1]
  have : (List.replicate (k + 2) (61 : UInt8)).map urlDecTr = List.replicate (k + 2) 61 := by
    simp [urlDecTr]
  rw [this, b64decode, a2bGo_enc tableOk_std x [] 0 0 _ (by omega)]
  rfl

/-- model: `urlsafe_b64decode(urlsafe_b64encode(x) + b"==") == x` -/
theorem b64url_roundtrip (x : Bytes) : urlsafeB64decode (urlsafeB64encode x ++ [61, 61]) = .ok x := by
  rw [urlsafeB64encode_eq]; exact urlsafe_dec_chars x _

/-- the library also decodes the unpadded Cobalt Strike form -/
theorem b64url_unpadded (x : Bytes) : urlsafeB64decode (b64urlenc x ++ [61, 61]) = .ok x := by
  have := urlsafe_dec_chars x 0; simpa using this

/-! reference strict decoder -/

theorem mapM_val_alpha (url : Bool) (l : List Nat) (h : ∀ s ∈ l, s < 64) :
    (l.map (alpha url)).mapM (val url) = some l := by
  induction l with
  | nil => rfl
  | cons s l ih =>
    simp [List.mapM_cons, (tableOk_ref url s (h s (by simp))).1, ih (fun t ht => h t (by simp [ht]))]

theorem b64dec_chars (url : Bool) (x : Bytes) (k : Nat) (hk : k ≤ 2) :
    b64dec url (b64chars url x ++ List.replicate k 61) = some x := by
  have hne : ∀ c ∈ b64chars url x, (c != 61) = true := by
    intro c hc
    simp only [b64chars, List.mem_map] at hc
    obtain ⟨s, hs, rfl⟩ := hc
    simpa using (tableOk_ref url s (sextets_lt x s hs)).2
  have h1 : (b64chars url x ++ List.replicate k 61).takeWhile (· != 61) = b64chars url x := by
    rw [List.takeWhile_append_of_pos hne]
    cases k <;> simp [List.replicate_succ]
  have h2 : (b64chars url x ++ List.replicate k 61).dropWhile (· != 61) = List.replicate k 61 := by
    rw [List.dropWhile_append_of_pos hne]
    cases k <;> simp [List.replicate_succ]
  simp only [b64dec, h1, h2]
  rw [if_pos (by simp; omega)]
  simp only [b64chars, mapM_val_alpha url _ (sextets_lt x), Option.bind_some, unsextets_sextets]

theorem padLen_le (x : Bytes) : padLen x ≤ 2 := by unfold padLen; omega


/-! ### NetBIOS -/

theorem bytesOfInts_cons (v : Int) (vs : List Int) (h : 0 ≤ v ∧ v < 256) :
    C20.bytesOfInts (v :: vs) = (C20.bytesOfInts vs).map (UInt8.ofNat v.toNat :: ·) := by
  rw [C20.bytesOfInts, if_pos h]

theorem nbEncode_eq (d : Bytes) : C20.netbiosEncode d 0x41 = .ok (nbEnc 65 d) := by
  induction d with
  | nil => rfl
  | cons c cs ih =>
    have hc := c.toNat_lt
    unfold C20.netbiosEncode at ih ⊢
    simp only [C20.nbEncodeInts, List.flatMap_cons, List.cons_append, List.nil_append] at ih ⊢
    rw [bytesOfInts_cons _ _ (by omega), bytesOfInts_cons _ _ (by omega), ih]
    simp only [Except.map, nbEnc, List.flatMap_cons, List.cons_append, List.nil_append]
    congr 3
    · congr 1; omega
    · congr 1; omega

theorem lower_nbEnc (d : Bytes) : lower (nbEnc 65 d) = nbEnc 97 d := by
  have key : ∀ n, n < 16 → lowerByte (UInt8.ofNat (65 + n)) = UInt8.ofNat (97 + n) := by decide
  simp only [lower, nbEnc, List.map_flatMap, List.map_cons, List.map_nil]
  congr 1; funext c
  rw [key _ (Nat.div_lt_of_lt_mul c.toNat_lt), key _ (Nat.mod_lt _ (by decide))]

theorem upper_nbEnc (d : Bytes) : upper (nbEnc 65 d) = nbEnc 65 d ∧ upper (nbEnc 97 d) = nbEnc 65 d := by
  have key : ∀ n, n < 16 → upperByte (UInt8.ofNat (65 + n)) = UInt8.ofNat (65 + n)
      ∧ upperByte (UInt8.ofNat (97 + n)) = UInt8.ofNat (65 + n) := by decide
  simp only [upper, nbEnc, List.map_flatMap, List.map_cons, List.map_nil]
  constructor
  · congr 1; funext c
    rw [(key _ (Nat.div_lt_of_lt_mul c.toNat_lt)).1, (key _ (Nat.mod_lt _ (by decide))).1]
  · congr 1; funext c
    rw [(key _ (Nat.div_lt_of_lt_mul c.toNat_lt)).2, (key _ (Nat.mod_lt _ (by decide))).2]

theorem nbDecode_nbEnc (d : Bytes) : C20.netbiosDecode (nbEnc 65 d) 0x41 = .ok d :=
  C20.netbios_decode_encode d 0x41 _ (nbEncode_eq d)

theorem nbDec_nbEnc (base : Nat) (hb : base ≤ 240) (d : Bytes) : nbDec base (nbEnc base d) = some d := by
  induction d with
  | nil => rfl
  | cons c cs ih =>
    have hc := c.toNat_lt
    simp only [nbEnc, List.flatMap_cons, List.cons_append, List.nil_append] at ih ⊢
    have e1 : (base + c.toNat / 16) % 2 ^ 8 = base + c.toNat / 16 := Nat.mod_eq_of_lt (by omega)
    have e2 : (base + c.toNat % 16) % 2 ^ 8 = base + c.toNat % 16 := Nat.mod_eq_of_lt (by omega)
    simp only [nbDec, UInt8.toNat_ofNat', e1, e2, Nat.add_sub_cancel_left]
    rw [if_pos (by omega), ih]
    simp only [Option.map_some]
    rw [ofNat_eq8 _ c (by omega)]

/-! ### mask -/

theorem key32_eq (v : UInt32) : key32 v = p32be v := by
  simp only [key32, p32be]
  congr <;> (apply UInt8.toNat_inj.mp; simp [UInt32.toNat_shiftRight, Nat.shiftRight_eq_div_pow])

theorem getD_zero_of_all (k : Bytes) (h : k.all (· == 0) = true) (i : Nat) : k.getD i 0 = 0 := by
  induction k generalizing i with
  | nil => rfl
  | cons a k ih =>
    simp only [List.all_cons, Bool.and_eq_true, beq_iff_eq] at h
    cases i with
    | zero => simpa using h.1
    | succ i => simpa using ih h.2 i

theorem xor_eq_xorKey (d k : Bytes) : C20.xor d k = xorKey k d := by
  unfold C20.xor xorKey
  split
  · rename_i h
    apply List.ext_getElem
    · simp
    · intro i h1 h2
      have := getD_zero_of_all k h (i % k.length)
      rw [List.getD_eq_getElem?_getD] at this
      simp [this]
  · simp [C20.xorCore, C20.keyAt, List.mapIdx_eq_zipIdx_map]

theorem p32be_length (v : UInt32) : (p32be v).length = 4 := rfl


/-! ### one step -/

/-- `v` is an admissible encoding of `x` under statement `e`: the reference encoder's output for some
random stream, or (base64url only) the padded form the library emits. -/
def Enc1 (e : Enc) (x v : Bytes) : Prop :=
  (∃ r : Rand, v = (Ref.encStep e r x).1) ∨ (e = .base64url ∧ v = b64urlenc x ++ List.replicate (padLen x) 61)

theorem encStep_spec (e : Enc) (r : Rand) (x : Bytes) :
    ∃ v r', C04.encStep e r x = .ok (v, r') ∧ Enc1 e x v := by
  cases e with
  | append a => exact ⟨_, _, rfl, Or.inl ⟨r, rfl⟩⟩
  | prepend a => exact ⟨_, _, rfl, Or.inl ⟨r, rfl⟩⟩
  | base64 => exact ⟨_, _, rfl, Or.inl ⟨r, (b64enc_eq x).symm⟩⟩
  | base64url => exact ⟨_, _, rfl, Or.inr ⟨rfl, urlsafeB64encode_eq x⟩⟩
  | netbios =>
    refine ⟨nbEnc 97 x, r, ?_, Or.inl ⟨r, rfl⟩⟩
    simp [C04.encStep, nbEncode_eq, liftPy, Except.map, lower_nbEnc]
  | netbiosu =>
    refine ⟨nbEnc 65 x, r, ?_, Or.inl ⟨r, rfl⟩⟩
    simp [C04.encStep, nbEncode_eq, liftPy, Except.map, (upper_nbEnc x).1]
  | mask =>
    refine ⟨_, _, rfl, Or.inl ⟨r, ?_⟩⟩
    simp [Ref.encStep, key32_eq, xor_eq_xorKey]

theorem key32_length (v : UInt32) : (key32 v).length = 4 := rfl

theorem pySliceTo_append (x y : Bytes) (n : Int) (hn : n = (y.length : Int)) :
    pySliceTo (x ++ y) (some (((x ++ y).length : Int) - n)) = x := by
  subst hn
  have h : (((x ++ y).length : Int) - (y.length : Int)) = (x.length : Int) := by simp
  rw [h]; simp [pySliceTo]

theorem pySliceFrom_append (y x : Bytes) (n : Int) (hn : n = (y.length : Int)) :
    pySliceFrom (y ++ x) n = x := by
  subst hn; simp [pySliceFrom]

theorem arg_len (a : Arg) (h : ∀ n, a = .int n → 0 ≤ n) : a.len = (a.toBytes.length : Int) := by
  cases a with
  | bytes b => rfl
  | int n => have := h n rfl; simp [Arg.len, Arg.toBytes]; omega

theorem dec_of_enc1 (e : Enc) (x v : Bytes) (hok : encOk e = true) (h : Enc1 e x v) :
    C04.decStep e v = .ok x := by
  rcases h with ⟨r, rfl⟩ | ⟨rfl, rfl⟩
  · cases e with
    | append a =>
      simp only [Ref.encStep, C04.decStep]
      rw [pySliceTo_append x _ _ (arg_len a fun n e => by subst e; simpa [encOk] using hok)]
    | prepend a =>
      simp only [Ref.encStep, C04.decStep]
      rw [pySliceFrom_append _ x _ (arg_len a fun n e => by subst e; simpa [encOk] using hok)]
    | base64 => simp [Ref.encStep, C04.decStep, b64enc_eq, b64_roundtrip, liftPy]
    | base64url => simp [Ref.encStep, C04.decStep, b64url_unpadded, liftPy]
    | netbios => simp [Ref.encStep, C04.decStep, (upper_nbEnc x).2, nbDecode_nbEnc, liftPy]
    | netbiosu => simp [Ref.encStep, C04.decStep, nbDecode_nbEnc, liftPy]
    | mask =>
      simp only [Ref.encStep, C04.decStep]
      rw [List.take_left' (key32_length _), List.drop_left' (key32_length _), ← xor_eq_xorKey, C20.xor_involutive]
  · simp only [C04.decStep]
    rw [urlsafe_dec_chars]; rfl

theorem refDecStep_of_enc1 (e : Enc) (x v : Bytes) (hok : encOk e = true) (h : Enc1 e x v) :
    Ref.decStep e v = some x := by
  rcases h with ⟨r, rfl⟩ | ⟨rfl, rfl⟩
  · cases e with
    | append a =>
      cases a with
      | bytes b => simp [Ref.encStep, Ref.decStep, Arg.toBytes]
      | int n =>
        have hn : 0 ≤ n := by simpa [encOk] using hok
        simp [Ref.encStep, Ref.decStep, Arg.toBytes, hn]
    | prepend a =>
      cases a with
      | bytes b => simp [Ref.encStep, Ref.decStep, Arg.toBytes]
      | int n =>
        have hn : 0 ≤ n := by simpa [encOk] using hok
        have : (List.replicate n.toNat (88 : UInt8) ++ x).drop n.toNat = x := by simp
        simp [Ref.encStep, Ref.decStep, Arg.toBytes, hn, this]
    | base64 =>
      simp only [Ref.encStep, Ref.decStep, b64enc]
      exact b64dec_chars false x _ (padLen_le x)
    | base64url =>
      simp only [Ref.encStep, Ref.decStep, b64urlenc]
      have := b64dec_chars true x 0 (by omega)
      simpa [b64chars] using this
    | netbios => simp [Ref.encStep, Ref.decStep, nbDec_nbEnc]
    | netbiosu => simp [Ref.encStep, Ref.decStep, nbDec_nbEnc]
    | mask =>
      have h3 : xorKey (key32 (r 0)) (xorKey (key32 (r 0)) x) = x := by
        rw [← xor_eq_xorKey, ← xor_eq_xorKey, C20.xor_involutive]
      simp only [Ref.encStep, Ref.decStep, List.take_left' (key32_length _), List.drop_left' (key32_length _), h3]
      simp [key32_length]
  · simp only [Ref.decStep, b64urlenc]
    exact b64dec_chars true x _ (padLen_le x)

/-! ### chains -/

/-- `v` is an admissible encoding of `x` under the statements `es`, first to last (`Enc1` at every stage) -/
def EncN : List Enc → Bytes → Bytes → Prop
  | [], x, v => v = x
  | e :: es, x, v => ∃ w, Enc1 e x w ∧ EncN es w v

theorem encChain_spec (es : List Enc) (r : Rand) (x : Bytes) :
    ∃ v r', encChain es r x = .ok (v, r') ∧ EncN es x v := by
  induction es generalizing r x with
  | nil => exact ⟨x, r, rfl, rfl⟩
  | cons e es ih =>
    obtain ⟨w, r1, h1, h2⟩ := encStep_spec e r x
    obtain ⟨v, r2, h3, h4⟩ := ih r1 w
    exact ⟨v, r2, by simp [encChain, h1, Except.bind, h3], w, h2, h4⟩

theorem refEncChain_spec (es : List Enc) (r : Rand) (x : Bytes) : EncN es x (Ref.encChain es r x).1 := by
  induction es generalizing r x with
  | nil => rfl
  | cons e es ih => exact ⟨_, Or.inl ⟨r, rfl⟩, ih _ _⟩

theorem bind_bind {ε α β γ : Type} (x : Except ε α) (f : α → Except ε β) (g : β → Except ε γ) :
    (x.bind f).bind g = x.bind fun a => (f a).bind g := by
  cases x <;> rfl

theorem decChain_append (a b : List Enc) (v : Bytes) :
    decChain (a ++ b) v = (decChain a v).bind (decChain b) := by
  induction a generalizing v with
  | nil => rfl
  | cons e a ih => rw [List.cons_append, decChain, decChain, bind_bind, funext ih]

theorem refDecChain_append (a b : List Enc) (v : Bytes) :
    Ref.decChain (a ++ b) v = (Ref.decChain a v).bind (Ref.decChain b) := by
  induction a generalizing v with
  | nil => rfl
  | cons e a ih => rw [List.cons_append, Ref.decChain, Ref.decChain, Option.bind_assoc, funext ih]

theorem decChain_of_encN (es : List Enc) (hok : ∀ e ∈ es, encOk e = true) (x v : Bytes) (h : EncN es x v) :
    decChain es.reverse v = .ok x := by
  induction es generalizing x with
  | nil => cases h; rfl
  | cons e es ih =>
    obtain ⟨w, h1, h2⟩ := h
    rw [List.reverse_cons, decChain_append, ih (fun e he => hok e (by simp [he])) w h2]
    simp [Except.bind, decChain, dec_of_enc1 e x w (hok e (by simp)) h1]

theorem refDecChain_of_encN (es : List Enc) (hok : ∀ e ∈ es, encOk e = true) (x v : Bytes) (h : EncN es x v) :
    Ref.decChain es.reverse v = some x := by
  induction es generalizing x with
  | nil => cases h; rfl
  | cons e es ih =>
    obtain ⟨w, h1, h2⟩ := h
    rw [List.reverse_cons, refDecChain_append, ih (fun e he => hok e (by simp [he])) w h2]
    simp [Ref.decChain, refDecStep_of_enc1 e x w (hok e (by simp)) h1]


/-! ### dict, partition -/

theorem dict_get_set_eq (d : Dict) (k v : Bytes) : (d.set k v).get k = some v := by
  induction d with
  | nil => simp [Dict.set, Dict.get]
  | cons kv rest ih =>
    obtain ⟨k', v'⟩ := kv
    by_cases h : k' = k
    · simp [Dict.set, Dict.get, h]
    · simp [Dict.set, Dict.get, h, ih]

theorem dict_get_set_ne (d : Dict) (k k2 v : Bytes) (hne : k2 ≠ k) : (d.set k v).get k2 = d.get k2 := by
  induction d with
  | nil => simp [Dict.set, Dict.get, Ne.symm hne]
  | cons kv rest ih =>
    obtain ⟨k', v'⟩ := kv
    by_cases h : k' = k
    · subst h; simp [Dict.set, Dict.get, Ne.symm hne]
    · by_cases h2 : k' = k2
      · subst h2; simp [Dict.set, Dict.get, h]
      · simp [Dict.set, Dict.get, h, h2, ih]

theorem partition_name (c : UInt8) (sr n v : Bytes) (hn : c ∉ n) :
    partition (c :: sr) (n ++ c :: (sr ++ v)) = (n, v) := by
  induction n with
  | nil =>
    simp only [List.nil_append, partition]
    simp [List.isPrefixOf]
  | cons a n ih =>
    have hac : a ≠ c := fun h => hn (by simp [h])
    have hn' : c ∉ n := fun h => hn (by simp [h])
    simp only [List.cons_append, partition]
    have : (c :: sr).isPrefixOf (a :: (n ++ c :: (sr ++ v))) = false := by
      simp [List.isPrefixOf, Ne.symm hac]
    rw [this]
    simp [ih hn']

/-! ### frame -/

theorem refPlace_frame (t t' : Term) (v : Bytes) (r : Req) (h : t ≠ t') :
    locate t (.request (place t' v r)) = locate t (.request r) := by
  cases t' with
  | print => cases t <;> first | rfl | exact absurd rfl h
  | uriAppend => cases t <;> first | rfl | exact absurd rfl h
  | header k =>
    cases t with
    | header k2 =>
      have : k2 ≠ k := fun e => h (by rw [e])
      simp [locate, place, dict_get_set_ne _ _ _ _ this]
    | _ => rfl
  | parameter k =>
    cases t with
    | parameter k2 =>
      have : k2 ≠ k := fun e => h (by rw [e])
      simp [locate, place, dict_get_set_ne _ _ _ _ this]
    | _ => rfl

theorem place_uri (t : Term) (v : Bytes) (r : Req) (h : t ≠ .uriAppend) : (place t v r).uri = r.uri := by
  cases t <;> first | rfl | exact absurd rfl h

theorem refPlace_at (t : Term) (v : Bytes) (r : Req) :
    locate t (.request (place t v r)) = some (if t = .uriAppend then r.uri ++ v else v) := by
  cases t <;> simp [locate, place, dict_get_set_eq]

theorem deco_apply_eq (d : Deco) (r : Req) : ∃ v, d.apply r = place d.place v r := by
  cases d <;> exact ⟨_, rfl⟩

theorem refDeco_frame (d : Deco) (t : Term) (r : Req) (h : t ≠ d.place) :
    locate t (.request (d.apply r)) = locate t (.request r) := by
  obtain ⟨v, e⟩ := deco_apply_eq d r
  rw [e]; exact refPlace_frame t d.place v r h

theorem partition_compiled (c : UInt8) (sr n v : Bytes) (hn : c ∉ n) :
    partition (c :: sr) (n ++ (c :: sr) ++ v) = (n, v) := by
  rw [List.append_assoc, List.cons_append]; exact partition_name c sr n v hn

/-! ### what a step of `transform` does to the request -/

def Static.deco : Static → Deco
  | .header kv => .header (partition [58, 32] kv).1 (partition [58, 32] kv).2
  | .hostheader kv => .hostheader (partition [58, 32] kv).1 (partition [58, 32] kv).2
  | .parameter kv => .parameter (partition [61] kv).1 (partition [61] kv).2

theorem deco_toStep (d : Deco) (h : d.nameOk = true) : ∃ sd, d.toStep = .static sd ∧ sd.deco = d := by
  cases d with
  | header n v =>
    exact ⟨_, rfl, by simp only [Static.deco, partition_compiled 58 [32] n v (by simpa [Deco.nameOk] using h)]⟩
  | hostheader n v =>
    exact ⟨_, rfl, by simp only [Static.deco, partition_compiled 58 [32] n v (by simpa [Deco.nameOk] using h)]⟩
  | parameter n v =>
    exact ⟨_, rfl, by simp only [Static.deco, partition_compiled 61 [] n v (by simpa [Deco.nameOk] using h)]⟩

/-- the location a step of `transform` writes to, if any -/
def writes : Step → Option Term
  | .term t => some t
  | .static sd => some sd.deco.place
  | _ => none

/-- what a successful step does to the request (`tstep_toReq`) -/
def effect : Step → Bytes → Req → Req
  | .term t, d, r => place t d r
  | .static sd, _, r => sd.deco.apply r
  | _, _, r => r

theorem tstep_toReq (c2 : C2Data) (req : Req) (st : Step) (s s' : TSt) (h : tstep c2 st s = .ok s') :
    s'.toReq req = effect st s.data (s.toReq req) := by
  cases st with
  | enc e =>
    simp only [tstep] at h
    cases he : C04.encStep e s.rand s.data with
    | error err => simp [he, Except.map] at h
    | ok p => simp only [he, Except.map, Except.ok.injEq] at h; subst h; rfl
  | term t => cases t <;> (cases h; rfl)
  | static sd => cases sd <;> (cases h; rfl)
  | build f => cases f <;> (cases h; rfl)
  | unknown => cases h

theorem effect_frame (st : Step) (d : Bytes) (r : Req) (t : Term) (hw : writes st ≠ some t) :
    locate t (.request (effect st d r)) = locate t (.request r) := by
  cases st with
  | term t' => exact refPlace_frame t t' d r fun e => hw (e ▸ rfl)
  | static sd => exact refDeco_frame sd.deco t r fun e => hw (e ▸ rfl)
  | _ => rfl

def TSt.http (req : Req) (s : TSt) : Http := .request (s.toReq req)

theorem locate_http (req : Req) (s : TSt) (t : Term) :
    locate t (s.http req) = match t with
      | .print => some s.body
      | .uriAppend => some s.uri
      | .header k => s.headers.get k
      | .parameter k => s.params.get k := by
  cases t <;> rfl

theorem tstep_frame (c2 : C2Data) (req : Req) (st : Step) (s s' : TSt) (t : Term)
    (h : tstep c2 st s = .ok s') (hw : writes st ≠ some t) :
    locate t (s'.http req) = locate t (s.http req) := by
  rw [TSt.http, tstep_toReq c2 req st s s' h]; exact effect_frame st s.data _ t hw

theorem runT_frame (c2 : C2Data) (req : Req) (steps : List Step) (s s' : TSt) (t : Term)
    (h : runT c2 steps s = .ok s') (hw : ∀ st ∈ steps, writes st ≠ some t) :
    locate t (s'.http req) = locate t (s.http req) := by
  induction steps generalizing s with
  | nil => simp only [runT, Except.ok.injEq] at h; subst h; rfl
  | cons st rest ih =>
    simp only [runT] at h
    cases h1 : tstep c2 st s with
    | error e => simp [h1, Except.bind] at h
    | ok s1 =>
      simp only [h1, Except.bind] at h
      rw [ih s1 h (fun st' hs => hw st' (by simp [hs])), tstep_frame c2 req st s s1 t h1 (hw st (by simp))]

theorem runT_append (c2 : C2Data) (a b : List Step) (s : TSt) :
    runT c2 (a ++ b) s = (runT c2 a s).bind (runT c2 b) := by
  induction a generalizing s with
  | nil => rfl
  | cons st a ih => rw [List.cons_append, runT, runT, bind_bind, funext ih]

theorem runT_encs (c2 : C2Data) (es : List Enc) (s : TSt) :
    runT c2 (es.map Step.enc) s =
      (encChain es s.rand s.data).map fun p => { s with data := p.1, rand := p.2 } := by
  induction es generalizing s with
  | nil => rfl
  | cons e es ih =>
    simp only [List.map_cons, runT, tstep, encChain]
    cases C04.encStep e s.rand s.data with
    | error err => rfl
    | ok p => simp [Except.map, Except.bind, ih]

theorem valid_cons_deco {d : Deco} {rest : Program} (h : valid (.deco d :: rest) = true) :
    d.nameOk = true ∧ valid rest = true := by simpa [valid] using h

theorem valid_cons_block {b : Block} {rest : Program} (h : valid (.block b :: rest) = true) :
    (∀ e ∈ b.encs, encOk e = true) ∧ b.term ∉ places rest ∧ valid rest = true := by
  simpa [valid, and_assoc] using h

theorem writes_compile (p : Program) (hv : valid p = true) (st : Step) (hs : st ∈ compile p) (t : Term)
    (hw : writes st = some t) : t ∈ places p := by
  induction p with
  | nil => simp [compile] at hs
  | cons it rest ih =>
    cases it with
    | deco d =>
      rcases List.mem_cons.1 hs with rfl | hs
      · obtain ⟨sd, e1, e2⟩ := deco_toStep d (valid_cons_deco hv).1
        rw [e1, writes, e2] at hw
        cases hw; exact List.mem_cons_self
      · exact List.mem_cons_of_mem _ (ih (valid_cons_deco hv).2 hs)
    | block b =>
      rcases List.mem_append.1 hs with hs | hs
      · rcases List.mem_cons.1 hs with rfl | hs
        · cases hw
        · rcases List.mem_append.1 hs with hs | hs
          · obtain ⟨e, _, rfl⟩ := List.mem_map.1 hs
            cases hw
          · cases List.mem_singleton.1 hs
            cases hw; exact List.mem_cons_self
      · exact List.mem_cons_of_mem _ (ih (valid_cons_block hv).2.2 hs)

/-! ### `transform` on compiled programs -/

/-- the payload of a field (`c2data.x or b""`) -/
def payload (c2 : C2Data) (f : Field) : Bytes := (c2.get f).getD []

/-- every block's placement in `http` holds an admissible encoding of its payload -/
def Placed (c2 : C2Data) (http : Http) (p : Program) : Prop :=
  ∀ b, Item.block b ∈ p → ∃ v, locate b.term http = some v ∧ EncN b.encs (payload c2 b.field) v

theorem placed_deco {c2 : C2Data} {http : Http} {rest : Program} (d : Deco) (h : Placed c2 http rest) :
    Placed c2 http (.deco d :: rest) := by
  intro b hb
  rcases List.mem_cons.1 hb with e | hb
  · cases e
  · exact h b hb

theorem placed_block {c2 : C2Data} {http : Http} {rest : Program} {b : Block} (v : Bytes)
    (hl : locate b.term http = some v) (hN : EncN b.encs (payload c2 b.field) v) (h : Placed c2 http rest) :
    Placed c2 http (.block b :: rest) := by
  intro b' hb
  rcases List.mem_cons.1 hb with e | hb
  · cases e; exact ⟨v, hl, hN⟩
  · exact h b' hb

theorem usesUri_iff (p : Program) : usesUri p = true ↔ Term.uriAppend ∈ places p := by
  simp [usesUri]

theorem usesUri_of_rest (it : Item) (rest : Program) (h : usesUri rest = true) : usesUri (it :: rest) = true := by
  rw [usesUri_iff] at h ⊢; simp only [places, List.map_cons, List.mem_cons] at h ⊢; exact Or.inr h

theorem usesUri_of_head (it : Item) (rest : Program) (h : it.place = .uriAppend) : usesUri (it :: rest) = true := by
  rw [usesUri_iff]; simp [places, h]

theorem runT_single (c2 : C2Data) (st : Step) (s : TSt) : runT c2 [st] s = tstep c2 st s := by
  simp only [runT]
  cases tstep c2 st s <;> rfl

theorem block_forward (c2 : C2Data) (req : Req) (b : Block) (s : TSt) :
    ∃ s1 v, runT c2 b.toSteps s = .ok s1 ∧ EncN b.encs (payload c2 b.field) v ∧
      locate b.term (s1.http req) = some (if b.term = .uriAppend then s.uri ++ v else v) ∧
      (b.term ≠ .uriAppend → s1.uri = s.uri) := by
  obtain ⟨v, r', hc, hN⟩ := encChain_spec b.encs s.rand (payload c2 b.field)
  have h0 : runT c2 (Step.build (some b.field) :: b.encs.map Step.enc) s
      = .ok { s with data := v, rand := r' } := by
    rw [runT]
    show (Except.ok ({ s with data := payload c2 b.field } : TSt)).bind _ = _
    simp only [Except.bind]
    rw [runT_encs]
    simp [hc, Except.map]
  have hrun : runT c2 b.toSteps s =
      tstep c2 (.term b.term) { s with data := v, rand := r' } := by
    rw [Block.toSteps, runT_append, h0]
    simp only [Except.bind]
    rw [runT_single]
  rw [hrun]
  cases hb : b.term with
  | print => exact ⟨_, v, rfl, hN, by simp [locate_http], fun _ => rfl⟩
  | uriAppend => exact ⟨_, v, rfl, hN, by simp [locate_http], fun h => absurd rfl h⟩
  | header k => exact ⟨_, v, rfl, hN, by simp [locate_http, dict_get_set_eq], fun _ => rfl⟩
  | parameter k => exact ⟨_, v, rfl, hN, by simp [locate_http, dict_get_set_eq], fun _ => rfl⟩

theorem deco_forward (c2 : C2Data) (d : Deco) (s : TSt) :
    ∃ s1, tstep c2 d.toStep s = .ok s1 ∧ s1.uri = s.uri := by
  cases d <;> exact ⟨_, rfl, rfl⟩

theorem transform_placed (c2 : C2Data) (req : Req) (p : Program) (hv : valid p = true) (s : TSt)
    (hu : usesUri p = true → s.uri = []) :
    ∃ s', runT c2 (compile p) s = .ok s' ∧ Placed c2 (s'.http req) p := by
  induction p generalizing s with
  | nil => exact ⟨s, rfl, fun b hb => by simp at hb⟩
  | cons it rest ih =>
    cases it with
    | deco d =>
      obtain ⟨_, hv2⟩ := valid_cons_deco hv
      obtain ⟨s1, h1, hu1⟩ := deco_forward c2 d s
      obtain ⟨s', h2, hP⟩ := ih hv2 s1 (fun h => by rw [hu1]; exact hu (usesUri_of_rest _ _ h))
      exact ⟨s', by simp [compile, runT, h1, Except.bind, h2], placed_deco d hP⟩
    | block b =>
      obtain ⟨hok, hnot, hv2⟩ := valid_cons_block hv
      obtain ⟨s1, v, h1, hN, hloc, hur⟩ := block_forward c2 req b s
      have hu1 : usesUri rest = true → s1.uri = [] := by
        intro h
        rw [hur fun e => hnot (by rw [e]; exact (usesUri_iff rest).mp h)]
        exact hu (usesUri_of_rest _ _ h)
      obtain ⟨s', h2, hP⟩ := ih hv2 s1 hu1
      refine ⟨s', by simp [compile, runT_append, h1, Except.bind, h2], placed_block v ?_ hN hP⟩
      rw [runT_frame c2 req (compile rest) s1 s' b.term h2
        (fun st hs hw => hnot (writes_compile rest hv2 st hs b.term hw)), hloc]
      by_cases hb : b.term = .uriAppend
      · have : s.uri = [] := hu (usesUri_of_head _ _ (by simpa [Item.place] using hb))
        simp [hb, this]
      · simp [hb]

/-! ### decoding placed messages -/

theorem runR_append (http : Http) (a b : List Step) (s : RSt) :
    runR http (a ++ b) s = (runR http a s).bind (runR http b) := by
  induction a generalizing s with
  | nil => rfl
  | cons st a ih => rw [List.cons_append, runR, runR, bind_bind, funext ih]

theorem runR_encs (http : Http) (es : List Enc) (s : RSt) :
    runR http (es.map Step.enc) s = (decChain es s.data).map fun d => { s with data := d } := by
  induction es generalizing s with
  | nil => rfl
  | cons e es ih =>
    simp only [List.map_cons, runR, rstep, decChain]
    cases C04.decStep e s.data with
    | error err => rfl
    | ok d => simp [Except.map, Except.bind, ih]

theorem fetch_of_locate (t : Term) (http : Http) (v : Bytes) (h : locate t http = some v) :
    fetch http t = .ok v := by
  cases t <;> cases http <;> simp_all [locate, fetch]

def RSt.getField (s : RSt) : Field → Option Bytes
  | .output => s.output
  | .id => s.id
  | .metadata => s.metadata

theorem getField_setField (s : RSt) (d : Bytes) (f g : Field) :
    (({ s with data := d } : RSt).setField f).getField g = if f = g then some d else s.getField g := by
  cases f <;> cases g <;> rfl

theorem built_cons_deco (d : Deco) (rest : Program) (f : Field) : built (.deco d :: rest) f = built rest f := by
  simp [built]

theorem built_cons_block (b : Block) (rest : Program) (f : Field) :
    built (.block b :: rest) f = (b.field == f || built rest f) := by
  simp [built]

/-- `x f` = the value every block of field `f` decodes to -/
theorem recover_placed (http : Http) (x : Field → Bytes) (p : Program)
    (hp : ∀ b, Item.block b ∈ p → ∃ v, locate b.term http = some v ∧ decChain b.encs.reverse v = .ok (x b.field))
    (rs : RSt) :
    ∃ rs', runR http (compile p).reverse rs = .ok rs' ∧
      ∀ f, rs'.getField f = if built p f = true then some (x f) else rs.getField f := by
  induction p generalizing rs with
  | nil => exact ⟨rs, rfl, fun f => by simp [built]⟩
  | cons it rest ih =>
    obtain ⟨rs1, h1, hf1⟩ := ih (fun b hb => hp b (by simp [hb])) rs
    cases it with
    | deco d =>
      refine ⟨rs1, ?_, fun f => by rw [built_cons_deco]; exact hf1 f⟩
      simp only [compile, List.reverse_cons, runR_append, h1, Except.bind]
      cases d <;> rfl
    | block b =>
      obtain ⟨v, hl, hd⟩ := hp b (by simp)
      refine ⟨({ rs1 with data := x b.field } : RSt).setField b.field, ?_, ?_⟩
      · simp only [compile, Block.toSteps, List.reverse_append, List.reverse_cons,
          List.nil_append, List.append_assoc, List.cons_append, runR_append, h1, Except.bind]
        rw [← List.map_reverse]
        simp only [runR, rstep, fetch_of_locate _ _ _ hl, Except.map, Except.bind]
        rw [runR_append, runR_encs]
        simp [hd, Except.map, runR, rstep, Except.bind]
      · intro f
        rw [built_cons_block, getField_setField, hf1 f]
        by_cases hbf : b.field = f
        · simp [hbf]
        · have : (b.field == f) = false := by simpa using hbf
          simp [this, hbf]

theorem get_setField (c : C2Data) (f g : Field) (v : Bytes) :
    (Ref.setField c f v).get g = if f = g then some v else c.get g := by
  cases f <;> cases g <;> simp [Ref.setField, C2Data.get]

theorem refDecode_placed (http : Http) (x : Field → Bytes) (p : Program)
    (hp : ∀ b, Item.block b ∈ p → ∃ v, locate b.term http = some v ∧ Ref.decChain b.encs.reverse v = some (x b.field))
    (acc : C2Data) :
    ∃ out, Ref.decode p http acc = some out ∧
      ∀ f, out.get f = if built p f = true then some (x f) else acc.get f := by
  induction p generalizing acc with
  | nil => exact ⟨acc, rfl, fun f => by simp [built]⟩
  | cons it rest ih =>
    cases it with
    | deco d =>
      obtain ⟨out, h1, hf1⟩ := ih (fun b hb => hp b (by simp [hb])) acc
      exact ⟨out, by simp [Ref.decode, h1], fun f => by rw [built_cons_deco]; exact hf1 f⟩
    | block b =>
      obtain ⟨v, hl, hd⟩ := hp b (by simp)
      obtain ⟨out, h1, hf1⟩ := ih (fun b hb => hp b (by simp [hb])) (Ref.setField acc b.field (x b.field))
      refine ⟨out, by simp [Ref.decode, Ref.decodeBlock, hl, hd, h1], ?_⟩
      intro f
      rw [hf1 f, built_cons_block, get_setField]
      by_cases hbf : b.field = f
      · simp [hbf]
      · have : (b.field == f) = false := by simpa using hbf
        simp [this, hbf]


/-! ### the reference encoder -/

theorem refEncode_frame (p : Program) (t : Term) (h : t ∉ places p) (rand : Rand) (c2 : C2Data) (r : Req) :
    locate t (.request (Ref.encode p rand c2 r)) = locate t (.request r) := by
  induction p generalizing rand r with
  | nil => rfl
  | cons it rest ih =>
    simp only [places, List.map_cons, List.mem_cons, not_or] at h
    cases it with
    | deco d => rw [Ref.encode, ih h.2, refDeco_frame d t r h.1]
    | block b => rw [Ref.encode, ih h.2, refPlace_frame t b.term _ r h.1]

theorem refEncode_placed (c2 : C2Data) (p : Program) (hv : valid p = true) (rand : Rand) (r : Req)
    (hu : usesUri p = true → r.uri = []) :
    Placed c2 (.request (Ref.encode p rand c2 r)) p := by
  induction p generalizing rand r with
  | nil => intro b hb; simp at hb
  | cons it rest ih =>
    cases it with
    | deco d =>
      have hu1 : usesUri rest = true → (d.apply r).uri = [] := by
        intro h; have := hu (usesUri_of_rest _ _ h); cases d <;> exact this
      exact placed_deco d (ih (valid_cons_deco hv).2 rand (d.apply r) hu1)
    | block b =>
      obtain ⟨hok, hnot, hv2⟩ := valid_cons_block hv
      have hu1 : usesUri rest = true →
          (place b.term (Ref.encChain b.encs rand (payload c2 b.field)).1 r).uri = [] := by
        intro h
        rw [place_uri b.term _ r fun e => hnot (by rw [e]; exact (usesUri_iff rest).mp h)]
        exact hu (usesUri_of_rest _ _ h)
      refine placed_block _ ?_ (refEncChain_spec _ rand _) (ih hv2 _ _ hu1)
      show locate b.term (.request (Ref.encode rest _ c2 (place b.term _ r))) = _
      rw [refEncode_frame rest b.term hnot, refPlace_at]
      by_cases hb : b.term = .uriAppend
      · have : r.uri = [] := hu (usesUri_of_head _ _ (by simpa [Item.place] using hb))
        simp [hb, this, payload]
      · simp [hb, payload]

/-! ### field-wise to `C2Data` -/

theorem c2_ext (a b : C2Data) (h : ∀ f, a.get f = b.get f) : a = b := by
  cases a; cases b
  have h1 := h .output; have h2 := h .metadata; have h3 := h .id
  simp only [C2Data.get] at h1 h2 h3
  simp [h1, h2, h3]

theorem normalise_get (p : Program) (c2 : C2Data) (f : Field) :
    (normalise p c2).get f = if built p f = true then some (payload c2 f) else none := by
  cases f <;> rfl

theorem toC2_get (s : RSt) (f : Field) : s.toC2.get f = s.getField f := by cases f <;> rfl

theorem valid_encsOk (p : Program) (hv : valid p = true) (b : Block) (hb : Item.block b ∈ p) :
    ∀ e ∈ b.encs, encOk e = true := by
  induction p with
  | nil => simp at hb
  | cons it rest ih =>
    rcases List.mem_cons.1 hb with rfl | hr
    · exact (valid_cons_block hv).1
    · cases it with
      | deco d => exact ih (valid_cons_deco hv).2 hr
      | block b' => exact ih (valid_cons_block hv).2.2 hr

theorem eq_normalise (p : Program) (c2 a : C2Data)
    (h : ∀ f, a.get f = if built p f = true then some (payload c2 f) else none) : a = normalise p c2 :=
  c2_ext _ _ fun f => by rw [h f, normalise_get]

theorem recover_of_decodes (p : Program) (c2 : C2Data) (http : Http)
    (hd : ∀ b, Item.block b ∈ p →
      ∃ v, locate b.term http = some v ∧ decChain b.encs.reverse v = .ok (payload c2 b.field)) :
    (runR http (compile p).reverse ⟨[], none, none, none⟩).map RSt.toC2 = .ok (normalise p c2) := by
  obtain ⟨rs', h1, hf⟩ := recover_placed http (payload c2) p hd ⟨[], none, none, none⟩
  rw [h1]
  exact congrArg Except.ok (eq_normalise p c2 _ fun f => by rw [toC2_get, hf f]; cases f <;> rfl)

theorem recover_of_placed (p : Program) (hv : valid p = true) (c2 : C2Data) (http : Http)
    (hP : Placed c2 http p) :
    (runR http (compile p).reverse ⟨[], none, none, none⟩).map RSt.toC2 = .ok (normalise p c2) :=
  recover_of_decodes p c2 http fun b hb =>
    let ⟨v, hl, hN⟩ := hP b hb
    ⟨v, hl, decChain_of_encN _ (valid_encsOk p hv b hb) _ _ hN⟩

theorem refDecode_of_placed (p : Program) (hv : valid p = true) (c2 : C2Data) (http : Http)
    (hP : Placed c2 http p) :
    Ref.decode p http ⟨none, none, none⟩ = some (normalise p c2) := by
  obtain ⟨out, h1, hf⟩ := refDecode_placed http (payload c2) p
    (fun b hb => by
      obtain ⟨v, hl, hN⟩ := hP b hb
      exact ⟨v, hl, refDecChain_of_encN _ (valid_encsOk p hv b hb) _ _ hN⟩) ⟨none, none, none⟩
  rw [h1]
  exact congrArg some (eq_normalise p c2 _ fun f => by rw [hf f]; cases f <;> rfl)

theorem decStep_intForm (e : Enc) (v : Bytes) : C04.decStep (intForm e) v = C04.decStep e v := by
  cases e with
  | append a => cases a <;> rfl
  | prepend a => cases a <;> rfl
  | _ => rfl

theorem decChain_intForm (es : List Enc) (v : Bytes) : decChain (es.map intForm) v = decChain es v := by
  induction es generalizing v with
  | nil => rfl
  | cons e es ih => rw [List.map_cons, decChain, decChain, decStep_intForm, funext ih]

/-! ### constructor -/

theorem mk_rsteps (steps : List Step) (rev : Bool) (build : Option (Option Field)) :
    (mkTransform steps rev build).rsteps = (mkTransform steps rev build).tsteps.reverse := by
  cases rev <;> cases build <;> simp [mkTransform]

theorem mk_client (steps : List Step) : (mkTransform steps false none).tsteps = steps := rfl

theorem mk_server (es : List Enc) :
    (mkTransform (serverSteps es) true (some (some .output))).tsteps
      = compile [.block ⟨.output, es.map intForm, .print⟩] := by
  simp [mkTransform, serverSteps, compile, Block.toSteps, List.map_map, Function.comp_def]


/-! ### server side -/

theorem encOk_intForm (e : Enc) : encOk (intForm e) = encOk e := by
  cases e with
  | append a => cases a <;> simp [intForm, encOk, Arg.len]
  | prepend a => cases a <;> simp [intForm, encOk, Arg.len]
  | _ => rfl

theorem valid_server (es : List Enc) (hok : ∀ e ∈ es, encOk e = true) :
    valid [.block ⟨.output, es.map intForm, .print⟩] = true := by
  simp only [valid, places, List.map_nil, List.contains_nil, Bool.not_false, Bool.and_true, List.all_eq_true, List.mem_map]
  rintro e ⟨e', he', rfl⟩
  rw [encOk_intForm]; exact hok e' he'

theorem transform_server_placed (es : List Enc) (hok : ∀ e ∈ es, encOk e = true) (c2 : C2Data) (rand : Rand)
    (req : Option Req) :
    ∃ r, transform (mkTransform (serverSteps es) true (some (some .output))) rand c2 req = .ok r ∧
      Placed c2 (.response r.headers r.body) [.block ⟨.output, es.map intForm, .print⟩] := by
  obtain ⟨s', h1, hP⟩ := transform_placed c2 (req.getD emptyReq) _ (valid_server es hok)
    (TSt.init (req.getD emptyReq) rand) (fun h => by simp [usesUri, places, Item.place] at h)
  refine ⟨s'.toReq (req.getD emptyReq), by simp only [transform, mk_server, h1, Except.map], ?_⟩
  intro b hb
  obtain rfl : b = ⟨.output, es.map intForm, .print⟩ := by simpa using hb
  exact hP _ hb

end C04

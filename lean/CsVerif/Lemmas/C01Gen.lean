import CsVerif.Model.C01Gen
import CsVerif.Lemmas.C01
import CsVerif.Lemmas.C15Gen
import CsVerif.Props.C09Gen
import CsVerif.Props.C02Gen
/-! Lemmas for Props/C01Gen.lean.  `EncOps` ties the dispatching file operations of the translated programs (Model/PyU_T01.lean) to the
model's `FileLike` objects (file, and XorEncoded view through the methods translated from xordecode.py); the translated first-yield forms
then compute `needleFirst / findFirst`, which are what a consumer that never resumes the generator sees of the model's traces; `phases`
reads `iter_beacon_config_blocks` and its specialisation for the residual keys as one run with two continuations. -/
namespace C01Gen
open PyU C01 C09Gen Gen.Extract
open C15Gen hiding pure_ok throw_err add_int sub_int iadd_int eq_int lt_int gt_int len_bytes add_bytes truthy_bytes
-- one `simp only` set per proof serves all branches of its case splits

/-- the file operations of the translated programs on the encoding of a model object -/
structure EncOps {σ : Type} (F : FileLike σ) (abs : σ → PyFile → Prop) (enc : σ → V) (K : Nat) : Prop where
  read : ∀ s pf (n : Nat) (fuel : Nat), abs s pf → K ≤ fuel →
    t01Read fuel (enc s) (.int (n : Int)) = (F.read s n).map (fun r => (V.bytes r.1, enc r.2))
  seek : ∀ s pf (t : Int), abs s pf →
    match F.seek s t with
    | .error e => t01Seek (enc s) (.int t) = .error e
    | .ok s' => ∃ v, t01Seek (enc s) (.int t) = .ok (v, enc s')
  tell : ∀ s pf, abs s pf → t01Tell (enc s) = .ok (.int (F.tell s), enc s)

theorem isView_file (f : PyFile) : t01IsView (encFile f) = false := by rfl

theorem isView_xor (x : C09.XorFile) : t01IsView (encXor x) = true := by
  simp [t01IsView, encXor]

theorem encOps_raw : EncOps rawFile (fun s pf => s = pf) encFile 0 where
  read := by
    intro s pf n fuel _ _
    simp only [t01Read, isView_file, Bool.false_eq_true, ↓reduceIte, fileRead_nat, rawFile, Except.map]
  seek := by
    intro s pf t _
    simp only [t01Seek, isView_file, Bool.false_eq_true, ↓reduceIte, fileSeek_set, rawFile]
    cases h : s.seekSet t with
    | error e => simp [Except.map]
    | ok r => simp only [Except.map]; exact ⟨_, rfl⟩
  tell := by
    intro s pf _
    simp only [t01Tell, isView_file, Bool.false_eq_true, ↓reduceIte, fileTell_enc, rawFile, PyFile.tell]

theorem encOps_xor (stub nonce size enc : Bytes) :
    EncOps xorView (fun x pf => C09.Abs stub nonce size enc x pf) encXor (stub.length + 8 + enc.length + 1) where
  read := by
    intro x pf n fuel hA hf
    have hd : x.fh.data.length + 1 ≤ fuel := by
      rw [hA.layout.data]; simp only [List.length_append, hA.layout.nlen, hA.layout.slen]; omega
    simp only [t01Read, isView_xor, ↓reduceIte]
    have := gen_read x (some (n : Int)) fuel hd
    simp only [encOptInt] at this
    rw [this]
    simp only [xorView]
    cases C09.read x (some (n : Int)) with
    | error e => rfl
    | ok r => rfl
  seek := by
    intro x pf t hA
    simp only [t01Seek, isView_xor, ↓reduceIte, gen_seek_default, xorView]
    cases C09.seek x t 0 with
    | error e => rfl
    | ok r => exact ⟨_, rfl⟩
  tell := by
    intro x pf hA
    simp only [t01Tell, isView_xor, ↓reduceIte, gen_tell, xorView]
    rfl

theorem loop2_first (B : V) (d needle saved : Bytes) (pos : Int) (fuel : Nat) (hf : 1 ≤ fuel) :
    whileFuel fuel (Gen.PyExtract.iter_find_needle__first_loop2 B (.bytes needle) (.int 0) (.bytes saved) (.int pos) (.bytes d))
        (.none, .int (-1))
      = .ok (match C15.bytesFind? d needle 0 with
             | some q => (.tuple [.int (pos + (q : Int) - (saved.length : Int))], .int (q : Int))
             | none => (.none, .int (-1))) := by
  obtain ⟨fu, rfl⟩ : ∃ fu, fuel = fu + 1 := ⟨fuel - 1, by omega⟩
  have h0 : PyU.add (V.int (-1)) (V.int 1) = .ok (.int ((0 : Nat) : Int)) := rfl
  simp only [whileFuel, Gen.PyExtract.iter_find_needle__first_loop2, h0, find_bytes, PyU.ok_bind]
  cases h : C15.bytesFind? d needle 0 with
  | none => simp [PyU.eq, pure_ok]
  | some q =>
    simp only [nat_ne_neg1, PyU.eq, truthy, add_int, len_bytes, sub_int, PyU.ok_bind, pure_ok]
    simp

theorem needleFirst_unfold {σ} (F : FileLike σ) (B : Nat) (needle : Bytes) (s : σ) (saved : Bytes) :
    needleFirst F B needle s saved =
      match F.read s B with
      | .error e => .error e
      | .ok (block, s1) =>
        if block = [] then .ok (none, s1)
        else
          match C15.bytesFind? (saved ++ block) needle 0 with
          | some p => .ok (some (F.tell s + (p : Int) - (saved.length : Int)), s1)
          | none =>
            if F.remaining s1 < F.remaining s then needleFirst F B needle s1 (C15.nextSaved needle (saved ++ block))
            else .error .timeoutDiverge := by
  rw [needleFirst]
  cases F.read s B with
  | error e => rfl
  | ok r =>
    obtain ⟨block, s1⟩ := r
    simp only
    split
    · rfl
    · cases C15.bytesFind? (saved ++ block) needle 0 with
      | some p => rfl
      | none => simp only [dite_eq_ite]

theorem gen_needle_loop {σ} {F : FileLike σ} {abs : σ → PyFile → Prop} {enc : σ → V} {K : Nat} (hS : Sim F abs) (hE : EncOps F abs enc K)
    (B : Nat) (needle : Bytes) (fuel0 : Nat) (hK : K ≤ fuel0) (h1 : 1 ≤ fuel0) :
    ∀ (n : Nat) (s : σ) (pf : PyFile) (saved : Bytes) (fuel : Nat), pf.data.length - pf.pos = n → abs s pf → saved.length ≤ pf.pos →
      n < fuel →
      ∃ r sv pf', needleFirst F B needle s saved = .ok r ∧
        whileFuel fuel (Gen.PyExtract.iter_find_needle__first_loop1 (.int (B : Int)) fuel0 (.bytes needle) (.int 0)
            (.int ((needle.length : Int) - 1))) (enc s, .none, .bytes saved)
          = .ok (enc r.2, encRet V.int r.1, sv) ∧
        abs r.2 pf' ∧ pf'.data = pf.data ∧ (∀ off, r.1 = some off → 0 ≤ off) := by
  intro n
  induction n using Nat.strongRecOn with
  | _ n ih =>
    intro s pf saved fuel hn ha hsv hf
    obtain ⟨fu, rfl⟩ : ∃ fu, fuel = fu + 1 := ⟨fuel - 1, by omega⟩
    obtain ⟨s1, hr, a1⟩ := hS.read s pf B ha
    have hrd := hE.read s pf B fuel0 ha hK
    rw [hr] at hrd
    have htl := hE.tell s pf ha
    rw [hS.tell s pf ha] at htl
    rw [needleFirst_unfold, hr]
    simp only [whileFuel, Gen.PyExtract.iter_find_needle__first_loop1, htl, hrd, Except.map, PyU.ok_bind, truthy,
      add_bytes, bne_self_eq_false, Bool.false_eq_true, ↓reduceIte, pure_ok]
    by_cases hb : (pf.read (B : Int)).1 = []
    · refine ⟨(none, s1), .bytes saved, _, ?_, ?_, a1, PyFile.read_data pf B, fun off h => by cases h⟩
      · simp only [hb, ↓reduceIte]
      · simp [hb, encRet]
    · have hbe : (pf.read (B : Int)).1.isEmpty = false := by
        cases hc : (pf.read (B : Int)).1 with
        | nil => exact absurd hc hb
        | cons _ _ => rfl
      simp only [hb, ↓reduceIte, hbe, Bool.not_false, Bool.not_true, Bool.false_eq_true, loop2_first _ _ _ _ _ fuel0 h1, PyU.ok_bind]
      cases hq : C15.bytesFind? (saved ++ (pf.read (B : Int)).1) needle 0 with
      | some q =>
        refine ⟨(some ((pf.pos : Int) + (q : Int) - (saved.length : Int)), s1), .bytes saved, _, ?_, ?_, a1, PyFile.read_data pf B, ?_⟩
        · rw [hS.tell s pf ha]
        · simp [isNone, encRet]
        · intro off h
          simp only [Option.some.injEq] at h
          omega
      | none =>
        have hprog := C15.read_progress pf B hb
        have hrem : F.remaining s1 < F.remaining s := by
          rw [hS.remaining s pf ha, hS.remaining s1 _ a1]; exact hprog
        have hpos : (pf.read (B : Int)).2.pos = pf.pos + (pf.read (B : Int)).1.length := PyFile.read_pos pf B
        have hdata : (pf.read (B : Int)).2.data = pf.data := PyFile.read_data pf B
        have hns := nextSaved_length_le needle (saved ++ (pf.read (B : Int)).1)
        obtain ⟨r, sv, pf', e1, e2, a', hd', hoff⟩ := ih _ (by rw [← hn]; exact hprog) s1 _ (C15.nextSaved needle (saved ++ (pf.read (B : Int)).1)) fu rfl a1
          (by rw [hpos]; simp only [List.length_append] at hns; omega) (by rw [hdata, hpos]; rw [hdata, hpos] at hprog; omega)
        refine ⟨r, sv, pf', ?_, ?_, a', hd'.trans hdata, hoff⟩
        · simp only [hrem, ↓reduceIte, e1]
        · simp only [isNone, Bool.not_true, Bool.false_eq_true, ↓reduceIte, gt_int, PyU.ok_bind, ↓nextSaved_then]
          exact e2

theorem findLoop_head (d needle : Bytes) :
    C15.findLoop d needle 0 0 0 0 =
      match C15.bytesFind? d needle 0 with
      | none => []
      | some p => (((0 : Nat) : Int) + (p : Int) - ((0 : Nat) : Int)) :: C15.findLoop d needle 0 0 0 (p + 1) := by
  rw [C15.findLoop]
  split
  · rename_i h; rw [h]
  · rename_i p h; rw [h]; simp only [ne_eq, not_true_eq_false, false_and, ↓reduceIte]

/-- for EVERY file-like object (no `Sim` assumption): the harness assumption about generators consumed up to the first yield -/
theorem scanLoop_first {σ} (F : FileLike σ) (B : Nat) (needle key : Bytes) :
    ∀ (n : Nat) (s : σ) (saved : Bytes), F.remaining s = n →
      match needleFirst F B needle s saved with
      | .error e => scanLoop F B needle key s saved = ⟨[], .error e⟩
      | .ok (none, s1) => scanLoop F B needle key s saved = ⟨[], .ok s1⟩
      | .ok (some off, s1) =>
        match F.seek s1 off with
        | .error e => scanLoop F B needle key s saved = ⟨[], .error e⟩
        | .ok s2 =>
          match F.read s2 patchSize with
          | .error e => scanLoop F B needle key s saved = ⟨[], .error e⟩
          | .ok (data, _) => ∃ ys fin, scanLoop F B needle key s saved = ⟨C20.xor data key :: ys, fin⟩ := by
  intro n
  induction n using Nat.strongRecOn with
  | _ n ih =>
    intro s saved hn
    rw [scanLoop_unfold, needleFirst_unfold]
    cases hr : F.read s B with
    | error e => rfl
    | ok r =>
      obtain ⟨block, s1⟩ := r
      simp only
      by_cases hb : block = []
      · simp only [hb, ↓reduceIte]
      · simp only [hb, ↓reduceIte]
        rw [findLoop_head]
        cases hq : C15.bytesFind? (saved ++ block) needle 0 with
        | none =>
          simp only [consume, List.nil_append]
          by_cases hrem : F.remaining s1 < F.remaining s
          · simp only [hrem, ↓reduceIte]
            exact ih _ (by rw [← hn]; exact hrem) s1 (C15.nextSaved needle (saved ++ block)) rfl
          · simp only [hrem, ↓reduceIte]
        | some p =>
          simp only [consume]
          have hoff : F.tell s - (saved.length : Int) + (((0 : Nat) : Int) + (p : Int) - ((0 : Nat) : Int))
              = F.tell s + (p : Int) - (saved.length : Int) := by omega
          rw [hoff]
          cases F.seek s1 (F.tell s + (p : Int) - (saved.length : Int)) with
          | error e => rfl
          | ok s2 =>
            simp only
            cases F.read s2 patchSize with
            | error e => rfl
            | ok r2 =>
              obtain ⟨data, s3⟩ := r2
              simp only
              generalize consume F key (F.tell s - (saved.length : Int)) _ s3 = rr
              cases rr.fin with
              | error e => exact ⟨_, _, rfl⟩
              | ok s4 =>
                simp only
                split <;> exact ⟨_, _, rfl⟩

theorem findConfigBytes_first {σ} (F : FileLike σ) (B : Nat) (s : σ) (key : Bytes) :
    match findFirst F B s key with
    | .error e => findConfigBytes F B s key = ⟨[], .error e⟩
    | .ok (none, s1) => findConfigBytes F B s key = ⟨[], .ok s1⟩
    | .ok (some b, _) => ∃ ys fin, findConfigBytes F B s key = ⟨b :: ys, fin⟩ := by
  simp only [findConfigBytes, findFirst, iterNeedleFirst]
  have h00 : ((0 : Nat) : Int) = 0 := rfl
  rw [h00]
  cases F.seek s 0 with
  | error e => rfl
  | ok s0 =>
    simp only
    have h := scanLoop_first F B (C20.xor configHeader key) key _ s0 [] rfl
    cases hn : needleFirst F B (C20.xor configHeader key) s0 [] with
    | error e => rw [hn] at h; exact h
    | ok r =>
      obtain ⟨o, s1⟩ := r
      rw [hn] at h
      cases o with
      | none => exact h
      | some off =>
        simp only at h ⊢
        cases hk : F.seek s1 off with
        | error e => rw [hk] at h; exact h
        | ok s2 =>
          rw [hk] at h
          simp only at h ⊢
          cases hr : F.read s2 patchSize with
          | error e => rw [hr] at h; exact h
          | ok r2 => rw [hr] at h; exact h

theorem unpack2_tuple (a b : V) : PyU.unpack2 (.tuple [a, b]) = .ok (a, b) := rfl

theorem gen_iter_find_needle_first_aux {σ} {F : FileLike σ} {abs : σ → PyFile → Prop} {enc : σ → V} {K : Nat} (hS : Sim F abs)
    (hE : EncOps F abs enc K) (B : Nat) (s : σ) (pf : PyFile) (ha : abs s pf) (needle : Bytes) (start : Option Nat) (fuel : Nat)
    (hf : K + pf.data.length + 3 ≤ fuel) :
    ∃ r pf', iterNeedleFirst F B s needle start = .ok r ∧
      Gen.PyExtract.iter_find_needle__first (.int (B : Int)) fuel (enc s) (.bytes needle) (encOptNat start) (.int 0)
        = .ok (encFirst V.int enc r) ∧
      abs r.2 pf' ∧ pf'.data = pf.data ∧ (∀ off, r.1 = some off → 0 ≤ off) := by
  unfold Gen.PyExtract.iter_find_needle__first iterNeedleFirst
  cases start with
  | none =>
    obtain ⟨r, sv, pf', e1, e2, a', hd', hoff⟩ := gen_needle_loop hS hE B needle fuel (by omega) (by omega) _ s pf [] fuel rfl ha
      (by simp) (by omega)
    refine ⟨r, pf', e1, ?_, a', hd', hoff⟩
    simp only [encOptNat, isNone, len_bytes, sub_int, PyU.ok_bind, Bool.not_true, Bool.false_eq_true, ↓reduceIte, e2, pure_ok, encFirst]
  | some t =>
    obtain ⟨s0, h0, a0⟩ := hS.seek s pf t ha
    have hsk := hE.seek s pf (t : Int) ha
    rw [h0] at hsk
    obtain ⟨v, hv⟩ := hsk
    obtain ⟨r, sv, pf', e1, e2, a', hd', hoff⟩ := gen_needle_loop hS hE B needle fuel (by omega) (by omega) _ s0 _ [] fuel rfl a0
      (by simp) (by simp only; omega)
    refine ⟨r, pf', ?_, ?_, a', hd', hoff⟩
    · simp only [h0, e1]
    · simp only [encOptNat, isNone, len_bytes, sub_int, PyU.ok_bind, Bool.not_false, ↓reduceIte, hv, e2, pure_ok, encFirst]

theorem xor_bytes (d k : Bytes) : Gen.PyExtract.xor (.bytes d) (.bytes k) = .ok (.bytes (C20.xor d k)) := by
  simp only [Gen.PyExtract.xor, liftXor, C20Gen.gen_xor, Except.map]

theorem gen_find_first_aux {σ} {F : FileLike σ} {abs : σ → PyFile → Prop} {enc : σ → V} {K : Nat} (hS : Sim F abs)
    (hE : EncOps F abs enc K) (B : Nat) (s : σ) (pf : PyFile) (ha : abs s pf) (key : Bytes) (fuel : Nat)
    (hf : K + pf.data.length + 3 ≤ fuel) :
    ∃ r pf', findFirst F B s key = .ok r ∧
      Gen.PyExtract.find_beacon_config_bytes__first (.int (B : Int)) fuel (enc s) (.bytes key) = .ok (encFirst V.bytes enc r) ∧
      abs r.2 pf' ∧ pf'.data = pf.data := by
  obtain ⟨r, pf1, e1, e2, a1, hd1, hoff⟩ := gen_iter_find_needle_first_aux hS hE B s pf ha (C20.xor configHeader key) (some 0) fuel hf
  have hc : (V.bytes [0, 1, 0, 1, 0, 2, 0]) = V.bytes configHeader := rfl
  have hp : (V.int 4096) = V.int ((patchSize : Nat) : Int) := rfl
  simp only [encOptNat] at e2
  have h00 : (V.int ((0 : Nat) : Int)) = V.int 0 := rfl
  rw [h00] at e2
  unfold Gen.PyExtract.find_beacon_config_bytes__first findFirst
  simp only [hc, hp, xor_bytes, PyU.ok_bind, e2, e1, encFirst, unpack2_tuple]
  obtain ⟨o, s1⟩ := r
  cases o with
  | none =>
    refine ⟨(none, s1), pf1, rfl, ?_, a1, hd1⟩
    simp [encRet, isNone, pure_ok]
  | some off =>
    have hnn := hoff off rfl
    obtain ⟨t, rfl⟩ : ∃ t : Nat, off = (t : Int) := ⟨off.toNat, by omega⟩
    obtain ⟨s2, h2, a2⟩ := hS.seek s1 pf1 t a1
    have hsk := hE.seek s1 pf1 (t : Int) a1
    rw [h2] at hsk
    obtain ⟨v, hv⟩ := hsk
    obtain ⟨s3, h3, a3⟩ := hS.read s2 _ patchSize a2
    have hrd := hE.read s2 _ patchSize fuel a2 (by omega)
    rw [h3] at hrd
    refine ⟨(some (C20.xor (({ pf1 with pos := t } : PyFile).read (patchSize : Int)).1 key), s3), _, ?_, ?_, a3, ?_⟩
    · simp only [h2, h3]
    · have hgi : PyU.getItem (V.tuple [V.int (t : Int)]) (V.int 0) = .ok (V.int (t : Int)) := by
        simp [getItem, asInt, PyRt.normIdx, Except.map]
      simp only [encRet, isNone, Bool.not_false, ↓reduceIte, hgi, PyU.ok_bind, hv, hrd, Except.map, t01Hex, fmtS, fmt, xor_bytes, pure_ok]
      rfl
    · simp only [PyFile.read_data]; exact hd1


theorem loop2_same (xff : V → Py V) (b : V) (lk : V → V → Py V) (fuel : Nat) :
    Gen.PyExtract.iter_beacon_config_blocks__first_loop2 xff b lk fuel = Gen.PyExtract.iter_beacon_config_blocks_nr__first_loop2 xff b fuel := rfl
theorem loop1_same (xff : V → Py V) (b : V) (lk : V → V → Py V) (fuel : Nat) :
    Gen.PyExtract.iter_beacon_config_blocks__first_loop1 xff b lk fuel = Gen.PyExtract.iter_beacon_config_blocks_nr__first_loop1 xff b fuel := rfl

theorem firstOf_overKeys {σ} (F : FileLike σ) (B : Nat) (enc : Bool) :
    ∀ (keys : List Bytes) (s : σ), firstOf (overKeys F B enc keys s) = (overKeysFirst F B enc keys s).map (·.1) := by
  intro keys
  induction keys with
  | nil => intro s; rfl
  | cons k ks ih =>
    intro s
    have h := findConfigBytes_first F B s k
    simp only [overKeys, overKeysFirst]
    cases hf : findFirst F B s k with
    | error e => rw [hf] at h; rw [h]; rfl
    | ok r =>
      obtain ⟨o, s'⟩ := r
      rw [hf] at h
      cases o with
      | none =>
        rw [h]
        simp only [List.map_nil, List.nil_append]
        exact ih s'
      | some b =>
        obtain ⟨ys, fin, h⟩ := h
        rw [h]
        cases fin <;> rfl

theorem mkDict_res (k : Bytes) (b : Bool) :
    PyU.mkDict [((PyU.lit "xorkey"), V.bytes k), ((PyU.lit "xorencoded"), (V.bool b))]
      = .ok (.dict [PyU.lit "xorkey", PyU.lit "xorencoded"] [.bytes k, .bool b]) := by rfl


/-- the key loop of phase 2 (the file itself) -/
theorem gen_keys_loop_raw (xff : V → Py V) (B : Nat) (fuel : Nat) :
    ∀ (keys : List Bytes) (f : PyFile), f.data.length + 3 ≤ fuel →
      ∃ r, overKeysFirst rawFile B false keys f = .ok r ∧ r.2.data = f.data ∧
        forList (keys.map V.bytes) (Gen.PyExtract.iter_beacon_config_blocks_nr__first_loop2 xff (.int (B : Int)) fuel)
            (encFile f, V.none, V.bool false)
          = .ok (encFile r.2, encRet encResult r.1, V.bool r.1.isSome) := by
  intro keys
  induction keys with
  | nil => intro f _; exact ⟨(none, f), rfl, rfl, rfl⟩
  | cons k ks ih =>
    intro f hf
    obtain ⟨r, pf', e1, e2, a', hd'⟩ := gen_find_first_aux sim_raw encOps_raw B f f rfl k fuel (by omega)
    obtain ⟨o, f1⟩ := r
    simp only at a' hd' e2
    subst a'
    simp only [List.map_cons, forList, Gen.PyExtract.iter_beacon_config_blocks_nr__first_loop2, e2, PyU.ok_bind, encFirst, unpack2_tuple,
      overKeysFirst, e1]
    cases o with
    | none =>
      obtain ⟨r2, g1, g2, g3⟩ := ih f1 (by rw [hd']; exact hf)
      refine ⟨r2, g1, g2.trans hd', ?_⟩
      simp only [encRet, isNone, Bool.not_true, Bool.false_eq_true, ↓reduceIte, pure_ok, g3]
    | some b =>
      refine ⟨(some ⟨b, k, false⟩, f1), rfl, hd', ?_⟩
      simp only [encRet, isNone, Bool.not_false, ↓reduceIte, getItem_tuple_zero, PyU.ok_bind, mkDict_res, pure_ok, encResult, Option.isSome]

theorem attach_detach (x : C09.XorFile) : t01Attach (t01Detach (encXor x)) (encFile x.fh) = .ok (encXor x) := by
  simp [t01Attach, t01Detach, encXor, t01Self]

theorem store_xor (x : C09.XorFile) : t01Store (encXor x) = encFile x.fh := by
  simp [t01Store, encXor]

/-- the key loop of phase 1 (the XorEncoded view, through its handle) -/
theorem gen_keys_loop_xor (stub nonce size enc : Bytes) (xff : V → Py V) (B : Nat) (fuel : Nat) :
    ∀ (keys : List Bytes) (x : C09.XorFile) (pf : PyFile), C09.Abs stub nonce size enc x pf →
      (stub.length + 8 + enc.length + 1) + pf.data.length + 3 ≤ fuel →
      ∃ r pf', overKeysFirst xorView B true keys x = .ok r ∧ C09.Abs stub nonce size enc r.2 pf' ∧ pf'.data = pf.data ∧
        forList (keys.map V.bytes) (Gen.PyExtract.iter_beacon_config_blocks_nr__first_loop1 xff (.int (B : Int)) fuel)
            (encFile x.fh, V.none, V.bool false, t01Detach (encXor x))
          = .ok (encFile r.2.fh, encRet encResult r.1, V.bool r.1.isSome, t01Detach (encXor r.2)) := by
  intro keys
  induction keys with
  | nil => intro x pf hA _; exact ⟨(none, x), pf, rfl, hA, rfl, rfl⟩
  | cons k ks ih =>
    intro x pf hA hf
    obtain ⟨r, pf', e1, e2, a', hd'⟩ := gen_find_first_aux (sim_xor stub nonce size enc) (encOps_xor stub nonce size enc) B x pf hA k fuel hf
    obtain ⟨o, x1⟩ := r
    simp only at a' hd' e2
    simp only [List.map_cons, forList, Gen.PyExtract.iter_beacon_config_blocks_nr__first_loop1, attach_detach, e2, PyU.ok_bind, encFirst,
      unpack2_tuple, store_xor, overKeysFirst, e1]
    cases o with
    | none =>
      obtain ⟨r2, pf2, g1, g2, g3, g4⟩ := ih x1 pf' a' (by rw [hd']; exact hf)
      refine ⟨r2, pf2, g1, g2, g3.trans hd', ?_⟩
      simp only [encRet, isNone, Bool.not_true, Bool.false_eq_true, ↓reduceIte, pure_ok, g4]
    | some b =>
      refine ⟨(some ⟨b, k, true⟩, x1), pf', rfl, a', hd', ?_⟩
      simp only [encRet, isNone, Bool.not_false, ↓reduceIte, getItem_tuple_zero, PyU.ok_bind, mkDict_res, pure_ok, encResult, Option.isSome]

theorem reprL_bytes : ∀ ks : List Bytes, ∃ r, PyU.reprL (ks.map V.bytes) = .ok r := by
  intro ks
  induction ks with
  | nil => exact ⟨[], rfl⟩
  | cons k ks ih =>
    obtain ⟨r, hr⟩ := ih
    simp only [List.map_cons, PyU.reprL, PyU.repr, hr]
    exact ⟨_, rfl⟩

theorem fmtR_keys (ks : List Bytes) : ∃ t, PyU.fmtR (encKeys ks) = .ok t := by
  obtain ⟨r, hr⟩ := reprL_bytes ks
  exact ⟨91 :: r ++ [93], by simp only [fmtR, encKeys, PyU.repr, hr]⟩

theorem fmtS_keys (ks : List Bytes) : ∃ t, PyU.fmtS (encKeys ks) = .ok t := by
  obtain ⟨r, hr⟩ := reprL_bytes ks
  exact ⟨91 :: r ++ [93], by simp only [fmtS, encKeys, PyU.repr, hr]⟩

theorem overKeysFirst_spec {σ} {F : FileLike σ} {abs} (hS : Sim F abs) (B : Nat) (hB : 1 ≤ B) (enc : Bool) (data : Bytes)
    (keys : List Bytes) (s : σ) (pf : PyFile) (ha : abs s pf) (hd : pf.data = data) (r : Option Result × σ)
    (h : overKeysFirst F B enc keys s = .ok r) : r.1 = (candsIn enc data keys).head?.map Cand.result := by
  have h1 := firstOf_overKeys F B enc keys s
  rw [h] at h1
  obtain ⟨h2, h3⟩ := overKeys_spec hS B hB enc data keys s pf ha hd
  generalize overKeys F B enc keys s = t at h1 h2 h3
  obtain ⟨ys, fin⟩ := t
  cases ys with
  | cons y ys' =>
    simp only [firstOf, Except.map, Except.ok.injEq] at h1
    simp only [List.head?_cons] at h2
    rw [← h1, ← h2]
  | nil =>
    obtain ⟨s', hs'⟩ := h3 rfl
    simp only at hs'
    subst hs'
    simp only [firstOf, Except.map, Except.ok.injEq] at h1
    simp only [List.head?_nil] at h2
    rw [← h1, ← h2]

theorem encKeys_default : (V.list [(V.bytes [105]), (V.bytes [46]), (V.bytes [0])]) = encKeys defaultXorKeys := rfl

theorem tc_ok {α : Type} (a : α) (h : PyExc → Py α) : tryCatch (Except.ok a : Py α) h = .ok a := rfl
theorem tc_pure {α : Type} (a : α) (h : PyExc → Py α) : tryCatch (pure a : Py α) h = .ok a := rfl
theorem tc_state {σ : Type} (s : σ) (h : PyExc → Py (Unit × σ)) : tryCatch ((pure () : StateT σ Py Unit) s) h = .ok ((), s) := rfl
theorem truthy_false : truthy (V.bool false) = false := rfl
theorem truthy_bool (b : Bool) : truthy (V.bool b) = b := rfl

theorem attach_self (g : PyFile) : t01Attach t01Self (encFile g) = .ok (encFile g) := by rfl
theorem store_file (g : PyFile) : t01Store (encFile g) = encFile g := by rfl
theorem isNone_none : isNone V.none = true := rfl
theorem isNone_tuple (l : List V) : isNone (V.tuple l) = false := rfl
theorem iterList_keys (ks : List Bytes) : iterList (encKeys ks) = .ok (ks.map V.bytes) := rfl
theorem isNone_detach (x : C09.XorFile) : isNone (t01Detach (encXor x)) = false := rfl

/-- the detector's answer, attached as `from_file` and the retry do: the view, or the file itself -/
theorem xff_fileLike (data : Bytes) (det : Option Nat) (hdet : ∀ c, det = some c → c + 8 ≤ data.length) (xff : V → Py V)
    (hx : XffSpec xff data det) (g : PyFile) (hg : g.data = data) :
    ∃ w a v0, xff (encFile g) = .ok (.tuple [w, a]) ∧ t01Attach (if isNone w then t01Self else w) a = .ok v0 ∧
      IsFileLike data v0 := by
  have hxs := hx g hg
  cases det with
  | none =>
    obtain ⟨g', hg', hd'⟩ := hxs
    exact ⟨.none, encFile g', encFile g', hg', attach_self g', Or.inl ⟨g', rfl, hd'⟩⟩
  | some n =>
    obtain ⟨x, hov, hxx⟩ := hxs
    obtain ⟨x', hx', hA⟩ := openView_spec g n (by rw [hg]; exact hdet n rfl)
    rw [hov] at hx'
    injection hx' with hx'
    subst hx'
    have hxd : x.fh.data = data := by
      rw [hA.layout.data, ← hg]
      exact (split_at_nonce g.data n (by rw [hg]; exact hdet n rfl)).1.symm
    exact ⟨t01Detach (encXor x), encFile x.fh, encXor x, hxx, attach_detach x, Or.inr ⟨x, rfl, hxd⟩⟩

theorem leftSpec_fileLike {lk : V → V → Py V} {data : Bytes} {keys left : List Bytes} (hl : LeftSpec lk data keys left) {v : V}
    (hv : IsFileLike data v) : ∃ v', lk v (encKeys keys) = .ok (.tuple [encKeys left, v']) ∧ IsFileLike data v' := by
  rcases hv with ⟨g, rfl, hg⟩ | ⟨x, rfl, hx⟩
  · obtain ⟨g', h1, h2⟩ := hl.1 g hg
    exact ⟨_, h1, Or.inl ⟨g', rfl, h2⟩⟩
  · obtain ⟨x', h1, h2⟩ := hl.2 x hx
    exact ⟨_, h1, Or.inr ⟨x', rfl, h2⟩⟩

theorem store_fileLike {data : Bytes} {v : V} (hv : IsFileLike data v) : ∃ g : PyFile, t01Store v = encFile g ∧ g.data = data := by
  rcases hv with ⟨g, rfl, hg⟩ | ⟨x, rfl, hx⟩
  · exact ⟨g, store_file g, hg⟩
  · exact ⟨x.fh, store_xor x, hx⟩

/-! ### the two phases, in continuation-passing form

`iter_beacon_config_blocks__first` and `…_nr__first` run the same two phases and differ in what follows: `phases` is the common part with
the rest of the function as continuations (`k1` after phase 2, `k0` when phase 1 has yielded). -/

def phases (xff : V → Py V) (b : V) (fuel : Nat) (keys : V) (k1 k0 : V → V → V → Py V) (fobj : V) : Py V :=
  let phase2 : V → V → V → Py V := fun fobj ret0 found =>
    if isNone ret0 then
      if !truthy found then do
        let t13 ← iterList keys
        let t19 ← forList t13 (Gen.PyExtract.iter_beacon_config_blocks_nr__first_loop2 xff b fuel) (fobj, ret0, found)
        k1 t19.1 t19.2.1 t19.2.2
      else k1 fobj ret0 found
    else k0 fobj ret0 found
  do
    let t3 ← xff fobj
    let t4 ← unpack2 t3
    if isNone t4.1 then phase2 t4.2 V.none (V.bool false)
    else do
      let p ← tryCatch
        (do
          let t5 ← iterList keys
          let t12 ← forList t5 (Gen.PyExtract.iter_beacon_config_blocks_nr__first_loop1 xff b fuel) (t4.2, V.none, V.bool false, t4.1)
          (pure () : StateT (V × V × V × V) Py Unit) (t12.1, t12.2.1, t12.2.2.1, t12.2.2.2))
        (fun exc0 =>
          if exc0 = PyExc.valueError then do
            let r ← (throw PyExc.timeoutDiverge : Py Unit)
            (pure r : StateT (V × V × V × V) Py Unit) (t4.2, V.none, V.bool false, t4.1)
          else do
            let r ← (throw exc0 : Py Unit)
            (pure r : StateT (V × V × V × V) Py Unit) (t4.2, V.none, V.bool false, t4.1))
      phase2 p.2.1 p.2.2.1 p.2.2.2.1

/-- the all-keys retry of `iter_beacon_config_blocks__first`, as the continuation of the two phases -/
def retryK (xff : V → Py V) (b : V) (lk : V → V → Py V) (fuel : Nat) (keys ak : V) (fobj ret0 found : V) : Py V :=
  if isNone ret0 then
    if (!truthy found && truthy ak) then do
      let t20 ← xff fobj
      let t21 ← unpack2 t20
      let rest : V → Py V := fun fxor => do
        let t22 ← t01Attach fxor t21.2
        let t23 ← lk t22 keys
        let t24 ← unpack2 t23
        let _ ← fmtS t24.1
        let t26 ← Gen.PyExtract.iter_beacon_config_blocks_nr__first xff b fuel (t01Store t24.2) t24.1
        let t27 ← unpack2 t26
        if !isNone t27.1 then do
          let t28 ← getItem t27.1 (V.int 0)
          pure (V.tuple [V.tuple [t28], t27.2])
        else pure (V.tuple [ret0, t27.2])
      if isNone t21.1 then rest t01Self else rest t21.1
    else pure (V.tuple [ret0, fobj])
  else pure (V.tuple [ret0, fobj])

/-- `xor_keys or DEFAULT_XOR_KEYS` on the encoding of a key-list argument -/
theorem keys_norm (ks : Option (List Bytes)) :
    (if (!truthy (encKeysOpt ks)) = true then V.list [V.bytes [105], V.bytes [46], V.bytes [0]] else encKeysOpt ks)
      = encKeys (effKeysOpt ks) := by
  cases ks with
  | none => rfl
  | some l => cases l <;> rfl

theorem nr_eq_phases (xff : V → Py V) (b : V) (fuel : Nat) (fobj keys : V) :
    Gen.PyExtract.iter_beacon_config_blocks_nr__first xff b fuel fobj keys =
      (do let _ ← fmtR (if (!truthy keys) = true then V.list [V.bytes [105], V.bytes [46], V.bytes [0]] else keys)
          phases xff b fuel (if (!truthy keys) = true then V.list [V.bytes [105], V.bytes [46], V.bytes [0]] else keys)
            (fun fobj ret0 _ => pure (V.tuple [ret0, fobj])) (fun fobj ret0 _ => pure (V.tuple [ret0, fobj])) fobj) := by
  unfold Gen.PyExtract.iter_beacon_config_blocks_nr__first
  by_cases h : (!truthy keys) = true
  · simp only [h, ↓reduceIte]; rfl
  · simp only [h]; rfl

theorem blocks_eq_phases (xff : V → Py V) (b : V) (lk : V → V → Py V) (fuel : Nat) (fobj keys ak : V) :
    Gen.PyExtract.iter_beacon_config_blocks__first xff b lk fuel fobj keys ak =
      (do let _ ← fmtR (if (!truthy keys) = true then V.list [V.bytes [105], V.bytes [46], V.bytes [0]] else keys)
          phases xff b fuel (if (!truthy keys) = true then V.list [V.bytes [105], V.bytes [46], V.bytes [0]] else keys)
            (retryK xff b lk fuel (if (!truthy keys) = true then V.list [V.bytes [105], V.bytes [46], V.bytes [0]] else keys) ak)
            (fun fobj ret0 _ => pure (V.tuple [ret0, fobj])) fobj) := by
  unfold Gen.PyExtract.iter_beacon_config_blocks__first
  by_cases h : (!truthy keys) = true
  · simp only [h, ↓reduceIte]; rfl
  · simp only [h]; rfl

/-- `hk`: once something is found the two continuations agree (both translated functions then return it) -/
theorem gen_phases (B : Nat) (hB : 1 ≤ B) (data : Bytes) (f : PyFile) (hfd : f.data = data) (keys : List Bytes) (det : Option Nat)
    (hdet : ∀ c, det = some c → c + 8 ≤ data.length) (xff : V → Py V) (hx : XffSpec xff data det) (fuel : Nat)
    (hf : 2 * data.length + 4 ≤ fuel) (k1 k0 : V → V → V → Py V)
    (hk : ∀ fobj y, k0 fobj (.tuple [y]) (.bool true) = k1 fobj (.tuple [y]) (.bool true)) :
    ∃ g : PyFile, g.data = data ∧
      phases xff (.int (B : Int)) fuel (encKeys keys) k1 k0 (encFile f)
        = k1 (encFile g) (encSpec data det keys) (V.bool ((candidates (views data det) keys).head?.map Cand.result).isSome) := by
  unfold phases encSpec
  rw [candidates_views]
  have hxs := hx f hfd
  cases det with
  | none =>
    obtain ⟨g', hg', hd'⟩ := hxs
    obtain ⟨r, e1, e2, e3⟩ := gen_keys_loop_raw xff B fuel keys g' (by rw [hd']; omega)
    have hr := overKeysFirst_spec sim_raw B hB false data keys g' g' rfl hd' r e1
    refine ⟨r.2, e2.trans hd', ?_⟩
    simp only [hg', encDetect, PyU.ok_bind, unpack2_tuple, isNone_none, ↓reduceIte, truthy_false, Bool.not_false, iterList_keys,
      e3, List.nil_append, hr]
  | some c =>
    obtain ⟨x, hov, hxx⟩ := hxs
    obtain ⟨x', hx', hA⟩ := openView_spec f c (by rw [hfd]; exact hdet c rfl)
    rw [hov] at hx'
    injection hx' with hx'
    subst hx'
    have hlen : (f.data.take c).length + 8 + (f.data.drop (c + 8)).length + 1 + (decodedView f.data c).length + 3 ≤ fuel := by
      have := decodedView_length_le f.data c
      have h8 := hdet c rfl
      rw [← hfd] at h8 hf
      simp only [List.length_take, List.length_drop]
      omega
    obtain ⟨r, pf', e1, a', hd', e4⟩ := gen_keys_loop_xor _ _ _ _ xff B fuel keys x _ hA hlen
    have hr := overKeysFirst_spec (sim_xor _ _ _ _) B hB true (decodedView data c) keys x _ hA (by rw [hfd]) r e1
    have hrd : r.2.fh.data = data := by
      rw [a'.layout.data, ← hfd]
      exact (split_at_nonce f.data c (by rw [hfd]; exact hdet c rfl)).1.symm
    simp only [hxx, encDetect, PyU.ok_bind, unpack2_tuple, iterList_keys, e4, isNone_detach, Bool.false_eq_true, ↓reduceIte,
      tc_state, truthy_bool]
    cases hA1 : candsIn true (decodedView data c) keys with
    | cons a as =>
      -- phase 1 yields: the candidates of the file itself are not looked at
      rw [hA1] at hr
      refine ⟨r.2.fh, hrd, ?_⟩
      simp only [hr, List.cons_append, List.head?_cons, Option.map_some, encRet, isNone_tuple, Bool.false_eq_true, ↓reduceIte,
        Option.isSome_some]
      exact hk _ _
    | nil =>
      rw [hA1] at hr
      obtain ⟨r2, f1, f2, f3⟩ := gen_keys_loop_raw xff B fuel keys r.2.fh (by rw [hrd]; omega)
      have hr2 := overKeysFirst_spec sim_raw B hB false data keys r.2.fh r.2.fh rfl hrd r2 f1
      refine ⟨r2.2, f2.trans hrd, ?_⟩
      simp only [hr, List.head?_nil, Option.map_none, encRet, isNone_none, ↓reduceIte, Option.isSome_none,
        Bool.not_false, f3, PyU.ok_bind, List.nil_append, hr2]

theorem gen_blocks_nr_aux (B : Nat) (hB : 1 ≤ B) (data : Bytes) (f : PyFile) (hfd : f.data = data) (ks : Option (List Bytes)) (det : Option Nat)
    (hdet : ∀ c, det = some c → c + 8 ≤ data.length) (xff : V → Py V) (hx : XffSpec xff data det) (fuel : Nat)
    (hf : 2 * data.length + 4 ≤ fuel) :
    ∃ g : PyFile, g.data = data ∧
      Gen.PyExtract.iter_beacon_config_blocks_nr__first xff (.int (B : Int)) fuel (encFile f) (encKeysOpt ks)
        = .ok (.tuple [encSpec data det (effKeysOpt ks), encFile g]) := by
  obtain ⟨t, ht⟩ := fmtR_keys (effKeysOpt ks)
  rw [nr_eq_phases, keys_norm, ht, PyU.ok_bind]
  exact gen_phases B hB data f hfd (effKeysOpt ks) det hdet xff hx fuel hf _ _ (fun _ _ => rfl)

theorem searchSpec_some (data : Bytes) (ks : List Bytes) (ak : Bool) (det : Option Nat) (left : List Bytes) (c : Cand)
    (h : (candidates (views data det) (effKeys ks)).head? = some c) : searchSpec data ks ak det left = some c := by
  simp only [searchSpec, h]

theorem searchSpec_none (data : Bytes) (ks : List Bytes) (ak : Bool) (det : Option Nat) (left : List Bytes)
    (h : (candidates (views data det) (effKeys ks)).head? = none) :
    searchSpec data ks ak det left = if ak then (candidates (views data det) (effKeys left)).head? else none := by
  simp only [searchSpec, h]

theorem gen_retryK (B : Nat) (hB : 1 ≤ B) (data : Bytes) (g : PyFile) (hgd : g.data = data) (keys left : List Bytes) (det : Option Nat)
    (hdet : ∀ c, det = some c → c + 8 ≤ data.length) (xff : V → Py V) (hx : XffSpec xff data det) (lk : V → V → Py V)
    (hl : LeftSpec lk data keys left) (fuel : Nat) (hf : 2 * data.length + 4 ≤ fuel) (ak : Bool) :
    ∃ g2 : PyFile, g2.data = data ∧
      retryK xff (.int (B : Int)) lk fuel (encKeys keys) (.bool ak) (encFile g) V.none (V.bool false)
        = .ok (.tuple [encRet encResult ((if ak then (candidates (views data det) (effKeys left)).head? else none).map Cand.result),
            encFile g2]) := by
  cases ak with
  | false => exact ⟨g, hgd, rfl⟩
  | true =>
    obtain ⟨ts, hts⟩ := fmtS_keys left
    have hk : encKeys left = encKeysOpt (some left) := rfl
    -- what the function answers in the end, given the answer of the specialised function
    have hend : ∀ g2 : PyFile,
        (if (!isNone (encSpec data det (effKeys left))) = true then do
            let t28 ← getItem (encSpec data det (effKeys left)) (V.int 0)
            (pure (V.tuple [V.tuple [t28], encFile g2]) : Py V)
          else pure (V.tuple [V.none, encFile g2]))
        = .ok (.tuple [encRet encResult ((candidates (views data det) (effKeys left)).head?.map Cand.result), encFile g2]) := by
      intro g2
      unfold encSpec
      cases (candidates (views data det) (effKeys left)).head? with
      | none => rfl
      | some c => simp only [Option.map_some, encRet, isNone_tuple, Bool.not_false, ↓reduceIte, getItem_tuple_zero, PyU.ok_bind]; rfl
    obtain ⟨w, a, v0, hw1, hatt, hv0⟩ := xff_fileLike data det hdet xff hx g hgd
    obtain ⟨v1, hl1, hv1⟩ := leftSpec_fileLike hl hv0
    obtain ⟨g1, hs1, hd1⟩ := store_fileLike hv1
    obtain ⟨g2, hd2, e2⟩ := gen_blocks_nr_aux B hB data g1 hd1 (some left) det hdet xff hx fuel hf
    refine ⟨g2, hd2, ?_⟩
    rw [← hk] at e2
    unfold retryK
    simp only [isNone_none, truthy_bool, Bool.not_false, Bool.and_self, ↓reduceIte, hw1, PyU.ok_bind, unpack2_tuple]
    cases hw : isNone w
    all_goals
      simp only [hw, ↓reduceIte, Bool.false_eq_true] at hatt ⊢
      simp only [hatt, PyU.ok_bind, hl1, unpack2_tuple, hts, hs1, e2]
      exact hend g2

theorem gen_blocks_aux (B : Nat) (hB : 1 ≤ B) (data : Bytes) (f : PyFile) (hfd : f.data = data) (ks : Option (List Bytes)) (ak : Bool)
    (det : Option Nat) (hdet : ∀ c, det = some c → c + 8 ≤ data.length) (xff : V → Py V) (hx : XffSpec xff data det)
    (lk : V → V → Py V) (left : List Bytes) (hl : LeftSpec lk data (effKeysOpt ks) left) (fuel : Nat) (hf : 2 * data.length + 4 ≤ fuel) :
    ∃ g : PyFile, g.data = data ∧
      Gen.PyExtract.iter_beacon_config_blocks__first xff (.int (B : Int)) lk fuel (encFile f) (encKeysOpt ks) (.bool ak)
        = .ok (.tuple [encSearch data (ks.getD []) ak det left, encFile g]) := by
  obtain ⟨t, ht⟩ := fmtR_keys (effKeysOpt ks)
  rw [blocks_eq_phases, keys_norm, ht, PyU.ok_bind]
  obtain ⟨g, hg, h⟩ := gen_phases B hB data f hfd (effKeysOpt ks) det hdet xff hx fuel hf
    (retryK xff (.int (B : Int)) lk fuel (encKeys (effKeysOpt ks)) (.bool ak)) (fun fobj ret0 _ => pure (V.tuple [ret0, fobj]))
    (fun _ _ => rfl)
  rw [h, encSpec, encSearch]
  cases hc : (candidates (views data det) (effKeysOpt ks)).head? with
  | some c =>
    -- found under the given keys: the retry is not entered
    rw [searchSpec_some data _ ak det left c hc]
    exact ⟨g, hg, rfl⟩
  | none =>
    obtain ⟨g2, hg2, hre⟩ := gen_retryK B hB data g hg (effKeysOpt ks) left det hdet xff hx lk hl fuel hf ak
    rw [searchSpec_none data _ ak det left hc]
    exact ⟨g2, hg2, hre⟩


theorem isFileLike_attach {data : Bytes} {v : V} (h : IsFileLike data v) : t01Attach (t01Detach v) (t01Store v) = .ok v := by
  rcases h with ⟨g, rfl, _⟩ | ⟨x, rfl, _⟩
  · simp [t01Attach, t01Detach, t01Store, encFile, mkFile, FileCls, Gen.PyXor.XorEncodedFile, t01Self, T01SelfCls]
  · simp [t01Attach, t01Detach, t01Store, encXor, t01Self]

theorem setAttr_compile (blk : Bytes) (k : V) (e : Bool) (a b c gr v : V) :
    instSetAttr (encExtracted blk k e a b c gr) "pe_compile_stamp" v = .ok (encExtracted blk k e a v c gr) := by
  simp [instSetAttr, setField, encExtracted, Gen.PyBeaconCfg.BeaconConfig]
theorem setAttr_export (blk : Bytes) (k : V) (e : Bool) (a b c gr v : V) :
    instSetAttr (encExtracted blk k e a b c gr) "pe_export_stamp" v = .ok (encExtracted blk k e v b c gr) := by
  simp [instSetAttr, setField, encExtracted, Gen.PyBeaconCfg.BeaconConfig]
theorem setAttr_arch (blk : Bytes) (k : V) (e : Bool) (a b c gr v : V) :
    instSetAttr (encExtracted blk k e a b c gr) "architecture" v = .ok (encExtracted blk k e a b v gr) := by
  simp [instSetAttr, setField, encExtracted, Gen.PyBeaconCfg.BeaconConfig]
theorem setAttr_xorkey (blk : Bytes) (k : V) (e : Bool) (a b c gr v : V) :
    instSetAttr (encExtracted blk k e a b c gr) "xorkey" v = .ok (encExtracted blk v e a b c gr) := by
  simp [instSetAttr, setField, encExtracted, Gen.PyBeaconCfg.BeaconConfig]
theorem setAttr_guardrails (blk : Bytes) (k : V) (e : Bool) (a b c gr v : V) :
    instSetAttr (encExtracted blk k e a b c gr) "guardrails" v = .ok (encExtracted blk k e a b c v) := by
  simp [instSetAttr, setField, encExtracted, Gen.PyBeaconCfg.BeaconConfig]
theorem setAttr_xorencoded (blk : Bytes) (k : V) (e : Bool) (a b c gr : V) (e' : Bool) :
    instSetAttr (encExtracted blk k e a b c gr) "xorencoded" (.bool e') = .ok (encExtracted blk k e' a b c gr) := by
  simp [instSetAttr, setField, encExtracted, Gen.PyBeaconCfg.BeaconConfig]
theorem getAttr_xorencoded (blk : Bytes) (k : V) (e : Bool) (a b c gr : V) :
    getAttr (encExtracted blk k e a b c gr) "xorencoded" = .ok (.bool e) := by
  simp [getAttr, lookupField, encExtracted, Gen.PyBeaconCfg.BeaconConfig]
theorem encConfig_eq (b : Bytes) : C02Gen.encConfig (.bytes b) (C02.iterSettings b) = encExtracted b .none false .none .none .none .none := rfl

/-- the part of `from_file` that attaches the PE artifacts: `pe.find_compile_stamps(fh)`, `pe.find_architecture(fh)` -/
theorem pe_tail (data : Bytes) (fcs : V → Py V) (hfcs : FileExtSpec fcs data (fun r => ∃ c e, r = .tuple [c, e]))
    (fa : V → Py V) (hfa : FileExtSpec fa data (fun _ => True)) (blk : Bytes) (k : V) (e : Bool) (gr : V)
    (h a v0 : V) (hatt : t01Attach h a = .ok v0) (hv0 : IsFileLike data v0) :
    ∃ pe_e pe_c arch out,
      (do
        let t13 ← t01Attach h a
        let t14 ← fcs t13
        let t15 ← unpack2 t14
        let t16 ← unpack2 t15.1
        let t17 ← instSetAttr (encExtracted blk k e .none .none .none gr) "pe_compile_stamp" t16.1
        let t18 ← instSetAttr t17 "pe_export_stamp" t16.2
        let t19 ← t01Attach (t01Detach t15.2) (t01Store t15.2)
        let t20 ← fa t19
        let t21 ← unpack2 t20
        let t22 ← instSetAttr t18 "architecture" t21.1
        (pure (V.tuple [t22, t01Store t21.2]) : Py V))
      = .ok (.tuple [encExtracted blk k e pe_e pe_c arch gr, out]) := by
  obtain ⟨r, v1, h1, ⟨c0, e0, rfl⟩, hv1⟩ := hfcs v0 hv0
  obtain ⟨r2, v2, h2, _, hv2⟩ := hfa v1 hv1
  refine ⟨e0, c0, r2, t01Store v2, ?_⟩
  simp only [hatt, PyU.ok_bind, h1, unpack2_tuple, setAttr_compile, setAttr_export, isFileLike_attach hv1, h2, setAttr_arch, pure_ok]

theorem gen_from_file_found_aux (B : Nat) (hB : 1 ≤ B) (data : Bytes) (f : PyFile) (hfd : f.data = data) (ks : Option (List Bytes)) (ak : Bool)
    (det : Option Nat) (hdet : ∀ c, det = some c → c + 8 ≤ data.length) (xff : V → Py V) (hx : XffSpec xff data det)
    (lk : V → V → Py V) (left : List Bytes) (hl : LeftSpec lk data (effKeysOpt ks) left)
    (nc : V → Py V) (hnc : CfgSpec nc)
    (fcs : V → Py V) (hfcs : FileExtSpec fcs data (fun r => ∃ c e, r = .tuple [c, e]))
    (fa : V → Py V) (hfa : FileExtSpec fa data (fun _ => True))
    (ig : V → Py V) (fuel : Nat) (hf : 2 * data.length + 4 ≤ fuel)
    (c : Cand) (hc : searchSpec data (ks.getD []) ak det left = some c) :
    ∃ pe_e pe_c arch out,
      Gen.PyExtract.from_file xff (.int (B : Int)) lk nc fcs fa ig fuel (encFile f) (encKeysOpt ks) (.bool ak)
        = .ok (.tuple [encExtracted c.block (.bytes c.key) c.xorencoded pe_e pe_c arch .none, out]) := by
  obtain ⟨g, hg, hb⟩ := gen_blocks_aux B hB data f hfd ks ak det hdet xff hx lk left hl fuel hf
  unfold Gen.PyExtract.from_file
  simp only [hb, encSearch, hc, Option.map_some, encRet, PyU.ok_bind, unpack2_tuple, isNone_tuple, Bool.not_false, ↓reduceIte,
    getItem_tuple_zero, Cand.result, encResult, hnc c.block]
  have hgi1 : getItem (V.dict [lit "xorkey", lit "xorencoded"] [V.bytes c.key, V.bool c.xorencoded]) (lit "xorkey")
      = .ok (V.bytes c.key) := by rfl
  have hgi2 : getItem (V.dict [lit "xorkey", lit "xorencoded"] [V.bytes c.key, V.bool c.xorencoded]) (lit "xorencoded")
      = .ok (V.bool c.xorencoded) := by rfl
  simp only [hgi1, hgi2, PyU.ok_bind, encConfig_eq, setAttr_xorkey, setAttr_xorencoded, getAttr_xorencoded, truthy_bool]
  have hfl : IsFileLike data (encFile g) := Or.inl ⟨g, rfl, hg⟩
  cases he : c.xorencoded with
  | false =>
    simp only [Bool.false_eq_true, ↓reduceIte]
    exact pe_tail data fcs hfcs fa hfa c.block (.bytes c.key) false .none _ _ _ (attach_self g) hfl
  | true =>
    simp only [↓reduceIte]
    obtain ⟨w, a, v0, hw1, hatt, hv0⟩ := xff_fileLike data det hdet xff hx g hg
    simp only [hw1, PyU.ok_bind, unpack2_tuple]
    cases hw : isNone w
    all_goals
      simp only [hw, ↓reduceIte, Bool.false_eq_true] at hatt ⊢
      exact pe_tail data fcs hfcs fa hfa c.block (.bytes c.key) true .none _ _ _ hatt hv0

/-- `if not grconfig.unmasked_beacon_config: continue`: the records the Guardrails fallback accepts -/
def usable (m : C17.Meta) : Bool :=
  match m.unmaskedBeaconConfig with
  | some cfg => !cfg.isEmpty
  | none => false

theorem getAttr_unmasked (m : C17.Meta) :
    getAttr (C17Gen.encMeta m) "unmasked_beacon_config" = .ok (C17Gen.encOptBytes m.unmaskedBeaconConfig) := by
  simp [getAttr, lookupField, C17Gen.encMeta, Gen.PyGuardU.GuardrailMetadata]
theorem getAttr_bxk (m : C17.Meta) : getAttr (C17Gen.encMeta m) "beacon_xor_key" = .ok (.bytes m.beaconXorKey) := by
  simp [getAttr, lookupField, C17Gen.encMeta, Gen.PyGuardU.GuardrailMetadata]
theorem truthy_unmasked (m : C17.Meta) : truthy (C17Gen.encOptBytes m.unmaskedBeaconConfig) = usable m := by
  unfold usable
  cases m.unmaskedBeaconConfig <;> rfl

theorem gen_select_loop (xff : V → Py V) (b : V) (lk : V → V → Py V) (nc fcs fa ig : V → Py V) :
    ∀ ms : List C17.Meta,
      forList (ms.map C17Gen.encMeta) (Gen.PyExtract.from_file_loop1 xff b lk nc fcs fa ig) V.none
        = .ok (encRet C17Gen.encMeta (ms.find? usable)) := by
  intro ms
  induction ms with
  | nil => rfl
  | cons m ms ih =>
    simp only [List.map_cons, forList, Gen.PyExtract.from_file_loop1, getAttr_unmasked, PyU.ok_bind, truthy_unmasked, List.find?_cons]
    cases hu : usable m with
    | true => simp [pure_ok, encRet]
    | false => simp only [Bool.not_false, ↓reduceIte, pure_ok]; exact ih

theorem gen_from_file_fallback_aux (B : Nat) (hB : 1 ≤ B) (data : Bytes) (f : PyFile) (hfd : f.data = data) (ks : Option (List Bytes)) (ak : Bool)
    (det : Option Nat) (hdet : ∀ c, det = some c → c + 8 ≤ data.length) (xff : V → Py V) (hx : XffSpec xff data det)
    (lk : V → V → Py V) (left : List Bytes) (hl : LeftSpec lk data (effKeysOpt ks) left)
    (nc : V → Py V) (hnc : CfgSpec nc)
    (fcs : V → Py V) (hfcs : FileExtSpec fcs data (fun r => ∃ c e, r = .tuple [c, e]))
    (fa : V → Py V) (hfa : FileExtSpec fa data (fun _ => True))
    (ig : V → Py V) (ms : List C17.Meta) (hig : FileExtSpec ig data (fun r => r = .list (ms.map C17Gen.encMeta)))
    (fuel : Nat) (hf : 2 * data.length + 4 ≤ fuel)
    (hc : searchSpec data (ks.getD []) ak det left = none) :
    match ms.find? usable with
    | none => Gen.PyExtract.from_file xff (.int (B : Int)) lk nc fcs fa ig fuel (encFile f) (encKeysOpt ks) (.bool ak) = .error .valueError
    | some m =>
      ∃ cfg pe_e pe_c arch out, m.unmaskedBeaconConfig = some cfg ∧
        Gen.PyExtract.from_file xff (.int (B : Int)) lk nc fcs fa ig fuel (encFile f) (encKeysOpt ks) (.bool ak)
          = .ok (.tuple [encExtracted cfg (.bytes m.beaconXorKey) false pe_e pe_c arch (C17Gen.encMeta m), out]) := by
  obtain ⟨g, hg, hb⟩ := gen_blocks_aux B hB data f hfd ks ak det hdet xff hx lk left hl fuel hf
  obtain ⟨w, a, v0, hw1, hatt, hv0⟩ := xff_fileLike data det hdet xff hx g hg
  obtain ⟨r, v1, hi1, hr, hv1⟩ := hig v0 hv0
  subst hr
  unfold Gen.PyExtract.from_file
  simp only [hb, encSearch, hc, Option.map_none, encRet, PyU.ok_bind, unpack2_tuple, isNone_none, Bool.not_true,
    Bool.false_eq_true, ↓reduceIte, hw1]
  have hsel := gen_select_loop xff (.int (B : Int)) lk nc fcs fa ig ms
  cases hw : isNone w
  all_goals
    simp only [hw, ↓reduceIte, Bool.false_eq_true] at hatt ⊢
    simp only [hatt, PyU.ok_bind, hi1, unpack2_tuple, iterList, hsel]
    cases hfind : ms.find? usable with
    | none => simp only [encRet, isNone_none, Bool.not_true, Bool.false_eq_true, ↓reduceIte]; rfl
    | some m =>
      have hu : usable m = true := List.find?_some hfind
      unfold usable at hu
      cases hcfg : m.unmaskedBeaconConfig with
      | none => rw [hcfg] at hu; cases hu
      | some cfg =>
        have hga : getAttr (C17Gen.encMeta m) "unmasked_beacon_config" = .ok (.bytes cfg) := by
          rw [getAttr_unmasked, hcfg]; rfl
        obtain ⟨pe_e, pe_c, arch, out, ht⟩ := pe_tail data fcs hfcs fa hfa cfg (.bytes m.beaconXorKey) false (C17Gen.encMeta m)
          (t01Detach v1) (t01Store v1) v1 (isFileLike_attach hv1) hv1
        refine ⟨cfg, pe_e, pe_c, arch, out, hcfg, ?_⟩
        simp only [encRet, isNone_tuple, Bool.not_false, ↓reduceIte, getItem_tuple_zero, hga, PyU.ok_bind, hnc cfg, encConfig_eq,
          setAttr_guardrails, getAttr_bxk, setAttr_xorkey]
        exact ht
end C01Gen

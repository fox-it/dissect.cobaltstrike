import CsVerif.Lemmas.C06
import CsVerif.Model.C06Gen
import CsVerif.Lemmas.PyULib
/-! The run-time operations of `Model/PyU_T07.lean` on the generated layout of `struct BeaconMetadata` (`t07StructParse` =
`C06.parseMetadata`, `t07Dumps` / `t07Len` = `C06.dumpsMetadata`), and the tie of `decrypt_metadata` (cited by `Lemmas/C07Gen.lean` too). -/
namespace C06Gen
open PyU (V)
open C06

theorem bm_fields : Gen.PyC2M.BeaconMetadataCls.fields =
    ["magic", "size", "aes_rand", "ansi_cp", "oem_cp", "bid", "pid", "port", "flag", "ver_major", "ver_minor", "ver_build",
     "ptr_x64", "ptr_gmh", "ptr_gpa", "ip", "info"] := by decide +kernel

theorem bm_tys : Gen.PyC2M.BeaconMetadata.tys =
    [.uint 4, .uint 4, .chars 16, .uint 2, .uint 2, .uint 4, .uint 4, .uint 2, .uint 1, .uint 1, .uint 1, .uint 2, .uint 4, .uint 4,
     .uint 4, .uint 4, .charsExpr "size" 51] := by decide +kernel

theorem bm_offsets : Gen.PyC2M.BeaconMetadata.offsets = [0, 4, 8, 24, 26, 28, 32, 36, 38, 39, 40, 41, 43, 47, 51, 55, 59] := by decide +kernel

theorem bm_be : Gen.PyC2M.BeaconMetadata.bigEndian = true := by decide +kernel

theorem uintOf_be (raw : Bytes) : PyU.uintOf true raw = C06.beNat raw := by
  simp [PyU.uintOf, PyU.beNat_eq_foldl, C06.beNat]

/-- the width of a field whose size does not depend on other fields -/
def fixedWidth : PyU.T07FieldTy → Option Nat
  | .uint w => some w
  | .chars n => some n
  | .charsExpr _ _ => none

def fixedVal (be : Bool) : PyU.T07FieldTy → Bytes → V
  | .uint _, raw => .int (PyU.uintOf be raw)
  | _, raw => .bytes raw

theorem read_fixed (be : Bool) (f : String) (fs : List String) (ty : PyU.T07FieldTy) (w : Nat) (tys : List PyU.T07FieldTy) (rest : Bytes)
    (acc : List (String × V)) (h : fixedWidth ty = some w) :
    PyU.t07ReadFields be (f :: fs) (ty :: tys) rest acc =
      if rest.length < w then .error .eofError
      else (PyU.t07ReadFields be fs tys (rest.drop w) ((f, fixedVal be ty (rest.take w)) :: acc)).map (fixedVal be ty (rest.take w) :: ·) := by
  cases ty with
  | charsExpr _ _ => cases h
  | uint _ | chars _ =>
    cases h
    simp only [PyU.t07ReadFields, fixedVal]
    split
    · rfl
    · cases PyU.t07ReadFields be fs tys _ _ <;> rfl

theorem read_expr (be : Bool) (f : String) (fs : List String) (lf : String) (sub : Nat) (tys : List PyU.T07FieldTy) (rest : Bytes)
    (acc : List (String × V)) (x : Int) (h : (acc.find? (·.1 == lf)).bind (fun p => PyU.asInt p.2) = some x) :
    PyU.t07ReadFields be (f :: fs) (.charsExpr lf sub :: tys) rest acc =
      if rest.length < (x - (sub : Int)).toNat then .error .eofError
      else (PyU.t07ReadFields be fs tys (rest.drop (x - (sub : Int)).toNat) ((f, .bytes (rest.take (x - (sub : Int)).toNat)) :: acc)).map
        (V.bytes (rest.take (x - (sub : Int)).toNat) :: ·) := by
  simp only [PyU.t07ReadFields]
  cases hf : acc.find? (·.1 == lf) with
  | none => simp [hf] at h
  | some p =>
    obtain ⟨k, v⟩ := p
    simp only [hf, Option.bind] at h
    simp only [h, Option.map]
    split
    · rfl
    · cases PyU.t07ReadFields be fs tys (rest.drop (x - (sub : Int)).toNat) ((f, .bytes (rest.take (x - (sub : Int)).toNat)) :: acc) <;> rfl

theorem structParse_bytes (sc : PyU.T07StructCls) (d : Bytes) :
    PyU.t07StructParse sc (.bytes d) = (PyU.t07ReadFields sc.bigEndian sc.cls.fields sc.tys d []).map (V.inst sc.cls) := by
  simp only [PyU.t07StructParse]
  cases PyU.t07ReadFields sc.bigEndian sc.cls.fields sc.tys d [] <;> rfl

/-- total width of the leading fields whose size does not depend on other fields -/
def fixedPrefixWidth : List PyU.T07FieldTy → Nat
  | ty :: t => match fixedWidth ty with
    | some w => w + fixedPrefixWidth t
    | none => 0
  | [] => 0

def fixedVals (be : Bool) : List PyU.T07FieldTy → Bytes → List V
  | ty :: t, rest => match fixedWidth ty with
    | some w => fixedVal be ty (rest.take w) :: fixedVals be t (rest.drop w)
    | none => []
  | [], _ => []

/-- the fixed-width prefix in one step; behind it reading goes on with its values on the accumulator -/
theorem readFields_fixed (be : Bool) : ∀ (tys : List PyU.T07FieldTy) (fs : List String) (rest : Bytes) (acc : List (String × V)),
    fs.length = tys.length →
    PyU.t07ReadFields be fs tys rest acc =
      if rest.length < fixedPrefixWidth tys then .error .eofError
      else (PyU.t07ReadFields be (fs.drop (fixedVals be tys rest).length) (tys.drop (fixedVals be tys rest).length)
          (rest.drop (fixedPrefixWidth tys)) ((fs.zip (fixedVals be tys rest)).reverse ++ acc)).map (fixedVals be tys rest ++ ·)
  | [], [], rest, acc, _ => by simp [fixedPrefixWidth, fixedVals, PyU.t07ReadFields, Except.map]
  | [], _ :: _, _, _, hl => by simp at hl
  | _ :: _, [], _, _, hl => by simp at hl
  | ty :: t, f :: fs, rest, acc, hl => by
    cases h : fixedWidth ty with
    | none =>
      simp only [fixedPrefixWidth, fixedVals, h, Nat.not_lt_zero, if_false, List.length_nil, List.drop_zero, List.zip_nil_right,
        List.reverse_nil, List.nil_append]
      cases PyU.t07ReadFields be (f :: fs) (ty :: t) rest acc <;> rfl
    | some w =>
      rw [read_fixed be f fs ty w t rest acc h, readFields_fixed be t fs (rest.drop w) _ (by simpa using hl)]
      simp only [fixedPrefixWidth, fixedVals, h, List.length_drop, List.length_cons, List.drop_succ_cons, List.drop_drop,
        List.zip_cons_cons, List.reverse_cons, List.append_assoc, List.singleton_append]
      by_cases hw : rest.length < w
      · rw [if_pos hw, if_pos (by omega)]
      · rw [if_neg hw]
        by_cases ht : rest.length - w < fixedPrefixWidth t
        · rw [if_pos ht, if_pos (by omega)]; rfl
        · rw [if_neg ht, if_neg (by omega)]
          cases PyU.t07ReadFields be _ _ _ _ <;> rfl

theorem read_expr_last (be : Bool) (f lf : String) (sub : Nat) (rest : Bytes) (acc : List (String × V)) (s : Nat)
    (h : (acc.find? (·.1 == lf)).bind (fun p => PyU.asInt p.2) = some (s : Int)) :
    PyU.t07ReadFields be [f] [.charsExpr lf sub] rest acc =
      if rest.length < s - sub then .error .eofError else .ok [.bytes (rest.take (s - sub))] := by
  rw [read_expr be f [] lf sub [] rest acc s h, Int.toNat_sub]
  rfl

theorem parse_enc (d : Bytes) :
    PyU.t07StructParse Gen.PyC2M.BeaconMetadata (.bytes d) = (C06.parseMetadata d).map encMeta := by
  rw [structParse_bytes, bm_be, bm_tys, show Gen.PyC2M.BeaconMetadata.cls = Gen.PyC2M.BeaconMetadataCls from rfl, bm_fields,
    readFields_fixed true _ _ d [] rfl, parseMetadata_eq]
  simp only [fixedPrefixWidth, fixedVals, fixedWidth, fixedVal, uintOf_be, List.drop_drop, Nat.reduceAdd, List.length_cons, List.length_nil,
    List.drop_succ_cons, List.drop_zero, List.zip_cons_cons, List.zip_nil_right, List.reverse_cons, List.reverse_nil,
    List.nil_append, List.cons_append, List.append_nil]
  split
  · rfl
  · rw [read_expr_last true "info" "size" 51 _ _ (sizeField d) rfl, List.length_drop]
    split <;> rfl

theorem t07BeBytes_eq (w v : Nat) : PyU.t07BeBytes w v = C06.beBytes w v := by
  induction w generalizing v with
  | zero => rfl
  | succ w ih => simp [PyU.t07BeBytes, C06.beBytes, ih]

/-- the value suits the field: a non-negative `int` for an integer field, `bytes` for a `char` array -/
def wellKinded : PyU.T07FieldTy → V → Bool
  | .uint _, .int n => decide (0 ≤ n)
  | .chars _, .bytes _ => true
  | .charsExpr _ _, .bytes _ => true
  | _, _ => false

def fieldFits : PyU.T07FieldTy → V → Bool
  | .uint w, .int n => decide (n.toNat < 256 ^ w)
  | _, _ => true

def fieldPure : PyU.T07FieldTy → V → Bytes
  | .uint w, .int n => C06.beBytes w n.toNat
  | _, .bytes b => b
  | _, _ => []

theorem fieldBytes_wk (ty : PyU.T07FieldTy) (v : V) (h : wellKinded ty v = true) :
    PyU.t07FieldBytes true ty v = if fieldFits ty v then .ok (fieldPure ty v) else .error .structError := by
  cases ty <;> cases v <;> simp only [wellKinded, decide_eq_true_eq, Bool.false_eq_true] at h
  · rename_i w n
    have e : (n < (256 : Int) ^ w) ↔ n.toNat < 256 ^ w := by
      rw [Int.toNat_lt h, Int.natCast_pow]; rfl
    simp only [PyU.t07FieldBytes, PyU.asInt, fieldFits, fieldPure, h, e, t07BeBytes_eq, true_and, if_true, decide_eq_true_eq]
  · simp only [PyU.t07FieldBytes, fieldFits, fieldPure]; rfl
  · simp only [PyU.t07FieldBytes, fieldFits, fieldPure]; rfl

def wkAll : List PyU.T07FieldTy → List V → Bool
  | ty :: tys, v :: vs => wellKinded ty v && wkAll tys vs
  | _, _ => true

def fitsAll : List PyU.T07FieldTy → List V → Bool
  | ty :: tys, v :: vs => fieldFits ty v && fitsAll tys vs
  | _, _ => true

/-- what `dumps()` writes: every field behind the NUL fill up to its static offset -/
def layout : List PyU.T07FieldTy → List Nat → List V → Bytes → Bytes
  | ty :: tys, off :: offs, v :: vs, out => layout tys offs vs (padTo off out ++ fieldPure ty v)
  | _, _, _, out => out

theorem dump_wk : ∀ (tys : List PyU.T07FieldTy) (offs : List Nat) (vs : List V) (out : Bytes),
    wkAll tys vs = true → tys.length = offs.length →
    PyU.t07DumpFields true tys offs vs out = if fitsAll tys vs then .ok (layout tys offs vs out) else .error .structError
  | [], _, _, out, _, _ => by simp [PyU.t07DumpFields, fitsAll, layout]
  | _ :: _, [], _, _, _, hl => by simp at hl
  | ty :: tys, off :: offs, [], out, _, _ => by simp [PyU.t07DumpFields, fitsAll, layout]
  | ty :: tys, off :: offs, v :: vs, out, hw, hl => by
    simp only [wkAll, Bool.and_eq_true] at hw
    simp only [PyU.t07DumpFields, fieldBytes_wk ty v hw.1, fitsAll, layout]
    by_cases hf : fieldFits ty v = true
    · simp only [hf, if_true, Bool.true_and]
      exact dump_wk tys offs vs _ hw.2 (by simpa using hl)
    · simp [hf]


theorem fits_meta (m : Metadata) : fitsAll Gen.PyC2M.BeaconMetadata.tys (metaVals m) = decide (InWidth m) := by
  rw [bm_tys]
  simp only [fitsAll, fieldFits, metaVals, Int.toNat_natCast, Bool.and_true, Bool.true_and]
  rw [Bool.eq_iff_iff]
  simp only [Bool.and_eq_true, decide_eq_true_eq, InWidth, W_magic, W_size, W_ansi_cp, W_oem_cp, W_bid, W_pid, W_port, W_flag,
    W_ver_major, W_ver_minor, W_ver_build, W_ptr_x64, W_ptr_gmh, W_ptr_gpa, W_ip]

/-- with `n` bytes written, every remaining field has a static offset and the output has reached it -/
def reached : Nat → List PyU.T07FieldTy → List Nat → List V → Prop
  | n, ty :: tys, off :: offs, v :: vs => off ≤ n ∧ reached (n + (fieldPure ty v).length) tys offs vs
  | _, _ :: _, [], _ :: _ => False
  | _, _, _, _ => True

theorem layout_reached : ∀ (tys : List PyU.T07FieldTy) (offs : List Nat) (vs : List V) (out : Bytes),
    reached out.length tys offs vs → layout tys offs vs out = out ++ (List.zipWith fieldPure tys vs).flatten
  | [], _, _, out, _ => by simp [layout]
  | _ :: _, _, [], out, _ => by simp [layout]
  | _ :: _, [], _ :: _, _, h => h.elim
  | ty :: tys, off :: offs, v :: vs, out, h => by
    rw [layout, padTo_of_le h.1, layout_reached tys offs vs _ (by rw [List.length_append]; exact h.2)]
    simp only [List.zipWith_cons_cons, List.flatten_cons, List.append_assoc]

theorem layout_meta (m : Metadata) : layout Gen.PyC2M.BeaconMetadata.tys Gen.PyC2M.BeaconMetadata.offsets (metaVals m) [] = rawDumps m := by
  rw [bm_tys, bm_offsets, metaVals, layout, layout, layout, layout]
  simp only [fieldPure, Int.toNat_natCast]
  -- the first three fields start where the output ends; the fill in front of `ansi_cp` pads a short `aes_rand`
  rw [padTo_of_le (Nat.zero_le _), List.nil_append, padTo_of_le (Nat.le_of_eq (beBytes_length 4 _).symm),
    padTo_of_le (n := 8) (by simp [beBytes_length]), List.append_assoc, padTo_append, padTo_append,
    beBytes_length, beBytes_length]
  rw [layout_reached _ _ _ _ (by
    have := le_length_padTo (24 - 4 - 4) m.aes_rand
    simp only [reached, fieldPure, List.length_append, beBytes_length, and_true]
    omega)]
  simp only [rawDumps, fieldPure, Int.toNat_natCast, W_magic, W_size, W_aes_rand, W_ansi_cp, W_oem_cp, W_bid, W_pid, W_port,
    W_flag, W_ver_major, W_ver_minor, W_ver_build, W_ptr_x64, W_ptr_gmh, W_ptr_gpa, W_ip, List.zipWith_cons_cons,
    List.zipWith_nil_right, List.flatten_cons, List.flatten_nil, List.append_assoc, List.append_nil, Nat.reduceSub]

theorem find_bm : PyU.t07FindStruct Gen.PyC2M.structs Gen.PyC2M.BeaconMetadataCls = some Gen.PyC2M.BeaconMetadata := by
  rfl

theorem lift_ok {α : Type} (a : α) : (liftM (Except.ok a : Py α) : PyU.T07PyE α) = .ok a := id rfl
theorem lift_err {α : Type} (e : PyExc) : (liftM (Except.error e : Py α) : PyU.T07PyE α) = .error (.py e) := rfl
theorem ok_bindE {α β : Type} (a : α) (f : α → PyU.T07PyE β) : ((Except.ok a : PyU.T07PyE α) >>= f) = f a := rfl
theorem err_bindE {α β : Type} (e : PyU.T07Exc) (f : α → PyU.T07PyE β) : ((Except.error e : PyU.T07PyE α) >>= f) = .error e := rfl

theorem dumpFields_meta (m : Metadata) :
    PyU.t07DumpFields Gen.PyC2M.BeaconMetadata.bigEndian Gen.PyC2M.BeaconMetadata.tys Gen.PyC2M.BeaconMetadata.offsets (metaVals m) [] =
      if InWidth m then .ok (rawDumps m) else .error .structError := by
  rw [bm_be, dump_wk _ _ _ _ (by rw [bm_tys]; rfl) (by rw [bm_tys, bm_offsets]; rfl), fits_meta, layout_meta]
  simp

theorem len_meta (m : Metadata) :
    PyU.t07Len Gen.PyC2M.structs (encMeta m) = if InWidth m then .ok (.int (rawDumps m).length) else .error .structError := by
  simp only [PyU.t07Len, encMeta, find_bm, dumpFields_meta]
  split <;> rfl

theorem dumps_meta (m : Metadata) :
    PyU.t07Dumps Gen.PyC2M.structs (encMeta m) = if InWidth m then .ok (.bytes (rawDumps m)) else .error .structError := by
  simp only [PyU.t07Dumps, encMeta, find_bm, dumpFields_meta]
  split <;> rfl

theorem setSize_meta (m : Metadata) (s : Nat) :
    PyU.instSetAttr (encMeta m) "size" (.int s) = .ok (encMeta { m with size := s }) := by
  simp only [PyU.instSetAttr, encMeta, bm_fields, metaVals]
  rfl

theorem gen_decrypt_metadata_proof (c : Crypto) (key : V) (blob : Bytes) :
    Gen.PyC2M.decrypt_metadata (decX c) (.bytes blob) key = (C06.decryptMetadata c blob).map encMeta := by
  unfold Gen.PyC2M.decrypt_metadata C06.decryptMetadata
  simp only [decX]
  cases hd : c.rsaDec blob with
  | error e => rfl
  | ok o =>
    cases o with
    | none => rfl
    | some pt =>
      by_cases hp : pt = []
      · subst hp; rfl
      · have ht : PyU.truthy (.bytes pt) = true := by
          cases pt with
          | nil => exact absurd rfl hp
          | cons _ _ => rfl
        simp only [PyU.ok_bind, ht, hp, ↓reduceIte, Bool.not_true, parse_enc]
        cases hpm : parseMetadata pt with
        | error e =>
          have := parse_error_eof pt e hpm
          subst this
          rfl
        | ok m =>
          have hg : PyU.getAttr (encMeta m) "magic" = .ok (.int m.magic) := by
            simp only [encMeta, PyU.getAttr, bm_fields, metaVals]; rfl
          simp only [Except.map, PyU.attempt, PyU.ok_bind, hg]
          by_cases hm : m.magic = magicBeef
          · simp [hm]
            rfl
          · have hne : ¬ (m.magic : Int) = 48879 := by
              simp only [magicBeef] at hm; omega
            simp [PyU.eq, hne, hm, PyU.t07FmtZeroHex, PyU.asInt]
            split <;> rfl
end C06Gen

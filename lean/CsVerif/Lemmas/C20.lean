import CsVerif.Model.C20
/-! C20 lemmas: little-endian digits, two's complement, the tiled key, sums of alphanumerics. -/
namespace C20

theorem xorCore_length (d k : Bytes) : (xorCore d k).length = d.length := by
  simp [xorCore]

theorem xorCore_involutive (d k : Bytes) : xorCore (xorCore d k) k = d := by
  apply List.ext_getElem
  · simp [xorCore]
  · intro i h1 h2
    simp [xorCore, UInt8.xor_assoc]

theorem length_xor (d k : Bytes) : (xor d k).length = d.length := by
  unfold xor; split
  · rfl
  · exact xorCore_length d k

theorem xor_xor (d k : Bytes) : xor (xor d k) k = d := by
  unfold xor; split
  · rfl
  · exact xorCore_involutive d k

theorem bytesOfInts_cons_ok {v : Int} {vs : List Int} {e : Bytes}
    (h : bytesOfInts (v :: vs) = .ok e) :
    0 ≤ v ∧ v < 256 ∧ ∃ e', bytesOfInts vs = .ok e' ∧ e = UInt8.ofNat v.toNat :: e' := by
  unfold bytesOfInts at h
  split at h
  · rename_i hv
    cases hvs : bytesOfInts vs with
    | error x => simp [hvs, Except.map] at h
    | ok e' =>
      simp [hvs, Except.map] at h
      exact ⟨hv.1, hv.2, e', rfl, h.symm⟩
  · cases h

theorem toNat_ofNat_toNat {v : Int} (h0 : 0 ≤ v) (h1 : v < 256) : ((UInt8.ofNat v.toNat).toNat : Int) = v := by
  rw [UInt8.toNat_ofNat']; omega

theorem toLE_length (n v : Nat) : (toLE n v).length = n := by
  induction n generalizing v with
  | zero => rfl
  | succ n ih => simp [toLE, ih]

theorem fromLE_lt (d : Bytes) : fromLE d < 256 ^ d.length := by
  induction d with
  | nil => simp [fromLE]
  | cons b bs ih =>
    simp only [fromLE, List.length_cons, Nat.pow_succ]
    have := b.toNat_lt
    omega

theorem fromLE_append (xs ys : Bytes) : fromLE (xs ++ ys) = fromLE xs + 256 ^ xs.length * fromLE ys := by
  induction xs with
  | nil => simp [fromLE]
  | cons b bs ih =>
    simp only [List.cons_append, fromLE, ih, List.length_cons, Nat.pow_succ]
    rw [Nat.mul_add, Nat.add_assoc, ← Nat.mul_assoc, Nat.mul_comm 256 (256 ^ bs.length)]

theorem foldl_be (d : Bytes) (acc : Nat) :
    d.foldl (fun a b => a * 256 + b.toNat) acc = acc * 256 ^ d.length + fromLE d.reverse := by
  induction d generalizing acc with
  | nil => simp [fromLE]
  | cons b bs ih =>
    simp only [List.foldl_cons, ih, List.reverse_cons, fromLE_append, List.length_reverse, List.length_cons, fromLE]
    rw [Nat.add_mul, Nat.pow_succ, Nat.mul_zero, Nat.add_zero, Nat.mul_assoc acc, Nat.mul_comm 256, Nat.mul_comm b.toNat]
    omega

theorem fromLE_toLE (n v : Nat) (h : v < 256 ^ n) : fromLE (toLE n v) = v := by
  induction n generalizing v with
  | zero => simp at h; subst h; rfl
  | succ n ih =>
    simp only [toLE, fromLE]
    rw [ih (v / 256) (by rw [Nat.pow_succ] at h; omega)]
    rw [UInt8.toNat_ofNat']
    omega

theorem byte_add_mod (b : UInt8) (n : Nat) : (b.toNat + 256 * n) % 256 = b.toNat := by
  have := b.toNat_lt; omega

theorem byte_add_div (b : UInt8) (n : Nat) : (b.toNat + 256 * n) / 256 = n := by
  have := b.toNat_lt; omega

theorem toLE_fromLE (d : Bytes) : toLE d.length (fromLE d) = d := by
  induction d with
  | nil => rfl
  | cons b bs ih =>
    simp only [List.length_cons, toLE, fromLE]
    rw [byte_add_mod, byte_add_div, ih, UInt8.ofNat_toNat]

theorem toBytesU_length (o : Order) (n v : Nat) : (toBytesU o n v).length = n := by
  cases o <;> simp [toBytesU, toLE_length]

theorem fromBytesU_toBytesU (o : Order) (n v : Nat) (h : v < 256 ^ n) :
    fromBytesU o (toBytesU o n v) = v := by
  cases o <;> simp [fromBytesU, toBytesU, fromLE_toLE _ _ h]

theorem toBytesU_fromBytesU (o : Order) (d : Bytes) : toBytesU o d.length (fromBytesU o d) = d := by
  cases o
  · simp [fromBytesU, toBytesU, toLE_fromLE]
  · simp only [fromBytesU, toBytesU]
    have := toLE_fromLE d.reverse
    rw [List.length_reverse] at this
    rw [this]; simp

theorem fromBytesU_lt (o : Order) (d : Bytes) : fromBytesU o d < 256 ^ d.length := by
  cases o
  · exact fromLE_lt d
  · have := fromLE_lt d.reverse; simpa [fromBytesU] using this

theorem pow256_even (n : Nat) (h : 0 < n) : 256 ^ n / 2 * 2 = 256 ^ n := by
  cases n with
  | zero => omega
  | succ n => rw [Nat.pow_succ]; omega

theorem twos_encode_decode {M H : Nat} {n : Int} (hM : H * 2 = M)
    (hr : -(H : Int) ≤ n ∧ n < (M : Int) - (H : Int)) :
    ∃ u : Nat, (if n ≥ 0 then n.toNat else (n + (M : Int)).toNat) = u ∧ u < M ∧
      (if u ≥ H then (u : Int) - (M : Int) else (u : Int)) = n := by
  by_cases hn : n ≥ 0
  · exact ⟨n.toNat, if_pos hn, by omega, by rw [if_neg (by omega)]; omega⟩
  · exact ⟨(n + (M : Int)).toNat, if_neg hn, by omega, by rw [if_pos (by omega)]; omega⟩

theorem twos_decode_encode {M H u : Nat} (hM : H * 2 = M) (hu : u < M) :
    ∃ n : Int, (if u ≥ H then (u : Int) - (M : Int) else (u : Int)) = n ∧
      (-(H : Int) ≤ n ∧ n < (M : Int) - (H : Int)) ∧
      (if n ≥ 0 then n.toNat else (n + (M : Int)).toNat) = u := by
  by_cases hh : u ≥ H
  · exact ⟨(u : Int) - (M : Int), if_pos hh, by omega, by rw [if_neg (by omega)]; omega⟩
  · exact ⟨(u : Int), if_neg hh, by omega, by rw [if_pos (by omega)]; omega⟩

theorem toLE_xor_fromLE (a b : Bytes) (h : a.length = b.length) :
    toLE a.length (fromLE a ^^^ fromLE b) = List.zipWith (· ^^^ ·) a b := by
  induction a generalizing b with
  | nil => cases b <;> simp_all [toLE]
  | cons x xs ih =>
    cases b with
    | nil => simp at h
    | cons y ys =>
      simp only [List.length_cons, Nat.add_right_cancel_iff] at h
      simp only [List.length_cons, toLE, fromLE, List.zipWith_cons_cons]
      have hm := Nat.xor_mod_two_pow (a := x.toNat + 256 * fromLE xs) (b := y.toNat + 256 * fromLE ys) (n := 8)
      have hd := Nat.xor_div_two_pow (a := x.toNat + 256 * fromLE xs) (b := y.toNat + 256 * fromLE ys) (n := 8)
      rw [show (2 : Nat) ^ 8 = 256 from rfl, byte_add_mod, byte_add_mod, ← UInt8.toNat_xor] at hm
      rw [show (2 : Nat) ^ 8 = 256 from rfl, byte_add_div, byte_add_div] at hd
      rw [hm, hd, ih ys h, UInt8.ofNat_toNat]

theorem xorCore_eq_zipWith (d k : Bytes) (h : d.length = k.length) :
    xorCore d k = List.zipWith (· ^^^ ·) d k := by
  apply List.ext_getElem
  · simp [xorCore, h]
  · intro i h1 h2
    simp only [xorCore, List.getElem_mapIdx, List.getElem_zipWith, keyAt]
    have hi : i < k.length := by simp [xorCore] at h1; omega
    rw [Nat.mod_eq_of_lt hi]
    simp [List.getD_eq_getElem?_getD, hi]

theorem flatten_replicate_getElem (n : Nat) (l : Bytes) (i : Nat) (h : i < ((List.replicate n l).flatten).length) :
    ((List.replicate n l).flatten)[i] = l.getD (i % l.length) 0 := by
  induction n generalizing i with
  | zero => simp at h
  | succ n ih =>
    simp only [List.replicate_succ, List.flatten_cons] at h ⊢
    by_cases hi : i < l.length
    · rw [List.getElem_append_left hi, Nat.mod_eq_of_lt hi]
      simp [List.getD_eq_getElem?_getD, hi]
    · have hl : 0 < l.length := by
        rcases Nat.eq_zero_or_pos l.length with h0 | h0
        · have : l = [] := List.length_eq_zero_iff.mp h0
          subst this; simp at h
        · exact h0
      rw [List.getElem_append_right (by omega)]
      rw [ih _ (by simp at h ⊢; omega)]
      congr 1
      rw [← Nat.mod_eq_sub_mod (by omega)]

theorem tile_length (key : Bytes) (size : Nat) (hk : key ≠ []) : (tile key size).length = size := by
  have hl : 0 < key.length := List.length_pos_iff.mpr hk
  unfold tile
  split
  · simp only [List.length_take, List.length_flatten, List.map_replicate, List.sum_replicate_nat]
    have : size < (size / key.length + 1) * key.length := by
      have := Nat.div_add_mod size key.length
      have := Nat.mod_lt size hl
      rw [Nat.add_mul, Nat.mul_comm]; omega
    omega
  · simp; omega

theorem tile_getElem (key : Bytes) (size i : Nat) (hk : key ≠ []) (h : i < (tile key size).length) :
    (tile key size)[i] = keyAt key i := by
  have hl : 0 < key.length := List.length_pos_iff.mpr hk
  have hs : i < size := by rw [tile_length key size hk] at h; exact h
  unfold tile at h ⊢
  split
  · rw [List.getElem_take]
    exact flatten_replicate_getElem _ _ _ _
  · rename_i hge
    rw [List.getElem_take]
    have hi : i < key.length := by omega
    simp [keyAt, Nat.mod_eq_of_lt hi, List.getD_eq_getElem?_getD, hi]

theorem randomStagerUri_go_sound (x64 : Bool) (n fuel : Nat) (cs : List Nat) (uri : Txt)
    (h : randomStagerUri.go x64 n fuel cs = some uri) :
    (if x64 then isStagerX64 uri else isStagerX86 uri) = true ∧ uri.length = n + 1 ∧ uri.head? = some 47
      ∧ ∀ c ∈ uri.tail, c ∈ cs := by
  induction fuel generalizing cs with
  | zero => simp [randomStagerUri.go] at h
  | succ f ih =>
    unfold randomStagerUri.go at h
    split at h
    · cases h
    · rename_i hl
      simp only [] at h
      by_cases hst : (if x64 then isStagerX64 (47 :: cs.take n) else isStagerX86 (47 :: cs.take n)) = true
      · rw [if_pos hst] at h
        injection h with h; subst h
        refine ⟨hst, by simp; omega, rfl, ?_⟩
        intro c hc
        exact List.mem_of_mem_take (by simpa using hc)
      · rw [if_neg hst] at h
        obtain ⟨a, b, c, d⟩ := ih _ h
        exact ⟨a, b, c, fun x hx => List.mem_of_mem_drop (d x hx)⟩

theorem isAlnum_iff (c : Nat) :
    isAlnum c = true ↔ (48 ≤ c ∧ c ≤ 57) ∨ (65 ≤ c ∧ c ≤ 90) ∨ (97 ≤ c ∧ c ≤ 122) := by
  simp only [isAlnum, Bool.or_eq_true, Bool.and_eq_true, decide_eq_true_eq, or_assoc]

theorem isAlnum_digit {c : Nat} (h : 48 ≤ c ∧ c ≤ 57) : isAlnum c = true := (isAlnum_iff c).2 (.inl h)
theorem isAlnum_upper {c : Nat} (h : 65 ≤ c ∧ c ≤ 90) : isAlnum c = true := (isAlnum_iff c).2 (.inr (.inl h))
theorem isAlnum_lower {c : Nat} (h : 97 ≤ c ∧ c ≤ 122) : isAlnum c = true := (isAlnum_iff c).2 (.inr (.inr h))

theorem sum2_interval {l₁ h₁ l₂ h₂ t : Nat} (h1 : l₁ ≤ h₁) (h2 : l₂ ≤ h₂)
    (hlo : l₁ + l₂ ≤ t) (hhi : t ≤ h₁ + h₂) :
    ∃ a b, (l₁ ≤ a ∧ a ≤ h₁) ∧ (l₂ ≤ b ∧ b ≤ h₂) ∧ a + b = t := by
  by_cases h : t ≤ h₁ + l₂
  · exact ⟨t - l₂, l₂, by omega⟩
  · exact ⟨h₁, t - h₁, by omega⟩

theorem sum4_interval {P : Nat → Prop} {l₁ h₁ l₂ h₂ l₃ h₃ l₄ h₄ t : Nat}
    (c₁ : ∀ {c}, l₁ ≤ c ∧ c ≤ h₁ → P c) (c₂ : ∀ {c}, l₂ ≤ c ∧ c ≤ h₂ → P c)
    (c₃ : ∀ {c}, l₃ ≤ c ∧ c ≤ h₃ → P c) (c₄ : ∀ {c}, l₄ ≤ c ∧ c ≤ h₄ → P c)
    (h1 : l₁ ≤ h₁) (h2 : l₂ ≤ h₂) (h3 : l₃ ≤ h₃) (h4 : l₄ ≤ h₄)
    (hlo : l₁ + l₂ + l₃ + l₄ ≤ t) (hhi : t ≤ h₁ + h₂ + h₃ + h₄) :
    ∃ a b c d, P a ∧ P b ∧ P c ∧ P d ∧ a + b + c + d = t := by
  obtain ⟨s, s', hs, hs', rfl⟩ :=
    sum2_interval (t := t) (Nat.add_le_add h1 h2) (Nat.add_le_add h3 h4) (by omega) (by omega)
  obtain ⟨a, b, ha, hb, rfl⟩ := sum2_interval h1 h2 hs.1 hs.2
  obtain ⟨c, d, hc, hd, rfl⟩ := sum2_interval h3 h4 hs'.1 hs'.2
  exact ⟨a, b, c, d, c₁ ha, c₂ hb, c₃ hc, c₄ hd, by omega⟩

/-- digit³·upper, digit·upper³, upper²·lower², lower⁴ overlap: 280 consecutive sums, more than the 256 residues needed -/
theorem four_alnum_sum (t : Nat) (hlo : 209 ≤ t) (hhi : t ≤ 488) :
    ∃ a b c d, isAlnum a = true ∧ isAlnum b = true ∧ isAlnum c = true ∧ isAlnum d = true ∧
      a + b + c + d = t := by
  by_cases h1 : t ≤ 261
  · exact sum4_interval isAlnum_digit isAlnum_digit isAlnum_digit isAlnum_upper
      (by decide) (by decide) (by decide) (by decide) hlo h1
  by_cases h2 : t ≤ 327
  · exact sum4_interval isAlnum_digit isAlnum_upper isAlnum_upper isAlnum_upper
      (by decide) (by decide) (by decide) (by decide) (by omega) h2
  by_cases h3 : t ≤ 424
  · exact sum4_interval isAlnum_upper isAlnum_upper isAlnum_lower isAlnum_lower
      (by decide) (by decide) (by decide) (by decide) (by omega) h3
  · exact sum4_interval isAlnum_lower isAlnum_lower isAlnum_lower isAlnum_lower
      (by decide) (by decide) (by decide) (by decide) (by omega) hhi

theorem four_alnum (r : Nat) (h : r < 256) :
    ∃ a b c d, isAlnum a = true ∧ isAlnum b = true ∧ isAlnum c = true ∧ isAlnum d = true ∧ (a + b + c + d) % 256 = r := by
  obtain ⟨a, b, c, d, ha, hb, hc, hd, hs⟩ :=
    four_alnum_sum (if 209 ≤ r then r else r + 256) (by split <;> omega) (by split <;> omega)
  exact ⟨a, b, c, d, ha, hb, hc, hd, by rw [hs]; split <;> omega⟩

theorem alnum_ne_slash {c : Nat} (h : isAlnum c = true) : c ≠ 47 := by
  have := (isAlnum_iff c).1 h
  omega

theorem filter_alnum {l : Txt} (h : ∀ c ∈ l, isAlnum c = true) : l.filter (· ≠ 47) = l :=
  List.filter_eq_self.mpr fun c hc => by simpa using alnum_ne_slash (h c hc)

theorem filter_replicate48 (n : Nat) : (List.replicate n 48).filter (· ≠ 47) = List.replicate n 48 :=
  filter_alnum fun c hc => by rw [List.eq_of_mem_replicate hc]; rfl

end C20

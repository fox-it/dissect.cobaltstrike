import CsVerif.Model.PyFile
import CsVerif.Model.C20
import CsVerif.Gen.Guardrails
/-
C17 — Guardrails (dissect/cobaltstrike/guardrails.py; BeaconConfig.from_file fallback, beacon.py ~809-824)

Executable, total model that follows the control flow of the code as it is in the tree
(after fix 34c0f22: a marker whose beacon_config_offset would be negative is skipped, EOFError in the
guard settings loop ends the loop).  `utils.xor` is `C20.xor` (tiles a shorter key, truncates a
longer one, returns the data unchanged for an empty/all-zero key).
-/
namespace C17
open Gen.Guardrails

/-! ### compiled-code replacement for `C20.xor`

The byte-wise `C20.xor` recomputes `key.length` and walks the key list for every byte; the driver applies it to
6144-byte areas for up to ~500 candidate keys per case.  The compiler is told (by a proved `@[csimp]` equation, no
axioms) to run this array-based version instead; the logical model and every theorem keep talking about `C20.xor`. -/

def xorFast (data key : Bytes) : Bytes :=
  if key.all (· == 0) then data
  else
    let ka := key.toArray
    let n := ka.size
    data.mapIdx fun i b => b ^^^ ka.getD (i % n) 0

@[csimp] theorem xor_eq_xorFast : @C20.xor = @xorFast := by
  funext data key
  unfold C20.xor xorFast C20.xorCore C20.keyAt
  split
  · rfl
  · simp

/-- `struct GuardrailSetting` after parsing; enum members are kept as their numeric value
(cstruct enums accept unknown values: `GuardOption(77)` is `<GuardOption: 77>` and compares equal to 77). -/
structure Setting where
  option : Nat
  type : Nat
  length : Nat
  value : Bytes
  deriving DecidableEq, Repr

/-- `GuardrailMetadata` -/
structure Meta where
  beaconConfigOffset : Nat
  guardConfigOffset : Nat
  maskedBeaconConfig : Bytes
  maskedGuardConfig : Bytes
  beaconXorKey : Bytes
  guardrailXorKey : Bytes
  unmaskedGuardConfig : Bytes
  checksum : Nat
  payloadXorKey : Option Bytes
  unmaskedBeaconConfig : Option Bytes
  settings : List Setting
  deriving DecidableEq, Repr

/-! ### guard settings loop -/

/-- cstruct read of a big-endian `uint16` from a stream: EOFError on short data. -/
def readU16 : Bytes → Py (Nat × Bytes)
  | a :: b :: rest => .ok (a.toNat * 256 + b.toNat, rest)
  | _ => .error .eofError

/-- cstruct read of `char value[n]`: EOFError on short data. -/
def readExact (d : Bytes) (n : Nat) : Py (Bytes × Bytes) :=
  if d.length < n then .error .eofError else .ok (d.take n, d.drop n)

/-- `GuardrailSetting(fh_guard)`: option, type, length (uint16 BE each), value[length]. -/
def parseSetting (d : Bytes) : Py (Setting × Bytes) :=
  match readU16 d with
  | .error e => .error e
  | .ok (opt, d1) =>
    match readU16 d1 with
    | .error e => .error e
    | .ok (ty, d2) =>
      match readU16 d2 with
      | .error e => .error e
      | .ok (len, d3) =>
        match readExact d3 len with
        | .error e => .error e
        | .ok (v, d4) => .ok ({ option := opt, type := ty, length := len, value := v }, d4)

theorem parseSetting_cons (a b c e g h : UInt8) (tail : Bytes) :
    parseSetting (a :: b :: c :: e :: g :: h :: tail)
      = if tail.length < g.toNat * 256 + h.toNat then .error .eofError
        else .ok ({ option := a.toNat * 256 + b.toNat, type := c.toNat * 256 + e.toNat, length := g.toNat * 256 + h.toNat,
                    value := tail.take (g.toNat * 256 + h.toNat) }, tail.drop (g.toNat * 256 + h.toNat)) := by
  simp only [parseSetting, readU16, readExact]
  by_cases hlt : tail.length < g.toNat * 256 + h.toNat <;> simp [hlt]

theorem parseSetting_ok {d : Bytes} {s : Setting} {rest : Bytes} (h : parseSetting d = .ok (s, rest)) :
    6 + s.length ≤ d.length ∧ rest = d.drop (6 + s.length) := by
  match d with
  | [] | [_] | [_, _] | [_, _, _] | [_, _, _, _] | [_, _, _, _, _] => cases h
  | a :: b :: c :: e :: g :: x :: tail =>
    rw [parseSetting_cons] at h
    split at h
    · cases h
    · cases h
      exact ⟨by simp only [List.length_cons]; omega,
        show List.drop _ (List.drop 6 (a :: b :: c :: e :: g :: x :: tail)) = _ from List.drop_drop⟩

theorem parseSetting_rest {d : Bytes} {s : Setting} {r : Bytes} (h : parseSetting d = .ok (s, r)) :
    r.length + 6 ≤ d.length := by
  obtain ⟨h1, rfl⟩ := parseSetting_ok h
  rw [List.length_drop]
  omega

/-- `u32be(value)` = `int.from_bytes(value[:4], "big")` (total: shorter values give smaller numbers). -/
def u32be (v : Bytes) : Nat := C20.fromBytesU .big (v.take 4)

/-- The `while True:` loop over `fh_guard = BufferedReader(BytesIO(unmasked_guard_config))`.
`d` is what is left in the reader (`peek(2)[:2]` = the next ≤ 2 bytes: the whole guard config fits the
reader's buffer).  Returns the settings and the checksum (last GUARD_PAYLOAD_CHECKSUM value wins). -/
def settingsLoop (d : Bytes) (settings : List Setting) (checksum : Nat) : Py (List Setting × Nat) :=
  if d.take 2 = [0, 0] then .ok (settings, checksum)
  else
    match h : parseSetting d with
    | .error e => if e = .eofError then .ok (settings, checksum) else .error e
    | .ok (s, rest) =>
      settingsLoop rest (settings ++ [s])
        (if s.option = GUARD_PAYLOAD_CHECKSUM then u32be s.value else checksum)
termination_by d.length
decreasing_by have := parseSetting_rest h; omega

/-! ### marker scan -/

/-- `fh.seek(off); fh.read(n)` -/
def readAt (f : PyFile) (off : Int) (n : Nat) : Py (Bytes × PyFile) :=
  match f.seekSet off with
  | .error e => .error e
  | .ok (_, f1) => .ok (f1.read n)

theorem readAt_ok (f : PyFile) (off n : Nat) :
    readAt f off n = .ok (({ f with pos := off } : PyFile).read n) := by
  have : ¬ ((off : Int) < 0) := by omega
  simp [readAt, PyFile.seekSet, this]

theorem readAt_data {f : PyFile} {off : Int} {n : Nat} {b : Bytes} {f' : PyFile}
    (h : readAt f off n = .ok (b, f')) : f'.data = f.data := by
  unfold readAt PyFile.seekSet at h
  by_cases ho : off < 0
  · simp [ho] at h
  · simp only [ho, ↓reduceIte] at h
    injection h with h
    have := congrArg (fun p => p.2.data) h
    simpa using this.symm

theorem readAt_nonempty {f : PyFile} {off : Nat} {n : Nat} {b : Bytes} {f' : PyFile}
    (h : readAt f off n = .ok (b, f')) (hb : b ≠ []) : off < f.data.length := by
  rw [readAt_ok] at h
  injection h with h
  have h1 := congrArg (fun p => p.1) h
  simp only [PyFile.read_nonneg] at h1
  apply Classical.byContradiction
  intro hge
  apply hb
  rw [← h1]
  simp
  right; omega

/-- Body of the `if xor(a[::-1], b) in xorred_guardconfig_starts:` branch once the offsets are known
to be non-negative: read both masked areas, unmask the guard configuration, parse its settings. -/
def buildMeta (f : PyFile) (xorkey : Bytes) (gco bco : Nat) : Py (Meta × PyFile) :=
  match readAt f bco BEACON_CONFIG_PATCH_SIZE with
  | .error e => .error e
  | .ok (mb, f1) =>
    let r := f1.read GUARD_PATCH_SIZE
    let mg := r.1
    let ug := C20.xor (C20.xor mg mb.reverse) xorkey
    match settingsLoop ug [] 0 with
    | .error e => .error e
    | .ok (settings, checksum) =>
      .ok ({ beaconConfigOffset := bco
             guardConfigOffset := gco
             maskedBeaconConfig := mb
             maskedGuardConfig := mg
             beaconXorKey := metaBeaconXorKey
             guardrailXorKey := xorkey
             unmaskedGuardConfig := ug
             checksum := checksum
             payloadXorKey := none
             unmaskedBeaconConfig := none
             settings := settings }, r.2)

theorem buildMeta_data {f : PyFile} {k : Bytes} {g b : Nat} {m : Meta} {f' : PyFile}
    (h : buildMeta f k g b = .ok (m, f')) : f'.data = f.data := by
  unfold buildMeta at h
  split at h
  · cases h
  · rename_i mb f1 h1
    simp only [] at h
    split at h
    · cases h
    · simp at h
      rw [← h.2]
      simp [readAt_data h1]

/-- The `while True:` scan loop, one iteration per byte offset.  `size` = `len(xorred_guardconfig_starts[0])`;
the literal `6` in `guard_config_offset = offset + 6` is the code's own. -/
def scanLoop (starts' : List Bytes) (size : Nat) (xorkey : Bytes) (f : PyFile) (offset : Nat) :
    Py (List Meta) :=
  match hr : readAt f offset (size * 2) with
  | .error e => .error e
  | .ok (block, f1) =>
    if hb : block = [] then .ok []
    else
      let a := block.take size
      let b := block.drop size
      if C20.xor a.reverse b ∈ starts' then
        let gco := offset + 6
        let bco : Int := (gco : Int) - (BEACON_CONFIG_PATCH_SIZE : Int)
        if bco < 0 then
          scanLoop starts' size xorkey f1 (offset + 1)
        else
          match hm : buildMeta f1 xorkey gco bco.toNat with
          | .error e => .error e
          | .ok (m, f2) =>
            match scanLoop starts' size xorkey f2 (offset + 1) with
            | .error e => .error e
            | .ok ms => .ok (m :: ms)
      else
        scanLoop starts' size xorkey f1 (offset + 1)
termination_by f.data.length - offset
decreasing_by
  all_goals
    have h1 := readAt_data hr
    have h2 := readAt_nonempty hr hb
    first
      | (rw [h1]; omega)
      | (have h3 := buildMeta_data hm; rw [h3, h1]; omega)

/-- `iter_guardrail_configs(fh, xorkey)` (all yielded items; the generator never raises, see
`iterGuardrailConfigs_total`).  `xorred_guardconfig_starts[0]` on an empty table is an IndexError. -/
def iterGuardrailConfigs (f : PyFile) (xorkey : Bytes := defaultGuardXorKey) : Py (List Meta) :=
  let starts' := GUARD_CONFIG_STARTS.map (C20.xor · xorkey)
  match starts' with
  | [] => .error .indexError
  | s0 :: _ => scanLoop starts' s0.length xorkey f 0

/-! ### specification of the scan, and the linear-time version the compiled driver runs

`scanLoop` re-walks the file list from the start for every offset (`seek(offset)`), which is quadratic on Lean lists and
makes payloads of 64 KiB .. 1 MiB unusable in the correspondence.  Below, the scan is proved equal to a `filterMap` of the
pure per-offset probe `probeAt`, then to a single left-to-right pass `scanFastGo`, and the compiler is told (proved
`@[csimp]` equation, no axioms) to run that pass.  Theorems keep talking about `iterGuardrailConfigs`. -/

/-! #### the guard settings loop never raises -/
theorem parseSetting_err {d : Bytes} {e : PyExc} (h : parseSetting d = .error e) : e = .eofError := by
  match d with
  | [] | [_] | [_, _] | [_, _, _] | [_, _, _, _] | [_, _, _, _, _] => cases h; rfl
  | a :: b :: c :: e :: g :: x :: tail =>
    rw [parseSetting_cons] at h
    split at h
    · cases h; rfl
    · cases h

/-- the settings loop without the exception plumbing (specification side) -/
def settingsPure (d : Bytes) (settings : List Setting) (checksum : Nat) : List Setting × Nat :=
  if d.take 2 = [0, 0] then (settings, checksum)
  else
    match h : parseSetting d with
    | .error _ => (settings, checksum)
    | .ok (s, rest) =>
      settingsPure rest (settings ++ [s])
        (if s.option = GUARD_PAYLOAD_CHECKSUM then u32be s.value else checksum)
termination_by d.length
decreasing_by have := parseSetting_rest h; omega

theorem settingsPure_step (d : Bytes) (ss : List Setting) (ck : Nat) :
    settingsPure d ss ck =
      if d.take 2 = [0, 0] then (ss, ck)
      else match parseSetting d with
        | .error _ => (ss, ck)
        | .ok (s, rest) => settingsPure rest (ss ++ [s])
            (if s.option = GUARD_PAYLOAD_CHECKSUM then u32be s.value else ck) := by
  rw [settingsPure]
  split
  · rfl
  · split <;> rename_i he <;> simp only [he]

theorem settingsLoop_eq (d : Bytes) (s : List Setting) (c : Nat) :
    settingsLoop d s c = .ok (settingsPure d s c) := by
  fun_induction settingsPure d s c with
  | case1 d s c h => unfold settingsLoop; simp [h]
  | case2 d s c h e he =>
    unfold settingsLoop
    simp only [h, ↓reduceIte]
    split
    · rename_i e' he'
      have := parseSetting_err he'
      simp [this]
    · rename_i s' r' he'
      rw [he] at he'; cases he'
  | case3 d s c h st rest he ih =>
    unfold settingsLoop
    simp only [h, ↓reduceIte]
    split
    · rename_i e' he'
      rw [he] at he'; cases he'
    · rename_i s' r' he'
      rw [he] at he'
      injection he' with he'
      injection he' with h1 h2
      subst h1; subst h2
      exact ih

/-! #### what the scan reports, offset by offset -/
/-- the metadata record the scan builds for a marker whose guard configuration starts at `gco` -/
def metaAt (data xorkey : Bytes) (gco bco : Nat) : Meta :=
  let mb := (data.drop bco).take BEACON_CONFIG_PATCH_SIZE
  let mg := (data.drop (bco + mb.length)).take GUARD_PATCH_SIZE
  let ug := C20.xor (C20.xor mg mb.reverse) xorkey
  let r := settingsPure ug [] 0
  { beaconConfigOffset := bco
    guardConfigOffset := gco
    maskedBeaconConfig := mb
    maskedGuardConfig := mg
    beaconXorKey := metaBeaconXorKey
    guardrailXorKey := xorkey
    unmaskedGuardConfig := ug
    checksum := r.2
    payloadXorKey := none
    unmaskedBeaconConfig := none
    settings := r.1 }

theorem buildMeta_eq (f : PyFile) (k : Bytes) (gco bco : Nat) :
    ∃ f', buildMeta f k gco bco = .ok (metaAt f.data k gco bco, f') ∧ f'.data = f.data := by
  unfold buildMeta
  rw [readAt_ok]
  simp only [settingsLoop_eq]
  refine ⟨_, rfl, ?_⟩
  simp

/-- marker relation at `offset` -/
def markerAt (data : Bytes) (starts' : List Bytes) (size offset : Nat) : Prop :=
  C20.xor (((data.drop offset).take (size * 2)).take size).reverse (((data.drop offset).take (size * 2)).drop size) ∈ starts'

instance (data : Bytes) (starts' : List Bytes) (size offset : Nat) : Decidable (markerAt data starts' size offset) := by
  unfold markerAt; infer_instance

/-- what one iteration of the scan reports at `offset` -/
def probeAt (data : Bytes) (starts' : List Bytes) (size : Nat) (xorkey : Bytes) (offset : Nat) : Option Meta :=
  if markerAt data starts' size offset ∧ BEACON_CONFIG_PATCH_SIZE ≤ offset + 6 then
    some (metaAt data xorkey (offset + 6) (offset + 6 - BEACON_CONFIG_PATCH_SIZE))
  else none

theorem readAt_eq (f : PyFile) (off n : Nat) :
    readAt f off n = .ok ((f.data.drop off).take n, { f with pos := off + ((f.data.drop off).take n).length }) := by
  have h : ¬ ((n : Int) < 0) := by omega
  rw [readAt_ok]
  simp only [PyFile.read, h, if_false, Int.toNat_natCast]

theorem scanLoop_eq (st : List Bytes) (size : Nat) (hsize : 0 < size) (k : Bytes) (n : Nat) :
    ∀ (f : PyFile) (offset : Nat), f.data.length - offset = n →
      scanLoop st size k f offset = .ok ((List.range' offset n).filterMap (probeAt f.data st size k)) := by
  induction n with
  | zero =>
    intro f offset hn
    unfold scanLoop
    split
    · rename_i e he; rw [readAt_eq] at he; cases he
    · rename_i block f1 he
      rw [readAt_eq, List.drop_eq_nil_of_le (by omega), List.take_nil] at he
      cases he
      rfl
  | succ n ih =>
    intro f offset hn
    -- wherever an iteration leaves the file position, the rest of the scan reports the remaining offsets
    have ih1 : ∀ g : PyFile, g.data = f.data →
        scanLoop st size k g (offset + 1) = .ok ((List.range' (offset + 1) n).filterMap (probeAt f.data st size k)) := by
      intro g hg
      rw [← hg]
      exact ih g (offset + 1) (by rw [hg]; omega)
    unfold scanLoop
    split
    · rename_i e he; rw [readAt_eq] at he; cases he
    · rename_i block f1 he
      rw [readAt_eq] at he
      cases he
      have hne : (f.data.drop offset).take (size * 2) ≠ [] := by
        intro h0
        have := congrArg List.length h0
        rw [List.length_take, List.length_drop, List.length_nil] at this
        omega
      rw [dif_neg hne, List.range'_succ, List.filterMap_cons]
      by_cases hmk : markerAt f.data st size offset
      · simp only [show C20.xor _ _ ∈ st from hmk, ↓reduceIte]
        by_cases hlt : (↑(offset + 6) : Int) - ↑BEACON_CONFIG_PATCH_SIZE < 0
        · have hp : probeAt f.data st size k offset = none := if_neg (fun h => by omega)
          simp only [hlt, ↓reduceIte]
          rw [hp]
          exact ih1 _ rfl
        · have hge : BEACON_CONFIG_PATCH_SIZE ≤ offset + 6 := by omega
          have hp : probeAt f.data st size k offset
              = some (metaAt f.data k (offset + 6) (offset + 6 - BEACON_CONFIG_PATCH_SIZE)) := if_pos ⟨hmk, hge⟩
          have hto : ((↑(offset + 6) : Int) - ↑BEACON_CONFIG_PATCH_SIZE).toNat = offset + 6 - BEACON_CONFIG_PATCH_SIZE := by omega
          simp only [hlt, ↓reduceIte]
          rw [hto]
          obtain ⟨f2, hb, hd2⟩ := buildMeta_eq { f with pos := offset + ((f.data.drop offset).take (size * 2)).length } k
            (offset + 6) (offset + 6 - BEACON_CONFIG_PATCH_SIZE)
          split
          · rename_i e he2; rw [hb] at he2; cases he2
          · rename_i m f2' he2
            rw [hb] at he2
            obtain ⟨rfl, rfl⟩ := Prod.mk.inj (Except.ok.inj he2)
            rw [ih1 _ hd2, hp]
      · have hp : probeAt f.data st size k offset = none := if_neg (fun h => hmk h.1)
        simp only [show ¬ C20.xor _ _ ∈ st from hmk, ↓reduceIte]
        rw [hp]
        exact ih1 _ rfl

theorem xor_length_model (d k : Bytes) : (C20.xor d k).length = d.length := by
  unfold C20.xor; split <;> simp [C20.xorCore]

theorem starts_length_model : ∀ s ∈ GUARD_CONFIG_STARTS, s.length = 6 := by decide

/-- masked starts the scan compares against -/
def maskedStarts (xorkey : Bytes) : List Bytes := GUARD_CONFIG_STARTS.map (C20.xor · xorkey)

/-- `size = len(xorred_guardconfig_starts[0])` is 6 -/
theorem masked_first (key : Bytes) : ∃ s0 rest, maskedStarts key = s0 :: rest ∧ s0.length = 6 :=
  ⟨_, _, rfl, (xor_length_model _ key).trans (starts_length_model _ (List.mem_cons_self ..))⟩

/-- The scan never raises (BytesIO or OS file, any mask key) and reports, in increasing offset order, exactly the
offsets where the marker relation holds and a 6144-byte area fits in front. -/
theorem iterGuardrailConfigs_eq_probe (f : PyFile) (xorkey : Bytes) :
    iterGuardrailConfigs f xorkey =
      .ok ((List.range f.data.length).filterMap (probeAt f.data (maskedStarts xorkey) 6 xorkey)) := by
  obtain ⟨s0, rest, hm, h6⟩ := masked_first xorkey
  have hs : GUARD_CONFIG_STARTS.map (C20.xor · xorkey) = maskedStarts xorkey := rfl
  simp only [iterGuardrailConfigs, hs, hm]
  rw [h6, ← hm, scanLoop_eq (maskedStarts xorkey) 6 (by omega) xorkey f.data.length f 0 (by omega), List.range_eq_range']

/-- one pass over the file: `suffix = data.drop offset` -/
def scanFastGo (data : Bytes) (starts' : List Bytes) (size : Nat) (xorkey : Bytes) :
    Bytes → Nat → List Meta → List Meta
  | [], _, acc => acc.reverse
  | b :: rest, offset, acc =>
    let block := (b :: rest).take (size * 2)
    let acc' :=
      if C20.xor (block.take size).reverse (block.drop size) ∈ starts' ∧ BEACON_CONFIG_PATCH_SIZE ≤ offset + 6 then
        metaAt data xorkey (offset + 6) (offset + 6 - BEACON_CONFIG_PATCH_SIZE) :: acc
      else acc
    scanFastGo data starts' size xorkey rest (offset + 1) acc'

theorem scanFastGo_eq (data : Bytes) (st : List Bytes) (size : Nat) (k : Bytes) (n : Nat) :
    ∀ (offset : Nat) (acc : List Meta), data.length - offset = n →
      scanFastGo data st size k (data.drop offset) offset acc
        = acc.reverse ++ (List.range' offset n).filterMap (probeAt data st size k) := by
  induction n with
  | zero =>
    intro offset acc hn
    have : data.drop offset = [] := List.drop_eq_nil_of_le (by omega)
    rw [this]; simp [scanFastGo]
  | succ n ih =>
    intro offset acc hn
    have hlt : offset < data.length := by omega
    have hcons : data.drop offset = data[offset] :: data.drop (offset + 1) := by
      rw [List.drop_eq_getElem_cons hlt]
    rw [hcons]
    simp only [scanFastGo]
    rw [← hcons, ih (offset + 1) _ (by omega)]
    have hr : List.range' offset (n + 1) = offset :: List.range' (offset + 1) n := by simp [List.range']
    rw [hr, List.filterMap_cons]
    unfold probeAt markerAt
    split <;> simp

def iterGuardrailConfigsFast (f : PyFile) (xorkey : Bytes) : Py (List Meta) :=
  .ok (scanFastGo f.data (maskedStarts xorkey) 6 xorkey f.data 0 [])

@[csimp] theorem iterGuardrailConfigs_eq_fast : @iterGuardrailConfigs = @iterGuardrailConfigsFast := by
  funext f xorkey
  rw [iterGuardrailConfigs_eq_probe]
  unfold iterGuardrailConfigsFast
  have := scanFastGo_eq f.data (maskedStarts xorkey) 6 xorkey f.data.length 0 [] (by omega)
  simp only [List.drop_zero, List.reverse_nil, List.nil_append] at this
  rw [this, List.range_eq_range']

/-! ### key candidates -/

/-- `io.DEFAULT_BUFFER_SIZE` -/
def DEFAULT_BUFFER_SIZE : Nat := 8192

/-- `iter(functools.partial(fh.read, n), b"")` from position 0. -/
def chunks (n : Nat) (d : Bytes) : List Bytes :=
  if h : n = 0 ∨ d = [] then []
  else d.take n :: chunks n (d.drop n)
termination_by d.length
decreasing_by
  have : d.length ≠ 0 := by intro h0; exact h (Or.inr (List.length_eq_zero_iff.mp h0))
  simp; omega

/-- `grouper(chunk, n, fillvalue=0)` followed by `bytes(gram)`. -/
def grouper (n : Nat) (d : Bytes) : List Bytes :=
  if h : n = 0 ∨ d = [] then []
  else (d.take n ++ List.replicate (n - (d.take n).length) 0) :: grouper n (d.drop n)
termination_by d.length
decreasing_by
  have : d.length ≠ 0 := by intro h0; exact h (Or.inr (List.length_eq_zero_iff.mp h0))
  simp; omega

/-- `collections.Counter`: association list in first-insertion order. -/
abbrev Counter := List (Bytes × Nat)

def Counter.incr : Counter → Bytes → Counter
  | [], k => [(k, 1)]
  | (k', n) :: rest, k => if k' = k then (k', n + 1) :: rest else (k', n) :: Counter.incr rest k

/-- byte-string equality specialised to `UInt8` (compiled code only, see `incr_eq_incrFast`) -/
def bytesEq : Bytes → Bytes → Bool
  | [], [] => true
  | a :: as, b :: bs => a == b && bytesEq as bs
  | _, _ => false

theorem bytesEq_iff (a b : Bytes) : bytesEq a b = true ↔ a = b := by
  induction a generalizing b with
  | nil => cases b <;> simp [bytesEq]
  | cons x xs ih =>
    cases b with
    | nil => simp [bytesEq]
    | cons y ys => simp [bytesEq, ih]

def Counter.incrFast : Counter → Bytes → Counter
  | [], k => [(k, 1)]
  | (k', n) :: rest, k => if bytesEq k' k then (k', n + 1) :: rest else (k', n) :: Counter.incrFast rest k

/-- the generic `DecidableEq (List UInt8)` costs ~300 instructions per comparison in compiled code; the driver runs
this specialised, proved-equal version instead (the model and the theorems keep `Counter.incr`). -/
@[csimp] theorem incr_eq_incrFast : @Counter.incr = @Counter.incrFast := by
  funext c k
  induction c with
  | nil => rfl
  | cons p rest ih =>
    obtain ⟨k', n⟩ := p
    simp only [Counter.incr, Counter.incrFast, ih]
    by_cases h : k' = k
    · subst h
      have := (bytesEq_iff k' k').mpr rfl
      simp [this]
    · have : bytesEq k' k = false := by
        cases hb : bytesEq k' k with
        | false => rfl
        | true => exact absurd ((bytesEq_iff k' k).mp hb) h
      simp [h, this]

/-- `counter.update(iterable)` -/
def Counter.update (c : Counter) (ks : List Bytes) : Counter := ks.foldl Counter.incr c

/-- the earliest entry among those with the largest count -/
def maxFirst : Counter → Option (Bytes × Nat)
  | [] => none
  | x :: rest =>
    match maxFirst rest with
    | none => some x
    | some y => if y.2 > x.2 then some y else some x

/-- `counter.most_common(2)` (= `heapq.nlargest(2, items, key=count)`: count descending, ties by first insertion). -/
def mostCommon2 (c : Counter) : List (Bytes × Nat) :=
  match maxFirst c with
  | none => []
  | some a => a :: (maxFirst (c.erase a)).toList

/-- `first_count = 0; for key, count in ...: if count >= first_count: first_count = count; yield key else: break` -/
def yieldLoop (firstCount : Nat) : List (Bytes × Nat) → List Bytes
  | [] => []
  | (k, c) :: rest => if c ≥ firstCount then k :: yieldLoop c rest else []

/-- the Counter built for one key length -/
def counterFor (bufSize keylen : Nat) (data : Bytes) : Counter :=
  (chunks bufSize data).foldl (fun c chunk => c.update (grouper keylen chunk)) []

/-- keys yielded for one key length -/
def candidatesAt (bufSize : Nat) (data : Bytes) (keylen : Nat) : List Bytes :=
  yieldLoop 0 (mostCommon2 (counterFor bufSize keylen data))

/-- `find_xor_key_candidates(io.BytesIO(data))`: `for keylen in range(2, 257)`. -/
def findXorKeyCandidates (data : Bytes) (bufSize : Nat := DEFAULT_BUFFER_SIZE) : List Bytes :=
  (List.range' 2 255).flatMap (candidatesAt bufSize data)

/-! ### checksum and key selection -/

def checksumGo : Bytes → Nat → Nat → Nat
  | [], _, n => n
  | b :: bs, i, n => checksumGo bs (i + 1) ((n + b.toNat * (i % 3 + 1)) % 99999999)

/-- `payload_checksum(data)` -/
def payloadChecksum (d : Bytes) : Nat := checksumGo d 0 0

/-- `for xorkey in candidates: ... if grconfig.checksum == checksum: ...; break` -/
def selectKey (guarded : Bytes) (stored : Nat) : List Bytes → Option (Bytes × Bytes)
  | [] => none
  | k :: ks =>
    let unguarded := C20.xor guarded k
    if stored = payloadChecksum unguarded + 1 then some (k, unguarded)
    else selectKey guarded stored ks

/-- body of `for grconfig in iter_guardrail_configs(fh):` in `iter_guardrail_configs_with_beacon` -/
def withBeaconOne (bufSize : Nat) (m : Meta) : Meta :=
  let m1 := { m with beaconXorKey := beaconXorKey }
  let guarded := C20.xor m1.maskedBeaconConfig m1.beaconXorKey
  match selectKey guarded m1.checksum (findXorKeyCandidates guarded bufSize) with
  | some (k, u) => { m1 with payloadXorKey := some k, unmaskedBeaconConfig := some u }
  | none => m1

/-- `iter_guardrail_configs_with_beacon(fh)` -/
def iterGuardrailConfigsWithBeacon (f : PyFile) (bufSize : Nat := DEFAULT_BUFFER_SIZE) : Py (List Meta) :=
  match iterGuardrailConfigs f with
  | .error e => .error e
  | .ok ms => .ok (ms.map (withBeaconOne bufSize))

/-- `not grconfig.unmasked_beacon_config` (None or b"") -/
def Meta.hasConfig (m : Meta) : Bool :=
  match m.unmaskedBeaconConfig with
  | some (_ :: _) => true
  | _ => false

/-- The Guardrails fallback of `BeaconConfig.from_file` on `fxor`: the first metadata with an unmasked
configuration becomes `bconfig.guardrails` (and its `unmasked_beacon_config` the config block);
otherwise `ValueError("No valid Beacon configuration found")`. -/
def fromFileFallback (fxor : PyFile) (bufSize : Nat := DEFAULT_BUFFER_SIZE) : Py Meta :=
  match iterGuardrailConfigsWithBeacon fxor bufSize with
  | .error e => .error e
  | .ok ms =>
    match ms.find? Meta.hasConfig with
    | some m => .ok m
    | none => .error .valueError

end C17

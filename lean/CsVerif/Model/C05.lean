import CsVerif.Model.Basic
import CsVerif.Model.PyFile
import CsVerif.Model.C20
/-
C05 — packet encryption and framing
(dissect/cobaltstrike/c2.py: EncryptedPacket.dumps / raise_for_signature,
 ServerC2Data / ClientC2Data.iter_encrypted_packets, pad, encrypt_data, decrypt_data,
 decrypt_packet, encrypt_packet)

AES-CBC and HMAC-SHA256 are *parameters* (`Crypto`); the assumptions about them that the theorems
use are collected in `CryptoLaws`.  Everything else — padding, truncation of the MAC to 16 bytes,
the order "verify, then decrypt", which exception is raised, the framing — is decided by the model.
Every function that touches a primitive also returns the list of primitive calls it made
(`Traced`), so that "AES is not invoked when the packet is rejected" is a statement about the model.
-/
namespace C05

/-- The primitives, in the argument order `key iv data` / `key msg`.
`aesCbcEnc k iv d` stands for `AES.new(k, AES.MODE_CBC, iv=iv).encrypt(d)` (one call),
`aesCbcDec` for `.decrypt(d)`, `hmacSha256 k m` for `hmac.new(k, m, "sha256").digest()`. -/
structure Crypto where
  aesCbcEnc : Bytes → Bytes → Bytes → Py Bytes
  aesCbcDec : Bytes → Bytes → Bytes → Py Bytes
  hmacSha256 : Bytes → Bytes → Bytes

/-- One invocation of a primitive, with its arguments. -/
inductive Call
  | hmac (key msg : Bytes)
  | aesEnc (key iv data : Bytes)
  | aesDec (key iv data : Bytes)
  deriving DecidableEq, Repr

def Call.isAes : Call → Bool
  | .hmac .. => false
  | .aesEnc .. => true
  | .aesDec .. => true

/-- result together with the primitive calls made, in order -/
abbrev Traced (α : Type) := Py α × List Call

/-- `EncryptedPacket(ciphertext, signature)` -/
structure Packet where
  ciphertext : Bytes
  signature : Bytes
  deriving DecidableEq, Repr

/-! ### padding -/

/-- `pad(data, block_size)`: `to_pad = block_size - len(data) % block_size`, `data + b"A" * to_pad`.
(`block_size = 0` raises ZeroDivisionError in Python and is outside the model; the library only
uses the default 16.) -/
def padTo (blockSize : Nat) (data : Bytes) : Bytes :=
  data ++ List.replicate (blockSize - data.length % blockSize) 0x41

/-- `pad(data)` with the default `block_size = AES.block_size = 16` -/
def pad (data : Bytes) : Bytes := padTo 16 data

/-! ### encrypt_data / decrypt_data -/

/-- `encrypt_data(data, aes_key, iv)`; `aes_key is None` raises ValueError before AES is touched. -/
def encryptDataT (c : Crypto) (data : Bytes) (aesKey : Option Bytes) (iv : Bytes) : Traced Bytes :=
  match aesKey with
  | none => (.error .valueError, [])
  | some k => (c.aesCbcEnc k iv (pad data), [.aesEnc k iv (pad data)])

/-- `decrypt_data(data, aes_key, iv)`; no unpadding. -/
def decryptDataT (c : Crypto) (data : Bytes) (aesKey : Option Bytes) (iv : Bytes) : Traced Bytes :=
  match aesKey with
  | none => (.error .valueError, [])
  | some k => (c.aesCbcDec k iv data, [.aesDec k iv data])

def encryptData (c : Crypto) (data : Bytes) (aesKey : Option Bytes) (iv : Bytes) : Py Bytes :=
  (encryptDataT c data aesKey iv).1

def decryptData (c : Crypto) (data : Bytes) (aesKey : Option Bytes) (iv : Bytes) : Py Bytes :=
  (decryptDataT c data aesKey iv).1

/-! ### signatures -/

/-- the 16-byte tag: `hmac.new(key, ct, "sha256").digest()[:16]` -/
def mac16 (c : Crypto) (hmacKey ct : Bytes) : Bytes := (c.hmacSha256 hmacKey ct).take 16

/-- `EncryptedPacket.raise_for_signature(hmac_key)` (`hmac_key` is a bytes object here; `b""` is
a legal HMAC key). -/
def raiseForSignatureT (c : Crypto) (p : Packet) (hmacKey : Bytes) : Traced Unit :=
  (if mac16 c hmacKey p.ciphertext ≠ p.signature then .error .valueError else .ok (),
   [.hmac hmacKey p.ciphertext])

def raiseForSignature (c : Crypto) (p : Packet) (hmacKey : Bytes) : Py Unit :=
  (raiseForSignatureT c p hmacKey).1

/-! ### encrypt_packet / decrypt_packet -/

/-- `encrypt_packet(plaintext, aes_key, hmac_key, iv)`.  `hmac_key = None` makes `hmac.new`
raise TypeError, after the encryption has already been done. -/
def encryptPacketT (c : Crypto) (plaintext : Bytes) (aesKey hmacKey : Option Bytes) (iv : Bytes) :
    Traced Packet :=
  match encryptDataT c plaintext aesKey iv with
  | (.error e, log) => (.error e, log)
  | (.ok ct, log) =>
    match hmacKey with
    | none => (.error .typeError, log)
    | some hk => (.ok ⟨ct, mac16 c hk ct⟩, log ++ [.hmac hk ct])

def encryptPacket (c : Crypto) (plaintext : Bytes) (aesKey hmacKey : Option Bytes) (iv : Bytes) :
    Py Packet :=
  (encryptPacketT c plaintext aesKey hmacKey iv).1

/-- `decrypt_packet(packet, aes_key, hmac_key, iv, verify)`:
`if verify: if not hmac_key: raise ValueError; packet.raise_for_signature(hmac_key)` and only then
`decrypt_data`. -/
def decryptPacketT (c : Crypto) (p : Packet) (aesKey hmacKey : Option Bytes) (iv : Bytes)
    (verify : Bool) : Traced Bytes :=
  if verify then
    match hmacKey with
    | none => (.error .valueError, [])
    | some [] => (.error .valueError, [])
    | some (b :: bs) =>
      match raiseForSignatureT c p (b :: bs) with
      | (.error e, log) => (.error e, log)
      | (.ok (), log) =>
        let r := decryptDataT c p.ciphertext aesKey iv
        (r.1, log ++ r.2)
  else decryptDataT c p.ciphertext aesKey iv

def decryptPacket (c : Crypto) (p : Packet) (aesKey hmacKey : Option Bytes) (iv : Bytes)
    (verify : Bool) : Py Bytes :=
  (decryptPacketT c p aesKey hmacKey iv verify).1

/-! ### framing -/

/-- `p32be(n) = pack(n, size=4, byteorder="big")` (OverflowError for `n ≥ 2^32`). -/
def p32be (n : Nat) : Py Bytes := C20.pack (n : Int) (some 4) .big false

/-- `EncryptedPacket.dumps()`: `p32be(len(ct + sig)) + ct + sig` -/
def dumps (p : Packet) : Py Bytes :=
  (p32be ((p.ciphertext ++ p.signature).length)).map (· ++ (p.ciphertext ++ p.signature))

/-- `c2struct.uint32(fobj)` on a big-endian cstruct: 4 bytes, EOFError when fewer are left. -/
def readU32be (f : PyFile) : Py (Nat × PyFile) :=
  let r := f.read 4
  if r.1.length < 4 then .error .eofError else .ok (C20.fromBytesU .big r.1, r.2)

/-- One iteration of the `while data:` loop of `ClientC2Data.iter_encrypted_packets`:
the packet that is yielded and the `data` of the next iteration.
`fobj.read(size - 16)` is called with a NEGATIVE argument when `size < 16`, which reads everything. -/
def iterClientStep (data : Bytes) : Py (Packet × Bytes) :=
  match readU32be (PyFile.ofBytes data) with
  | .error e => .error e
  | .ok (size, f) =>
    let r1 := f.read ((size : Int) - 16)
    let r2 := r1.2.read 16
    let r3 := r2.2.readAll
    .ok (⟨r1.1, r2.1⟩, r3.1)

/-- what is left to read -/
def remaining (f : PyFile) : Bytes := f.data.drop f.pos

theorem read_of_neg (f : PyFile) (n : Int) (h : n < 0) : (f.read n).1 = remaining f ∧ remaining (f.read n).2 = [] :=
  ⟨PyFile.read_neg f n h, PyFile.read_neg_rest f n h⟩

theorem read_of_nonneg (f : PyFile) (n : Int) (h : 0 ≤ n) :
    (f.read n).1 = (remaining f).take n.toNat ∧ remaining (f.read n).2 = (remaining f).drop n.toNat := by
  obtain ⟨k, rfl⟩ := Int.eq_ofNat_of_zero_le h
  exact ⟨PyFile.read_nonneg f k, PyFile.read_nonneg_rest f k⟩

theorem readAll_fst (f : PyFile) : f.readAll.1 = remaining f := PyFile.read_neg f (-1) (by decide)

theorem readU32be_ofBytes (data : Bytes) :
    readU32be (PyFile.ofBytes data) =
      if data.length < 4 then .error .eofError
      else .ok (C20.fromBytesU .big (data.take 4), { data := data, pos := 4 }) := by
  unfold readU32be
  have e : (PyFile.ofBytes data).read 4 = (data.take 4, { data := data, pos := (data.take 4).length }) := by
    simp [PyFile.read, PyFile.ofBytes]
  rw [e]
  simp only [List.length_take]
  by_cases h : data.length < 4
  · rw [if_pos (by omega), if_pos h]
  · rw [if_neg (by omega), if_neg h]
    have : min 4 data.length = 4 := by omega
    rw [this]

/-- list-level description of one loop iteration -/
theorem iterClientStep_eq (data : Bytes) :
    iterClientStep data =
      if data.length < 4 then .error .eofError
      else
        let size := C20.fromBytesU .big (data.take 4)
        let body := data.drop 4
        if size < 16 then .ok (⟨body, []⟩, [])
        else .ok (⟨body.take (size - 16), (body.drop (size - 16)).take 16⟩, body.drop size) := by
  unfold iterClientStep
  rw [readU32be_ofBytes]
  by_cases h : data.length < 4
  · simp only [if_pos h]
  · simp only [if_neg h]
    generalize C20.fromBytesU .big (data.take 4) = size
    obtain ⟨h3, h4⟩ := read_of_nonneg (PyFile.read ⟨data, 4, .bytesIO⟩ ((size : Int) - 16)).2 16 (by decide)
    rw [readAll_fst, h4, h3]
    by_cases hs : size < 16
    · obtain ⟨h1, h2⟩ := read_of_neg ⟨data, 4, .bytesIO⟩ ((size : Int) - 16) (by omega)
      rw [if_pos hs, h2, h1]
      rfl
    · obtain ⟨h1, h2⟩ := read_of_nonneg ⟨data, 4, .bytesIO⟩ ((size : Int) - 16) (by omega)
      rw [if_neg hs, h2, h1, List.drop_drop, show ((size : Int) - 16).toNat = size - 16 by omega,
        show size - 16 + (16 : Int).toNat = size by omega]
      rfl

/-- every iteration consumes at least the 4 bytes of the size field (termination of the loop) -/
theorem iterClientStep_consumes {data : Bytes} {p : Packet} {rest : Bytes}
    (h : iterClientStep data = .ok (p, rest)) : rest.length + 4 ≤ data.length := by
  rw [iterClientStep_eq] at h
  split at h
  · cases h
  · simp only at h
    split at h <;> cases h
    · simp only [List.length_nil]; omega
    · simp only [List.length_drop]; omega

/-- A generator's observable behaviour: the items yielded, then either exhaustion (`none`) or the
exception that ended the iteration. -/
abbrev GenResult (α : Type) := List α × Option PyExc

set_option linter.unusedVariables false in
/-- `ClientC2Data(output=data).iter_encrypted_packets()` for a bytes `data`.
Terminates because `iterClientStep_consumes`: the next `data` is at least 4 bytes shorter. -/
def iterClientPackets (data : Bytes) : GenResult Packet :=
  if data.isEmpty then ([], none)
  else
    match hstep : iterClientStep data with
    | .error e => ([], some e)
    | .ok (p, rest) =>
      let r := iterClientPackets rest
      (p :: r.1, r.2)
termination_by data.length
decreasing_by
  have hlt := iterClientStep_consumes hstep
  omega

/-- `ClientC2Data(output=…)`: `output` may be `None` (`while None:` does not loop). -/
def iterClient (output : Option Bytes) : GenResult Packet :=
  match output with
  | none => ([], none)
  | some d => iterClientPackets d

/-- `ServerC2Data(output=…).iter_encrypted_packets()`: nothing for `None`/`b""`, otherwise exactly
one packet; `read(len(data) - 16)` has a negative argument for `len(data) < 16`. -/
def iterServerPacket (output : Option Bytes) : List Packet :=
  match output with
  | none => []
  | some data =>
    if data.isEmpty then []
    else
      let f := PyFile.ofBytes data
      let r1 := f.read ((data.length : Int) - 16)
      let r2 := r1.2.read 16
      [⟨r1.1, r2.1⟩]

/-- concatenation of the framed packets (`b"".join(p.dumps() for p in ps)`) -/
def dumpsAll : List Packet → Py Bytes
  | [] => .ok []
  | p :: ps => (dumps p).bind fun b => (dumpsAll ps).map (b ++ ·)

/-! ### What is assumed about the primitives -/

/-- The argument combinations pycryptodome accepts: `AES.new(key, MODE_CBC, iv=iv)` raises ValueError
unless `len(key) ∈ {16, 24, 32}` and `len(iv) = 16`; `encrypt`/`decrypt` raise ValueError unless
`len(data) % 16 = 0`. -/
def AesArgsOk (key iv data : Bytes) : Prop :=
  (key.length = 16 ∨ key.length = 24 ∨ key.length = 32) ∧ iv.length = 16 ∧ data.length % 16 = 0

instance (key iv data : Bytes) : Decidable (AesArgsOk key iv data) := by
  unfold AesArgsOk; infer_instance

/-- Exactly the assumptions about AES-CBC and HMAC-SHA256 that the C05 theorems use. -/
structure CryptoLaws (c : Crypto) : Prop where
  /-- encryption succeeds on admissible arguments, keeps the length, and decryption inverts it -/
  dec_enc : ∀ k iv p, AesArgsOk k iv p →
    ∃ ct, c.aesCbcEnc k iv p = .ok ct ∧ ct.length = p.length ∧ c.aesCbcDec k iv ct = .ok p
  /-- decryption succeeds on admissible arguments and keeps the length -/
  dec_total : ∀ k iv ct, AesArgsOk k iv ct → ∃ p, c.aesCbcDec k iv ct = .ok p ∧ p.length = ct.length
  /-- ValueError for a bad key length, bad IV length or data that is not block aligned -/
  enc_raises : ∀ k iv p, ¬ AesArgsOk k iv p → c.aesCbcEnc k iv p = .error .valueError
  dec_raises : ∀ k iv ct, ¬ AesArgsOk k iv ct → c.aesCbcDec k iv ct = .error .valueError
  /-- a SHA-256 digest has 32 bytes -/
  hmac_len : ∀ k m, (c.hmacSha256 k m).length = 32

/-- A toy instance (repeating-key XOR "cipher", prefix "MAC") showing the laws are satisfiable. -/
def toyCrypto : Crypto where
  aesCbcEnc k iv d := if AesArgsOk k iv d then .ok (C20.xor d (k ++ iv)) else .error .valueError
  aesCbcDec k iv d := if AesArgsOk k iv d then .ok (C20.xor d (k ++ iv)) else .error .valueError
  hmacSha256 k m := (k ++ m ++ List.replicate 32 0).take 32

end C05

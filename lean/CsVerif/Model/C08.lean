import CsVerif.Model.PyFile
import CsVerif.Model.C15
import CsVerif.Model.C09
import CsVerif.Model.C18
import CsVerif.Model.C02
import CsVerif.Model.C17
import CsVerif.Model.C16
import CsVerif.Model.C01
/-
C08 — untrusted input never crashes or hangs the parsers

A COMPOSITION of the finished models; nothing is re-modelled here.  The entry points of the library that accept
untrusted bytes, as `Py`-valued functions over `PyFile` (io.BytesIO / OS file opened "rb"):

  dissect/cobaltstrike/beacon.py     BeaconConfig.from_bytes / from_file / from_path        → `fromBytes` `fromFile` `fromPath`
  dissect/cobaltstrike/xordecode.py  XorEncodedFile.from_file                               → `xorEncodedFromFile`
  dissect/cobaltstrike/pe.py         find_mz_offset find_architecture find_compile_stamps
                                     find_magic_mz find_magic_pe find_stage_prepend_append  → `peFind*`
  dissect/cobaltstrike/artifact.py   iter_artifactkit_payloads (run to completion)          → `iterArtifactkitPayloads`
  dissect/cobaltstrike/c2.py         parse_raw_http                                         → `parseRawHttp`

Pieces used (read-only): `C15.iterFindNeedle` / `C15.iterArtifactkit` (block scan, ArtifactKit scan),
`C09.iterNonceOffsets` / `mk'` / `findMzOffset` / `candidates` through `C01.detectRun` (the XorEncoded detector),
`C01.pass` / `C01.leftKeys` (the two search phases and the all-keys retry of `iter_beacon_config_blocks`),
`C02.iterSettingsE` (`BeaconConfig.__init__`), `C17.fromFileFallback` (Guardrails fallback), the `C18` PE helpers,
`C16.parseRawHttp`.

Totality: every function below and every function it calls was accepted by Lean with a termination proof.
Two imported loops carry an explicit guard instead of a bare measure:
  * `C02.iterLoop` / `uaLoop` use fuel `remaining + 1`; `C02.iterSettingsE_eq` proves it always suffices;
  * `C01.scanLoop` / `countLoop` test `F.remaining s' < F.remaining s` and would answer `timeoutDiverge` otherwise;
    `C01.pass_spec` and `C01.countLoop_ok` (`Lemmas/C01.lean`) prove the test never fails.
No other fuel exists; `Props/C08.lean` proves that `timeoutDiverge` (and every other non-ValueError) is unreachable.

The XorEncoded view.  After a successful detection at nonce offset `c`, `from_file` hands the *view* to
`pe.find_compile_stamps`, `pe.find_architecture` and `iter_guardrail_configs_with_beacon`.  C09 proves
(`history_refines`) that for every history of `seek`/`read`/`tell` whose seeks land at logical positions ≥ 0 the view
is indistinguishable from an ordinary file over the decoded bytes; those three clients only seek to non-negative
absolute offsets (proved for the PyFile models in `Lemmas/C08.lean`).  `viewFile` is that ordinary file, and the three
clients are run on it (the same modelling step as `Driver/C17.lean` `ffx`).  The block search itself runs on the real
view model (`C01.xorView`), with C01's simulation proof.
-/
namespace C08

/-- `io.DEFAULT_BUFFER_SIZE` -/
def BUF : Nat := 8192

/-- default `maxrange` of the `pe.find_*` helpers and of `XorEncodedFile.from_file` -/
def MAXRANGE : Nat := 1024

/-! ### `XorEncodedFile.from_file(fh)` -/

/-- `XorEncodedFile.from_file(fh)`; the value is the nonce offset of the returned view
(`ValueError("MZ header not found …")` when no candidate passes the MZ check). -/
def xorEncodedFromFile (B : Nat) (f : PyFile) : Py Nat :=
  match C01.detectRun B f with
  | .error e => .error e
  | .ok (some x, _) => .ok x.nonceOff
  | .ok (none, _) => .error .valueError

/-! ### `pe.find_*(fh)` with the default `start_offset=0, maxrange=1024` -/

def peFindMzOffset (f : PyFile) : Py (Option Nat) := .ok (C18.findMzOffset f (some 0) MAXRANGE).1

def peFindArchitecture (f : PyFile) : Py (Option C18.Arch) := .ok (C18.findArchitecture f (some 0) MAXRANGE).1

def peFindCompileStamps (f : PyFile) : Py (Option Int × Option Int) := (C18.findCompileStamps f (some 0) MAXRANGE).1

def peFindMagicMz (f : PyFile) : Py (Option Bytes) := .ok (C18.findMagicMz f (some 0) MAXRANGE).1

def peFindMagicPe (f : PyFile) : Py (Option Bytes) := (C18.findMagicPe f (some 0) MAXRANGE).1

def peFindStagePrependAppend (f : PyFile) : Py (Option Bytes × Option Bytes) :=
  (C18.findStagePrependAppend f (some 0) MAXRANGE).1

/-! ### `pe.find_stage_prepend_append` on a file object with a largest seekable offset

`PyFile.seekSet` accepts every non-negative offset.  A real file does not: `lseek` fails with EINVAL (→ `OSError`) for an
offset above the file system's largest file offset `L` (measured in the sandbox, ext4 with 4 KiB blocks:
`L = 2^44 - 4096`; tmpfs / xfs: `2^63 - 1`), and every file object raises `OverflowError` above `2^63 - 1`.  Every seek
argument of the anchored code is below `2^34` — except `fh.seek(mz_offset + size)` of `find_stage_prepend_append`, whose
`size` sums up to 65535 attacker-chosen `SizeOfRawData` dwords (≈ 2^48).

The code as it is now (fix ce8ae1d) wraps exactly that seek:

    try:
        fh.seek(mz_offset + size)
    except (OSError, OverflowError, ValueError):
        return (prepend, None)

`prependAppendAtG guarded seekFinal` is `C18.prependAppendAt` with that one seek as a parameter; `guarded = true` is the
code as it stands, `guarded = false` the code before the fix (kept for `Props/C08.lean` `…_refutes_old`).
`Lemmas/C08.lean` proves that instantiated with `PyFile.seekSet` both coincide with `C18.prependAppendAt`.
`seekL L` is the seek of a file object with limit `L`. -/

/-- `fh.seek(off)` where offsets above `L` are rejected: EINVAL → `OSError` on an OS file (file-system limit),
`OverflowError` on io.BytesIO (`L = 2^63 - 1`: Py_ssize_t) -/
def seekL (L : Nat) (f : PyFile) (off : Int) : Py (Nat × PyFile) :=
  if off > (L : Int) then
    match f.kind with
    | .osFile => .error .osError
    | .bytesIO => .error .overflowError
  else f.seekSet off

/-- `except (OSError, OverflowError, ValueError)` -/
def seekCaught (e : PyExc) : Bool := e = .osError || e = .overflowError || e = .valueError

open Gen.PeStruct C18 in
def prependAppendAtG (guarded : Bool) (seekFinal : PyFile → Int → Py (Nat × PyFile)) (f : PyFile) (mzOff : Nat) :
    Py (Option Bytes × Option Bytes) × PyFile :=
  let pf : Option Bytes × PyFile :=
    if mzOff > 0 then
      let r := (seekNat f 0).read mzOff
      (some r.1, r.2)
    else (none, f)
  let prepend := pf.1
  match readStruct (seekNat pf.2 mzOff) dosHeaderSize with
  | (none, f2) => (.ok (prepend, none), f2)
  | (some mz, f2) =>
    match f2.seekSet (fieldVal mz dosLfanew + (mzOff : Int) + 4) with
    | .error e => (.error e, f2)
    | .ok (_, f3) =>
      match readStruct f3 fileHeaderSize with
      | (none, f4) => (.ok (prepend, none), f4)
      | (some img, f4) =>
        let m := fieldVal img fhMachine
        if m = (machineAmd64 : Int) ∨ m = (machineI386 : Int) then
          let is64 := decide (m = (machineAmd64 : Int))
          match readStruct f4 (optSize is64) with
          | (none, f5) => (.ok (prepend, none), f5)
          | (some opt, f5) =>
            match readSections (fieldVal img fhNumberOfSections).toNat f5 with
            | (none, f6) => (.ok (prepend, none), f6)
            | (some secs, f6) =>
              match seekFinal f6 ((mzOff : Int) + totalSize opt is64 secs) with   -- try: fh.seek(mz_offset + size)
              | .error e =>
                if guarded && seekCaught e then (.ok (prepend, none), f6)         -- except (OSError, OverflowError, ValueError)
                else (.error e, f6)
              | .ok (_, f7) =>
                let r := f7.read 1024
                if r.1.isEmpty then (.ok (prepend, none), r.2)
                else (.ok (prepend, some (rstrip0 r.1)), r.2)
        else (.ok (prepend, none), f4)

/-- `pe.find_stage_prepend_append(fh)` with the final seek as a parameter (`guarded`: with / without the `try`) -/
def peFindStagePrependAppendG (guarded : Bool) (seekFinal : PyFile → Int → Py (Nat × PyFile)) (f : PyFile) :
    Py (Option Bytes × Option Bytes) :=
  match C18.findMzOffset f (some 0) MAXRANGE with
  | (none, _) => .ok (none, none)
  | (some mzOff, f1) => (prependAppendAtG guarded seekFinal f1 mzOff).1

/-- `pe.find_stage_prepend_append(fh)` (the code as it stands) on a file object that accepts offsets up to `L` -/
def peFindStagePrependAppendL (L : Nat) (f : PyFile) : Py (Option Bytes × Option Bytes) :=
  peFindStagePrependAppendG true (seekL L) f

/-- the same function BEFORE fix ce8ae1d (bare `fh.seek(mz_offset + size)`) -/
def peFindStagePrependAppendLOld (L : Nat) (f : PyFile) : Py (Option Bytes × Option Bytes) :=
  peFindStagePrependAppendG false (seekL L) f

/-- measured on the sandbox's ext4 (`open(p, "rb").seek(2**44 - 4096)` succeeds, `seek(2**44 - 4095)` is EINVAL) -/
def ext4MaxOffset : Nat := 2 ^ 44 - 4096

/-! ### `list(iter_artifactkit_payloads(fobj))` -/

def iterArtifactkitPayloads (f : PyFile) : Py (List C15.Hit) :=
  match C15.iterArtifactkit f (some 0) none with
  | .error e => .error e
  | .ok (hits, _) => .ok hits

/-! ### `parse_raw_http(data)` -/

def parseRawHttp (data : Bytes) : Py C16.Msg := C16.parseRawHttp data

/-! ### `BeaconConfig.from_file` -/

/-- what `from_file` returns, as far as the caller can observe it on the new object -/
structure Extracted where
  /-- `bconfig.guardrails is not None` -/
  guardrails : Bool
  xorkey : Bytes
  xorencoded : Bool
  block : Bytes
  settings : List C02.Setting
  compileStamp : Option Int
  exportStamp : Option Int
  arch : Option C18.Arch
  deriving DecidableEq, Repr

/-- the ordinary file the XorEncoded view at nonce offset `c` refines (C09 `history_refines`) -/
def viewFile (f : PyFile) (c : Nat) : PyFile := { data := C01.decodedView f.data c, pos := 0, kind := f.kind }

/-- `try: XorEncodedFile.from_file(fobj) except ValueError: fobj` -/
def fhFor (f : PyFile) (det : Option Nat) : PyFile :=
  match det with
  | some c => viewFile f c
  | none => f

/-- `bconfig.pe_compile_stamp, bconfig.pe_export_stamp = pe.find_compile_stamps(fh)`
    `bconfig.architecture = pe.find_architecture(fh)` -/
def peArtifacts (fh : PyFile) : Py ((Option Int × Option Int) × Option C18.Arch) :=
  match C18.findCompileStamps fh (some 0) MAXRANGE with
  | (.error e, _) => .error e
  | (.ok st, fh1) => .ok (st, (C18.findArchitecture fh1 (some 0) MAXRANGE).1)

/-- `bconfig = cls(config_block)` followed by the metadata assignments and the PE artifacts -/
def finish (guard : Bool) (xorkey : Bytes) (xorenc : Bool) (block : Bytes) (fh : PyFile) : Py Extracted :=
  match C02.iterSettingsE block with                       -- self.settings_tuple = tuple(iter_settings(config_block))
  | .error e => .error e
  | .ok ss =>
    match peArtifacts fh with
    | .error e => .error e
    | .ok (st, arch) =>
      .ok { guardrails := guard, xorkey := xorkey, xorencoded := xorenc, block := block, settings := ss,
            compileStamp := st.1, exportStamp := st.2, arch := arch }

/-- `next(iter_beacon_config_blocks(fobj, xor_keys, all_xor_keys=…), None)`: the first yielded block, if any.
`det` = answer of the detector, `failPos` = where a failing detection leaves `fobj` (the 4-gram counter of the
all-keys retry reads from there).  An exception raised before the first yield propagates. -/
def search (B : Nat) (f : PyFile) (ks : List Bytes) (allKeys : Bool) (det : Option Nat) (failPos : Nat) :
    Py (Option C01.Result) :=
  let first := C01.pass B f (C01.effKeys ks) true det
  match first.1 with
  | y :: _ => .ok (some y)
  | [] =>
    match first.2 with
    | some e => .error e
    | none =>
      if allKeys then                                       -- if not found and all_xor_keys:
        match C01.leftKeys B f det failPos ks with
        | .error e => .error e
        | .ok left =>
          let second := C01.pass B f (C01.effKeys left) true det
          match second.1 with
          | y :: _ => .ok (some y)
          | [] =>
            match second.2 with
            | some e => .error e
            | none => .ok none
      else .ok none

/-- `BeaconConfig.from_file(fobj, xor_keys, all_xor_keys)` -/
def fromFile (B : Nat) (f : PyFile) (ks : List Bytes) (allKeys : Bool) : Py Extracted :=
  match C01.detectRun B f with                              -- XorEncodedFile.from_file(fobj) (inside try/except ValueError)
  | .error e => .error e
  | .ok (dx, fFail) =>
    let det := dx.map (·.nonceOff)
    match search B f ks allKeys det fFail.pos with
    | .error e => .error e
    | .ok (some y) =>
      -- fh = XorEncodedFile.from_file(fobj) if bconfig.xorencoded else fobj   (except ValueError: fh = fobj)
      finish false y.xorkey y.xorencoded y.block (if y.xorencoded then fhFor f det else f)
    | .ok none =>
      let fxor := fhFor f det                               -- try: fxor = XorEncodedFile.from_file(fobj) except ValueError: fxor = fobj
      match C17.fromFileFallback fxor B with                -- for grconfig in iter_guardrail_configs_with_beacon(fxor): …
      | .error e => .error e                                -- raise ValueError("No valid Beacon configuration found")
      | .ok m =>
        match m.unmaskedBeaconConfig with
        | some cfg => finish true m.beaconXorKey false cfg fxor
        | none => .error .valueError

/-- `BeaconConfig.from_bytes(data, …)` = `from_file(io.BytesIO(data), …)` -/
def fromBytes (B : Nat) (data : Bytes) (ks : List Bytes) (allKeys : Bool) : Py Extracted :=
  fromFile B { data := data, pos := 0, kind := .bytesIO } ks allKeys

/-- `BeaconConfig.from_path(path, …)` = `with open(path, "rb") as fobj: from_file(fobj, …)` on a file holding `data` -/
def fromPath (B : Nat) (data : Bytes) (ks : List Bytes) (allKeys : Bool) : Py Extracted :=
  fromFile B { data := data, pos := 0, kind := .osFile } ks allKeys

end C08

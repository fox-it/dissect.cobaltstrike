import CsVerif.Model.C17
import CsVerif.Gen.PyGuardU
/-!
C17 — glue between the hand-written model (`Model/C17.lean`) and the definitions translated from the source of
`iter_guardrail_configs_with_beacon`, `find_xor_key_candidates` and `iter_guardrail_configs` (`Gen/PyGuardU.lean`, untyped
translator): the encoding of the model's file objects, metadata records and settings as Python values, the fuel the translated
`while` loops are run with, the selection function of the model with the candidate keys as a parameter, and the two EXTERNAL
functions of the translated selection loop instantiated with the other two translated definitions.
Used by the driver (`g-*` streams) and by `Props/C17Gen.lean`.
-/
namespace C17Gen
open PyU (V)

/-- 0 = `io.BytesIO`, 1 = a regular file opened "rb" (the `kind` component of `PyU.mkFile`) -/
def kindNat : FileKind → Nat
  | .bytesIO => 0
  | .osFile => 1

/-- a file object of the model as the Python value the translated definitions work on -/
def encFile (f : PyFile) : V := PyU.mkFile f.data f.pos (kindNat f.kind)

/-- a parsed `GuardrailSetting`: `option` / `type` are cstruct enum members, `length` an int, `value` bytes -/
def encSetting (s : C17.Setting) : V :=
  .inst Gen.PyGuardU.GuardrailSettingCls
    [.enum Gen.PyGuardU.GuardOption (s.option : Int), .enum Gen.PyGuardU.SettingsType (s.type : Int), .int (s.length : Int), .bytes s.value]

/-- `bytes | None` -/
def encOptBytes : Option Bytes → V
  | none => .none
  | some b => .bytes b

/-- a `GuardrailMetadata` record (fields in the order of the dataclass) -/
def encMeta (m : C17.Meta) : V :=
  .inst Gen.PyGuardU.GuardrailMetadata
    [.int (m.beaconConfigOffset : Int), .int (m.guardConfigOffset : Int), .bytes m.maskedBeaconConfig, .bytes m.maskedGuardConfig,
     .bytes m.beaconXorKey, .bytes m.guardrailXorKey, .bytes m.unmaskedGuardConfig, .int (m.checksum : Int),
     encOptBytes m.payloadXorKey, encOptBytes m.unmaskedBeaconConfig, .list (m.settings.map encSetting)]

/-- what `list(<generator>(fh))` returns for a generator of metadata records, together with the file object afterwards -/
def encMetas (ms : List C17.Meta) (f : PyFile) : V := .tuple [.list (ms.map encMeta), encFile f]

/-- what `list(find_xor_key_candidates(fh))` returns, together with the file object afterwards -/
def encCands (ks : List Bytes) (f : PyFile) : V := .tuple [.list (ks.map .bytes), encFile f]

/-- the scan leaves the file at its end (its last `read` answered `b""`); so does the candidate generator unless
`io.DEFAULT_BUFFER_SIZE` is 0 (`C17Gen.candEnd`, Lemmas/C17GenU.lean) -/
def atEnd (f : PyFile) : PyFile := { f with pos := f.data.length }

/-! ### the selection function of the model, with the candidate keys as a parameter -/

/-- `C17.withBeaconOne` with `find_xor_key_candidates(io.BytesIO(guarded))` abstracted to `cands guarded` -/
def withBeaconOneC (cands : Bytes → List Bytes) (m : C17.Meta) : C17.Meta :=
  let m1 := { m with beaconXorKey := Gen.Guardrails.beaconXorKey }
  let guarded := C20.xor m1.maskedBeaconConfig m1.beaconXorKey
  match C17.selectKey guarded m1.checksum (cands guarded) with
  | some (k, u) => { m1 with payloadXorKey := some k, unmaskedBeaconConfig := some u }
  | none => m1

theorem withBeaconOne_eq (bufSize : Nat) :
    C17.withBeaconOne bufSize = withBeaconOneC (fun g => C17.findXorKeyCandidates g bufSize) := rfl

/-! ### fuel -/

/-- the guard settings loop consumes at least 6 bytes of at most `GUARD_PATCH_SIZE` per run -/
def settingsFuel : Nat := Gen.Guardrails.GUARD_PATCH_SIZE / 6 + 2

/-- fuel that is sufficient for both loops of `iter_guardrail_configs` (`Props/C17Gen.lean`: every fuel from this bound on
gives the same answer): one run of the scan loop per byte offset plus the final empty read -/
def scanFuel (f : PyFile) : Nat := f.data.length + settingsFuel + 2

/-- fuel that is sufficient for the chunk loop of `find_xor_key_candidates` -/
def candFuel (f : PyFile) : Nat := f.data.length + 2

/-! ### the translated definitions on model arguments -/

/-- the translated `iter_guardrail_configs(fh, xorkey)` -/
def iterGuardrailConfigsG (f : PyFile) (xorkey : Bytes) : Py V :=
  Gen.PyGuardU.iter_guardrail_configs (scanFuel f) (encFile f) (.bytes xorkey)

/-- the translated `find_xor_key_candidates(fh)`, `io.DEFAULT_BUFFER_SIZE = bufSize` -/
def findXorKeyCandidatesG (bufSize : Nat) (f : PyFile) : Py V :=
  Gen.PyGuardU.find_xor_key_candidates (.int (bufSize : Int)) (candFuel f) (encFile f)

/-- the EXTERNAL function `iter_guardrail_configs(fh)` of the translated selection loop, instantiated with the translated
`iter_guardrail_configs` (default `xorkey`); an argument that is not a file object has no `seek` (AttributeError) -/
def iterX (fh : V) : Py V :=
  match PyU.asFile fh with
  | some (d, _, _) => Gen.PyGuardU.iter_guardrail_configs_default1 (d.length + settingsFuel + 2) fh
  | none => .error .attributeError

/-- the EXTERNAL function `find_xor_key_candidates(io.BytesIO(…))` of the translated selection loop, instantiated with the
translated `find_xor_key_candidates`: the `BytesIO` becomes the file object with the same content and position, the answer is
the list of the yielded keys (the file object afterwards is dropped: nothing else refers to the temporary `BytesIO`) -/
def candX (bufSize : Nat) (bio : V) : Py V :=
  match bio with
  | .bytesIO d p =>
    match Gen.PyGuardU.find_xor_key_candidates (.int (bufSize : Int)) (d.length + 2) (PyU.mkFile d p 0) with
    | .ok (.tuple [ys, _]) => .ok ys
    | .ok _ => .error .typeError
    | .error e => .error e
  | _ => .error .attributeError

/-- the translated `iter_guardrail_configs_with_beacon(fh)` over the other two translated definitions,
`io.DEFAULT_BUFFER_SIZE = bufSize` -/
def iterGuardrailConfigsWithBeaconG (bufSize : Nat) (f : PyFile) : Py V :=
  Gen.PyGuardU.iter_guardrail_configs_with_beacon iterX (candX bufSize) (encFile f)

end C17Gen

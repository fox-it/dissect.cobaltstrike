import CsVerif.Model.Basic
/-
Shared model of Python binary file objects (DESIGN.md §2): `io.BytesIO` and OS files opened "rb".
Only the behaviour the library relies on is modelled:
  * `read(n)`: `n < 0` (or None) reads to EOF, short at EOF, position may be past EOF (reads return b"");
  * `seek(off, SEEK_SET)`: negative offset raises ValueError (BytesIO) / OSError (OS file);
  * `seek(off, SEEK_CUR/SEEK_END)`: a negative target clamps to 0 on BytesIO
    (measured: `BytesIO(b"abcdef").seek(-2, 1)` at 0 → 0) and raises OSError on an OS file;
  * `tell()`.
-/

inductive FileKind | bytesIO | osFile deriving DecidableEq, Repr

structure PyFile where
  data : Bytes
  pos : Nat := 0
  kind : FileKind := .bytesIO
  deriving Repr

namespace PyFile

def ofBytes (d : Bytes) : PyFile := { data := d }

def size (f : PyFile) : Nat := f.data.length

def tell (f : PyFile) : Nat := f.pos

/-- `f.read(n)` -/
def read (f : PyFile) (n : Int) : Bytes × PyFile :=
  let rest := f.data.drop f.pos
  let out := if n < 0 then rest else rest.take n.toNat
  (out, { f with pos := f.pos + out.length })

/-- `f.read()` -/
def readAll (f : PyFile) : Bytes × PyFile := f.read (-1)

def negSeekExc (f : PyFile) : PyExc :=
  match f.kind with
  | .bytesIO => .valueError
  | .osFile => .osError

/-- `f.seek(off)` / `f.seek(off, io.SEEK_SET)`; returns the new absolute position. -/
def seekSet (f : PyFile) (off : Int) : Py (Nat × PyFile) :=
  if off < 0 then .error f.negSeekExc else .ok (off.toNat, { f with pos := off.toNat })

def seekRel (f : PyFile) (base : Nat) (off : Int) : Py (Nat × PyFile) :=
  let t : Int := (base : Int) + off
  if t < 0 then
    match f.kind with
    | .bytesIO => .ok (0, { f with pos := 0 })
    | .osFile => .error .osError
  else .ok (t.toNat, { f with pos := t.toNat })

/-- `f.seek(off, io.SEEK_CUR)` -/
def seekCur (f : PyFile) (off : Int) : Py (Nat × PyFile) := f.seekRel f.pos off

/-- `f.seek(off, io.SEEK_END)` -/
def seekEnd (f : PyFile) (off : Int) : Py (Nat × PyFile) := f.seekRel f.data.length off

/-- `f.seek(off, whence)` with whence ∈ {0,1,2}; other whence values raise ValueError. -/
def seek (f : PyFile) (off : Int) (whence : Nat) : Py (Nat × PyFile) :=
  match whence with
  | 0 => f.seekSet off
  | 1 => f.seekCur off
  | 2 => f.seekEnd off
  | _ => .error .valueError

@[simp] theorem read_data (f : PyFile) (n : Int) : (f.read n).2.data = f.data := rfl
@[simp] theorem read_kind (f : PyFile) (n : Int) : (f.read n).2.kind = f.kind := rfl
@[simp] theorem read_pos (f : PyFile) (n : Int) : (f.read n).2.pos = f.pos + (f.read n).1.length := rfl

theorem read_nonneg (f : PyFile) (n : Nat) :
    (f.read n).1 = (f.data.drop f.pos).take n := by
  have : ¬ ((n : Int) < 0) := by omega
  simp [read, this]

theorem read_neg (f : PyFile) (n : Int) (h : n < 0) : (f.read n).1 = f.data.drop f.pos := by
  simp [read, h]

/-- after `read(n)`, `n ≥ 0`, what is left to read is what was left before without its first `n` bytes -/
theorem read_nonneg_rest (f : PyFile) (n : Nat) :
    (f.read n).2.data.drop (f.read n).2.pos = (f.data.drop f.pos).drop n := by
  rw [read_data, read_pos, read_nonneg, ← List.drop_drop]
  conv => lhs; arg 2; rw [← List.take_append_drop n (f.data.drop f.pos)]
  exact List.drop_left

/-- after `read(n)`, `n < 0`, nothing is left to read -/
theorem read_neg_rest (f : PyFile) (n : Int) (h : n < 0) : (f.read n).2.data.drop (f.read n).2.pos = [] := by
  rw [read_data, read_pos, read_neg f n h, ← List.drop_drop]
  exact List.drop_length

theorem read_snd (f : PyFile) (n : Int) : (f.read n).2 = { f with pos := f.pos + (f.read n).1.length } := rfl

theorem read_length (f : PyFile) (B : Nat) : (f.read (B : Int)).1.length = min B (f.data.length - f.pos) := by
  rw [PyFile.read_nonneg, List.length_take, List.length_drop]

theorem read_empty (f : PyFile) (B : Nat) (hB : 1 ≤ B) (h : (f.read (B : Int)).1 = []) :
    f.data.length ≤ f.pos := by
  have := read_length f B
  rw [h, List.length_nil] at this
  omega

theorem read_nonempty (f : PyFile) (B : Nat) (h : (f.read (B : Int)).1 ≠ []) : f.pos < f.data.length := by
  have := read_length f B
  have := List.length_pos_iff.mpr h
  omega

/-- a short block is the last one. -/
theorem read_short (f : PyFile) (B : Nat) (h : (f.read (B : Int)).1.length < B) :
    f.data.length ≤ f.pos + (f.read (B : Int)).1.length := by
  have := read_length f B
  omega

theorem read_length_le (f : PyFile) (n : Nat) : (f.read n).1.length ≤ n := by
  rw [read_nonneg]; simp; omega

theorem seekSet_ok (f : PyFile) (off : Nat) :
    f.seekSet off = .ok (off, { f with pos := off }) := by
  simp [seekSet]

end PyFile

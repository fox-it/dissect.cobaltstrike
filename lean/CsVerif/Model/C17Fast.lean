import CsVerif.Lemmas.C17Gen
import CsVerif.Props.C20Gen
/-!
C17 — compiled-code replacements for the typed translations of `payload_checksum` (`Gen/PyGuard.lean`) and `utils.xor`
(`Gen/PyUtils.lean`).

The translated definition indexes the byte list once per byte (`data[i]`), which is quadratic on Lean lists; the selection loop
translated from `iter_guardrail_configs_with_beacon` (`Gen/PyGuardU.lean`) calls it on a 6144-byte area for up to 510 candidate keys
per record.  The compiler is told — by the proved equation `C17Gen.payload_checksum_eq` (`Lemmas/C17Gen.lean`, no axioms) — to run
the linear model function instead, in every definition compiled AFTER this file (the generated unit `Gen/PyGuardU.lean` imports it).
Logically nothing changes: the definitions and every theorem keep talking about `Gen.PyGuard.payload_checksum`.
The `g-cks` stream of the driver, which validates the typed translation itself, runs `payloadChecksumT` below — compiled here,
before the replacement exists, so it executes the translated definition as generated.
-/
namespace C17Gen

/-- the typed translation as generated (compiled before the replacement below is declared; used by the `g-cks` stream) -/
@[noinline] def payloadChecksumT (d : Bytes) : Py Int := Gen.PyGuard.payload_checksum d

def payloadChecksumFast (d : Bytes) : Py Int := .ok ((C17.payloadChecksum d : Nat) : Int)

@[csimp] theorem payload_checksum_eq_fast : @Gen.PyGuard.payload_checksum = @payloadChecksumFast := by
  funext d
  exact payload_checksum_eq d

/-- The typed translation of `utils.xor` converts both operands to unbounded integers (`int.from_bytes`, quadratic on lists of
6144 bytes); the selection loop calls it once per candidate key.  Compiled code (of the definitions compiled after this file: the
generated unit `Gen/PyGuardU.lean`; the `g-*` streams of C20 / C15 that validate the typed translation itself are other
executables) runs the array-based `C17.xorFast` instead — justified by `C20Gen.gen_xor` (translated = `C20.xor`) and
`C17.xor_eq_xorFast`, no axioms. -/
def xorT (d k : Bytes) : Py Bytes := .ok (C17.xorFast d k)

@[csimp] theorem xor_eq_fast : @Gen.PyUtils.xor = @xorT := by
  funext d k
  rw [C20Gen.gen_xor]
  unfold xorT
  rw [C17.xor_eq_xorFast]

end C17Gen

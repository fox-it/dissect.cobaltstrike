import CsVerif.Model.PyFile
import CsVerif.Model.C20
import CsVerif.Model.C15
/-
C09 — XorEncoded file view
  dissect/cobaltstrike/xordecode.py   iter_nonce_offsets (26-57), XorEncodedFile (60-182)
  dissect/cobaltstrike/pe.py          find_mz_offset (178-208)

The model follows the code as it is in /repo now (after fix 5b1e7f7: `read` returns early for
`n == 0`, treats `None`/negative `n` as "read everything" and seeks back over the surplus of the
last 4-byte chunk; after fix f64b15d: `read_nonce` restores the cursor with `self.fh.seek(pos)`; after fix 13416c7: `seek` clamps at logical 0).  Raw layout of an encoded stage:  stub ++ nonce(4) ++ size(4) ++ enc.
-/
namespace C09

/-! ### The file object -/

structure XorFile where
  fh : PyFile
  nonceOff : Nat
  initialNonce : Bytes
  noncedSize : Bytes
  deriving Repr

/-- `XorEncodedFile.__init__(fh, nonce_offset)`: seek to the nonce, read nonce and encoded size. -/
def mk' (fh : PyFile) (nonceOff : Nat) : Py XorFile :=
  match fh.seekSet nonceOff with                          -- self.fh.seek(self.nonce_offset)
  | .error e => .error e
  | .ok (_, f1) =>
    let r1 := f1.read 4                                   -- self.initial_nonce = self.fh.read(4)
    let r2 := r1.2.read 4                                 -- self.nonced_filesize = self.fh.read(4)
    .ok { fh := r2.2, nonceOff := nonceOff, initialNonce := r1.1, noncedSize := r2.1 }

/-- raw offset of logical position 0 (`nonce_offset + 8`). -/
def XorFile.base (x : XorFile) : Nat := x.nonceOff + 8

/-- `read_nonce()`: the four bytes before the current raw position; below logical position 4 the
encoded-size dword is skipped by splicing in the tail of the initial nonce.
`except OSError` catches the failed relative seek of an OS file (BytesIO clamps to 0 instead);
`rawNonce` is the `try` block. -/
def rawNonce (x : XorFile) : Py (Bytes × PyFile) :=
  match x.fh.seekCur (-4) with                            -- self.fh.seek(-4, io.SEEK_CUR)
  | .ok (_, f1) => .ok (f1.read 4)                        -- nonce = self.fh.read(4)
  | .error e => if e = .osError then .ok ([0, 0, 0, 0], x.fh) else .error e   -- except OSError

/-- the splice of `read_nonce` below logical position 4 -/
def spliceNonce (x : XorFile) (pos : Nat) (nonce : Bytes) : Bytes :=
  if pos < x.nonceOff + 12 then
    let offset : Int := (pos : Int) - ((x.nonceOff : Int) + 8)
    -- nonce = self.initial_nonce[offset:] + nonce[4 - offset:]
    pySliceFrom x.initialNonce offset ++ pySliceFrom nonce (4 - offset)
  else nonce

def readNonce (x : XorFile) : Py (Bytes × XorFile) :=
  let pos := x.fh.tell                                    -- pos = self.fh.tell()
  match rawNonce x with
  | .error e => .error e
  | .ok (nonce, f2) =>
    match f2.seekSet pos with                             -- self.fh.seek(pos)   (fix f64b15d)
    | .error e => .error e
    | .ok (_, f3) => .ok (spliceNonce x pos nonce, { x with fh := f3 })

/-- `read_nonce` as it was before fix f64b15d (no `self.fh.seek(pos)`): kept only to show that the
refinement theorem distinguishes the two (`Props/C09.lean`, `history_refines_refutes_old`). -/
def readNonceOld (x : XorFile) : Py (Bytes × XorFile) :=
  let pos := x.fh.tell
  match rawNonce x with
  | .error e => .error e
  | .ok (nonce, f2) => .ok (spliceNonce x pos nonce, { x with fh := f2 })

/-- `tell()` -/
def tell (x : XorFile) : Int := (x.fh.tell : Int) - ((x.nonceOff : Int) + 8)

/-- `seek(offset, whence)` as it was before fix 13416c7 (only SEEK_SET translated, no lower bound): kept only to show
that the refinement theorem distinguishes the two (`Props/C09.lean`, `negative_seek_exact_old`,
`history_refines_all_seeks_refutes_old`). -/
def seekOld (x : XorFile) (off : Int) (whence : Nat) : Py (Nat × XorFile) :=
  let r := if whence = 0 then x.fh.seek (off + (x.nonceOff : Int) + 8) whence else x.fh.seek off whence
  match r with
  | .error e => .error e
  | .ok (v, f) => .ok (v, { x with fh := f })

/-- the last line of `seek`: `return self.fh.seek(max(target, 0) + base)`; the value returned is the RAW offset. -/
def seekTo (x : XorFile) (target : Int) : Py (Nat × XorFile) :=
  match x.fh.seekSet (max target 0 + ((x.nonceOff : Int) + 8)) with
  | .error e => .error e
  | .ok (v, f) => .ok (v, { x with fh := f })

/-- `seek(offset, whence)` (after fix 13416c7): the logical target is computed for every `whence` and clamped at 0
(like `io.BytesIO`); a negative absolute offset and an unknown `whence` raise ValueError before anything moves;
SEEK_END first moves the raw cursor to the end (`self.fh.seek(0, io.SEEK_END)`). -/
def seek (x : XorFile) (off : Int) (whence : Nat) : Py (Nat × XorFile) :=
  match whence with
  | 0 =>                                                  -- if whence == io.SEEK_SET:
    if off < 0 then .error .valueError                    --   if offset < 0: raise ValueError
    else seekTo x off                                     --   target = offset
  | 1 => seekTo x (tell x + off)                          -- target = self.tell() + offset
  | 2 =>
    match x.fh.seekEnd 0 with                             -- target = self.fh.seek(0, io.SEEK_END) - base + offset
    | .error e => .error e
    | .ok (v, f1) => seekTo { x with fh := f1 } ((v : Int) - ((x.nonceOff : Int) + 8) + off)
  | _ => .error .valueError                               -- raise ValueError("invalid whence …")

theorem readLoop_progress (f : PyFile) (h : ¬ (f.read 4).1 = []) :
    (f.read 4).2.data.length - (f.read 4).2.pos < f.data.length - f.pos :=
  C15.read_progress f 4 h

/-- The `while True:` chunk loop of `read`.  `got` is `len(data)` before the iteration, the bytes
returned are what the loop appends to `data`.  Terminates because a non-empty chunk advances the
raw position towards the end of the data. -/
def readLoop (n : Int) (f : PyFile) (nonce : Bytes) (got : Nat) : Bytes × PyFile :=
  if _h : (f.read 4).1 = [] then ([], (f.read 4).2)       -- chunk = fh.read(4); if not chunk: break
  else
    let chunk := (f.read 4).1
    let dec := C20.xor chunk nonce                        -- data += xor(chunk, nonce)
    if n > 0 ∧ ((got + dec.length : Nat) : Int) ≥ n then  -- if n > 0 and len(data) >= n: break
      (dec, (f.read 4).2)
    else
      let r := readLoop n (f.read 4).2 chunk (got + dec.length)   -- nonce = chunk
      (dec ++ r.1, r.2)
termination_by f.data.length - f.pos
decreasing_by exact readLoop_progress f (by assumption)

/-- `read(n)` with the nonce lookup as a parameter; `none` = Python `None`. -/
def readWith (rn : XorFile → Py (Bytes × XorFile)) (x : XorFile) (n : Option Int) : Py (Bytes × XorFile) :=
  let n : Int := match n with                             -- if n is None or n < 0: n = -1
    | none => -1
    | some v => if v < 0 then -1 else v
  if n = 0 then .ok ([], x)                               -- if n == 0: return b""
  else
    match rn x with                                       -- nonce = self.read_nonce()
    | .error e => .error e
    | .ok (nonce, x1) =>
      let r := readLoop n x1.fh nonce 0
      if n = -1 then .ok (r.1, { x1 with fh := r.2 })     -- return data[:None]
      else if (r.1.length : Int) > n then
        match r.2.seekCur (n - (r.1.length : Int)) with   -- self.fh.seek(n - len(data), io.SEEK_CUR)
        | .error e => .error e
        | .ok (_, f3) => .ok (r.1.take n.toNat, { x1 with fh := f3 })
      else .ok (r.1.take n.toNat, { x1 with fh := r.2 })  -- return data[:n]

/-- `XorEncodedFile.read(n)` -/
def read (x : XorFile) (n : Option Int) : Py (Bytes × XorFile) := readWith readNonce x n

/-! ### Operation histories -/

inductive Op
  | seek (off : Int) (whence : Nat)
  | read (n : Option Int)
  | tell
  deriving DecidableEq, Repr

inductive Out
  | seek (ret : Nat)
  | bytes (b : Bytes)
  | pos (p : Int)
  deriving DecidableEq, Repr

def stepOp (x : XorFile) : Op → Py (Out × XorFile)
  | .seek off wh => (seek x off wh).map fun r => (.seek r.1, r.2)
  | .read n => (read x n).map fun r => (.bytes r.1, r.2)
  | .tell => .ok (.pos (tell x), x)

/-- a history; stops at the first exception. -/
def run (x : XorFile) : List Op → Py (List Out × XorFile)
  | [] => .ok ([], x)
  | op :: ops =>
    match stepOp x op with
    | .error e => .error e
    | .ok (o, x') =>
      match run x' ops with
      | .error e => .error e
      | .ok (os, x'') => .ok (o :: os, x'')

/-- the same with the pre-13416c7 `seek` (only for `history_refines_all_seeks_refutes_old`) -/
def stepOpOld (x : XorFile) : Op → Py (Out × XorFile)
  | .seek off wh => (seekOld x off wh).map fun r => (.seek r.1, r.2)
  | op => stepOp x op

def runOld (x : XorFile) : List Op → Py (List Out × XorFile)
  | [] => .ok ([], x)
  | op :: ops =>
    match stepOpOld x op with
    | .error e => .error e
    | .ok (o, x') =>
      match runOld x' ops with
      | .error e => .error e
      | .ok (os, x'') => .ok (o :: os, x'')

/-- trace used by the driver: an operation that raises leaves the object unchanged
(only `seek` can raise — ValueError for a negative absolute offset or an unknown whence — and it does so before
anything moves). -/
def runTrace (x : XorFile) : List Op → List (Py Out)
  | [] => []
  | op :: ops =>
    match stepOp x op with
    | .error e => .error e :: runTrace x ops
    | .ok (o, x') => .ok o :: runTrace x' ops

/-! ### Specification: a plain file over the decoded bytes -/

/-- `plain[i] = enc[i] ^ (nonce[i] if i < 4 else enc[i-4])` -/
def rollDecode (nonce enc : Bytes) : Bytes :=
  enc.mapIdx fun i b => b ^^^ (if i < 4 then nonce.getD i 0 else enc.getD (i - 4) 0)

/-- the inverse direction (used by examples and the driver's self-test op). -/
def rollEncodeAux : Bytes → Bytes → Bytes
  | _, [] => []
  | k :: ks, p :: ps => (p ^^^ k) :: rollEncodeAux (ks ++ [p ^^^ k]) ps
  | [], p :: ps => p :: rollEncodeAux [] ps

def rollEncode (nonce plain : Bytes) : Bytes := rollEncodeAux nonce plain

/-- the same operations on an ordinary Python file (outputs: `seek` returns the new position). -/
def plainStep (f : PyFile) : Op → Py (Out × PyFile)
  | .seek off wh => (f.seek off wh).map fun r => (.seek r.1, r.2)
  | .read n => .ok (.bytes (f.read (n.getD (-1))).1, (f.read (n.getD (-1))).2)
  | .tell => .ok (.pos f.tell, f)

def plainRun (f : PyFile) : List Op → Py (List Out × PyFile)
  | [] => .ok ([], f)
  | op :: ops =>
    match plainStep f op with
    | .error e => .error e
    | .ok (o, f') =>
      match plainRun f' ops with
      | .error e => .error e
      | .ok (os, f'') => .ok (o :: os, f'')

/-- the plain file's trace in the driver's convention (`runTrace`): a raising operation leaves the file unchanged -/
def plainTrace (f : PyFile) : List Op → List (Py Out)
  | [] => []
  | op :: ops =>
    match plainStep f op with
    | .error e => .error e :: plainTrace f ops
    | .ok (o, f') => .ok o :: plainTrace f' ops

/-- `XorEncodedFile.seek` returns the raw offset: logical result shifted by `nonce_offset + 8`. -/
def Out.shift (base : Nat) : Out → Out
  | .seek v => .seek (v + base)
  | o => o

/-- position of a plain file of length `len` at `p` after `read(n)` -/
def posAfterRead (len p : Nat) (n : Option Int) : Nat :=
  match n with
  | none => max p len
  | some v => if v < 0 then max p len else max p (min (p + v.toNat) len)

/-- Decidable hypothesis of the refinement theorem: every seek of the history lands at a logical
position `≥ 0` (possibly beyond the end); `p` is the logical position before the history. -/
def seeksNonneg (len : Nat) : Nat → List Op → Bool
  | _, [] => true
  | p, .seek off wh :: ops =>
    let t : Option Int :=
      match wh with
      | 0 => some off
      | 1 => some ((p : Int) + off)
      | 2 => some ((len : Int) + off)
      | _ => none
    match t with
    | none => false
    | some t => decide (0 ≤ t) && seeksNonneg len t.toNat ops
  | p, .read n :: ops => seeksNonneg len (posAfterRead len p n) ops
  | p, .tell :: ops => seeksNonneg len p ops

/-! ### Detection -/

/-- `utils.u32 = partial(unpack, size=4)` -/
def u32 (d : Bytes) : Int := C20.unpack d (some 4) .little false

/-- body of `for i in range(maxrange)`: `k` iterations left, current index `i`. -/
def nonceLoop (realSize : Int) : Nat → Nat → PyFile → Py (List Nat × PyFile)
  | 0, _, f => .ok ([], f)
  | k + 1, i, f =>
    match f.seekSet i with                                -- fh.seek(i)
    | .error e => .error e
    | .ok (_, f1) =>
      let r1 := f1.read 4                                 -- nonce = fh.read(4)
      let r2 := r1.2.read 4                               -- size = fh.read(4)
      if r1.1.length ≠ 4 ∨ r2.1.length ≠ 4 then .ok ([], r2.2)   -- break
      else
        match nonceLoop realSize k (i + 1) r2.2 with
        | .error e => .error e
        | .ok (rest, f') =>
          -- decoded_size = u32(xor(nonce, size)); if decoded_size + i + 8 == real_size: yield i
          if u32 (C20.xor r1.1 r2.1) + (i : Int) + 8 = realSize then .ok (i :: rest, f')
          else .ok (rest, f')

/-- `list(iter_nonce_offsets(fh, real_size, maxrange))` and the file afterwards. -/
def iterNonceOffsets (f : PyFile) (realSize : Option Int) (maxrange : Nat) : Py (List Nat × PyFile) :=
  match realSize with
  | some rs => nonceLoop rs maxrange 0 f
  | none =>
    match f.seekEnd 0 with                                -- fh.seek(0, io.SEEK_END)
    | .error e => .error e
    | .ok (_, f1) => nonceLoop (f1.tell : Int) maxrange 0 f1    -- real_size = fh.tell()

/-! `collections.Counter(xs).most_common()`: dict in first-insertion order, then a stable sort by
count, descending (`sorted(items, key=itemgetter(1), reverse=True)` keeps ties in dict order). -/

def counterAdd : List (Nat × Nat) → Nat → List (Nat × Nat)
  | [], k => [(k, 1)]
  | (k', n) :: t, k => if k' = k then (k', n + 1) :: t else (k', n) :: counterAdd t k

def counter (xs : List Nat) : List (Nat × Nat) := xs.foldl counterAdd []

/-- insert `e` (which precedes every element of the list in dict order) into a list sorted by count
descending: before the first element whose count is not larger. -/
def insertByCount (e : Nat × Nat) : List (Nat × Nat) → List (Nat × Nat)
  | [] => [e]
  | h :: t => if h.2 ≤ e.2 then e :: h :: t else h :: insertByCount e t

def mostCommon (c : List (Nat × Nat)) : List (Nat × Nat) := c.foldr insertByCount []

/-- candidate nonce offsets in the order `from_file` tries them:
`Counter(eof_shellcode_offsets + nonce_offsets).most_common()`, where
`eof_shellcode_offsets = [o + 3 for o in iter_find_needle(fh, b"\xff\xff\xff", 0, maxrange)]`. -/
def candidates (markerHits nonceOffsets : List Nat) : List Nat :=
  (mostCommon (counter (markerHits.map (· + 3) ++ nonceOffsets))).map (·.1)

/-- the `for offset, count in …most_common()` loop; `mzOk c` = `pe.find_mz_offset(xf) is not None`
for the view at nonce offset `c`.  (The position left behind by `find_mz_offset` is irrelevant:
the next step is an absolute seek in either branch.) -/
def tryCandidates (f : PyFile) (mzOk : Nat → Bool) : List Nat → Py XorFile
  | [] => .error .valueError                              -- raise ValueError("MZ header not found …")
  | c :: cs =>
    match mk' f c with                                    -- xf = cls(fh, nonce_offset=offset)
    | .error e => .error e
    | .ok xf =>
      if mzOk c then
        match seek xf 0 0 with                            -- xf.seek(0); return xf
        | .error e => .error e
        | .ok (_, xf') => .ok xf'
      else tryCandidates xf.fh mzOk cs

/-- `XorEncodedFile.from_file(fh, maxrange)` with the needle scan result (`markerHits`, the raw
offsets reported by `iter_find_needle`) and the MZ check (`mzOk`) as parameters. -/
def fromFile (f : PyFile) (maxrange : Nat) (markerHits : List Nat) (mzOk : Nat → Bool) : Py XorFile :=
  match iterNonceOffsets f none maxrange with
  | .error e => .error e
  | .ok (nonceOffs, f1) => tryCandidates f1 mzOk (candidates markerHits nonceOffs)

/-! ### `pe.find_mz_offset` on the decoding view (cstruct reads = `read(sizeof)`, EOFError when short) -/

def int32le (d : Bytes) : Int := C20.fromBytes .little true d
def u16le (d : Bytes) : Int := C20.fromBytes .little false d

/-- one iteration of `for offset in range(maxrange)`; `some r` = `return r`, `none` = next iteration
(either the constraints failed or `EOFError` was caught by `continue`). -/
def mzStep (x : XorFile) (start maxrange offset : Nat) : Py (Option Nat × XorFile) :=
  match seek x ((start + offset : Nat) : Int) 0 with     -- fh.seek(start_offset + offset, io.SEEK_SET)
  | .error e => .error e
  | .ok (_, x1) =>
    match read x1 (some 64) with                          -- mz = pestruct.IMAGE_DOS_HEADER(fh)
    | .error e => .error e
    | .ok (hdr, x2) =>
      if hdr.length < 64 then .ok (none, x2)              -- EOFError → continue
      else
        let lfanew := int32le ((hdr.drop 60).take 4)
        if 0 < lfanew ∧ lfanew < (maxrange : Int) then
          match seek x2 ((start + offset + 4 : Nat) + lfanew) 0 with
          | .error e => .error e
          | .ok (_, x3) =>
            match read x3 (some 20) with                  -- image = pestruct.IMAGE_FILE_HEADER(fh)
            | .error e => .error e
            | .ok (ih, x4) =>
              if ih.length < 20 then .ok (none, x4)       -- EOFError → continue
              else
                let machine := u16le (ih.take 2)
                if machine = 0x8664 ∨ machine = 0x14c then .ok (some (start + offset), x4)
                else .ok (none, x4)
        else .ok (none, x2)

def mzLoop (start maxrange : Nat) : Nat → Nat → XorFile → Py (Option Nat × XorFile)
  | 0, _, x => .ok (none, x)
  | k + 1, offset, x =>
    match mzStep x start maxrange offset with
    | .error e => .error e
    | .ok (some r, x') => .ok (some r, x')
    | .ok (none, x') => mzLoop start maxrange k (offset + 1) x'

/-- `pe.find_mz_offset(xf, start_offset=start, maxrange=maxrange)` -/
def findMzOffset (x : XorFile) (start : Nat := 0) (maxrange : Nat := 1024) : Py (Option Nat × XorFile) :=
  mzLoop start maxrange maxrange 0 x

/-- the candidate loop of `from_file` with the modelled `find_mz_offset` (defaults
`start_offset=0`, `maxrange=1024`) instead of the `mzOk` parameter; exceptions propagate. -/
def tryCandidatesFull (f : PyFile) : List Nat → Py XorFile
  | [] => .error .valueError
  | c :: cs =>
    match mk' f c with
    | .error e => .error e
    | .ok xf =>
      match findMzOffset xf with
      | .error e => .error e
      | .ok (some _, xf1) =>
        match seek xf1 0 0 with
        | .error e => .error e
        | .ok (_, xf') => .ok xf'
      | .ok (none, xf1) => tryCandidatesFull xf1.fh cs

/-- `from_file` with only the needle scan as a parameter. -/
def fromFileFull (f : PyFile) (maxrange : Nat) (markerHits : List Nat) : Py XorFile :=
  match iterNonceOffsets f none maxrange with
  | .error e => .error e
  | .ok (nonceOffs, f1) => tryCandidatesFull f1 (candidates markerHits nonceOffs)

/-! ### `from_file` with the real needle scanner (`utils.iter_find_needle`, model `C15.iterFindNeedle`) -/

/-- `XorEncodedFile.EOF_SHELLCODE_MARKER` -/
def eofMarker : Bytes := [0xff, 0xff, 0xff]

/-- `list(iter_find_needle(fh, cls.EOF_SHELLCODE_MARKER, start_offset=0, max_offset=maxrange))` and the file
afterwards; `B = io.DEFAULT_BUFFER_SIZE`.  (`max_offset = 0` means "no limit" in `iter_find_needle`.) -/
def markerScan (B : Nat) (f : PyFile) (maxrange : Nat) : Py (List Int × PyFile) :=
  C15.iterFindNeedle B f eofMarker (some 0) maxrange

/-- `XorEncodedFile.from_file(fh, maxrange)` with nothing left as a parameter: size relation scan, marker scan
by the real block scanner on the file as `iter_nonce_offsets` left it, `Counter` ranking, modelled
`find_mz_offset` on each candidate view.  The scanner's offsets are Python ints; they are never negative
(`Lemmas/C09.lean`, `markerScan_nonneg`), so `Int.toNat` loses nothing. -/
def fromFileReal (B : Nat) (f : PyFile) (maxrange : Nat) : Py XorFile :=
  match iterNonceOffsets f none maxrange with             -- nonce_offsets = list(iter_nonce_offsets(fh, maxrange=maxrange))
  | .error e => .error e
  | .ok (nonceOffs, f1) =>
    match markerScan B f1 maxrange with                   -- eof_shellcode_offsets = [offset + 3 for offset in iter_find_needle(...)]
    | .error e => .error e
    | .ok (hits, f2) => tryCandidatesFull f2 (candidates (hits.map Int.toNat) nonceOffs)

end C09
